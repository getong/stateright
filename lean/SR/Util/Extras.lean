import SR.Util.DenseNatMap
import SR.Hash.Tok
import SR.Hash.Univ
/-
Models closing coverage gaps of the util containers (DESIGN §13c):

* the remaining operations of `DenseNatMap` (src/util/densenatmap.rs): `len`, `Default`, `Index`, `IndexMut`,
  owned `IntoIterator` / `iter`, `values`, `From<Vec<V>>`;
* the plan constructors `From<DenseNatMap<R, V>>` / `From<&DenseNatMap<R, V>>` (src/checker/rewrite_plan.rs);
* the hash-based `Ord` of `HashableHashSet` / `HashableHashMap` (src/util.rs): `calculate_hash` = std's
  `DefaultHasher` (SipHash-1-3, keys 0, 0) fed by the collection's `Hash` impl.

A `DenseNatMap<K, V>` is its `values: Vec<V>` (a `List V`), keys are `usize::from(k)`.
-/
namespace SR.DNM

/-- `DenseNatMap::len` -/
def len {V} (m : List V) : Nat := m.length

/-- `DenseNatMap::default()` = `new()` = `from(Vec::new())` -/
def default {V} : List V := []

/-- `From<Vec<V>>` -/
def fromVec {V} (vs : List V) : List V := vs

/-- `DenseNatMap::values` -/
def values {V} (m : List V) : List V := m

inductive IndexResult (V : Type) where
  /-- `Vec::index` out of range -/
  | panic
  | ok (v : V)
deriving DecidableEq, Repr

/-- `Index<K>::index`: `self.values.index(usize::from(key))` -/
def index {V} (m : List V) (k : Nat) : IndexResult V :=
  if h : k < m.length then .ok m[k] else .panic

/-- `*m.index_mut(k) = v` (the assignment `m[k] = v`); `none` = the out-of-range panic -/
def indexMut {V} (m : List V) (k : Nat) (v : V) : Option (List V) :=
  if k < m.length then some (m.set k v) else none

/-- `Enumerate` over the values starting at `i` -/
def enumFrom {V} : Nat → List V → List (Nat × V)
  | _, [] => []
  | i, v :: vs => (i, v) :: enumFrom (i + 1) vs

/-- owned `IntoIterator` (`IntoIter::next` = `enumerate().next()` with the key converted) and `iter` -/
def intoIter {V} (m : List V) : List (Nat × V) := enumFrom 0 m

/-! ### a small command language (the driver replays an operation sequence on the model) -/

inductive Op where
  | ins (k v : Nat)      -- `m.insert(k, v)`
  | set (k v : Nat)      -- `m[k] = v`
  | idx (k : Nat)        -- `m[k]`
  | get (k : Nat)        -- `m.get(k)`
  | len                  -- `m.len()`
deriving Repr

inductive Obs where
  | prev (p : Option Nat) | unit | val (v : Nat) | opt (o : Option Nat) | n (n : Nat)
deriving Repr, DecidableEq

/-- one operation: `none` = panic (the map is lost: the harness stops there) -/
def step (m : List Nat) : Op → Option (List Nat × Obs)
  | .ins k v => match insert m k v with
    | .panic => none
    | .ok m' p => some (m', .prev p)
  | .set k v => (indexMut m k v).map fun m' => (m', .unit)
  | .idx k => match index m k with
    | .panic => none
    | .ok v => some (m, .val v)
  | .get k => some (m, .opt (get m k))
  | .len => some (m, .n (len m))

/-- run a sequence; the observations up to the first panic, the final map (`none` = panicked) -/
def run : List Nat → List Op → List Obs × Option (List Nat)
  | m, [] => ([], some m)
  | m, op :: ops => match step m op with
    | none => ([], none)
    | some (m', o) => let r := run m' ops; (o :: r.1, r.2)

/-! ### plans from dense maps -/

/-- `RewritePlan::from(DenseNatMap<R, V>)` and `from(&DenseNatMap<R, V>)`: `from_values_to_sort(s.values())` -/
def planFromDNM {V} (le : V → V → Bool) (m : List V) : List Nat := planOf le (values m)

def natLe (a b : Nat) : Bool := decide (a ≤ b)

end SR.DNM

/-! ## SipHash-1-3 (std's `DefaultHasher::new()`: keys 0, 0) -/
namespace SR.Sip

structure St where
  v0 : UInt64
  v1 : UInt64
  v2 : UInt64
  v3 : UInt64

def rotl (x : UInt64) (n : UInt64) : UInt64 := (x <<< n) ||| (x >>> (64 - n))

def sipRound (s : St) : St :=
  let v0 := s.v0 + s.v1
  let v1 := rotl s.v1 13
  let v1 := v1 ^^^ v0
  let v0 := rotl v0 32
  let v2 := s.v2 + s.v3
  let v3 := rotl s.v3 16
  let v3 := v3 ^^^ v2
  let v0 := v0 + v3
  let v3 := rotl v3 21
  let v3 := v3 ^^^ v0
  let v2 := v2 + v1
  let v1 := rotl v1 17
  let v1 := v1 ^^^ v2
  let v2 := rotl v2 32
  { v0, v1, v2, v3 }

/-- the little-endian word of (at most 8) bytes -/
def word (bs : List Nat) : Nat := bs.foldr (fun b acc => acc * 256 + b % 256) 0

/-- one message word, c = 1 compression round -/
def compress (s : St) (m : UInt64) : St :=
  let s := { s with v3 := s.v3 ^^^ m }
  let s := sipRound s
  { s with v0 := s.v0 ^^^ m }

/-- absorb whole 8-byte words; the fuel is the byte count; returns the state and the tail (< 8 bytes) -/
def absorb : Nat → St → List Nat → St × List Nat
  | 0, s, bs => (s, bs)
  | fuel + 1, s, bs =>
    if bs.length < 8 then (s, bs)
    else absorb fuel (compress s (UInt64.ofNat (word (bs.take 8)))) (bs.drop 8)

def init (k0 k1 : UInt64) : St :=
  { v0 := k0 ^^^ 0x736f6d6570736575, v1 := k1 ^^^ 0x646f72616e646f6d,
    v2 := k0 ^^^ 0x6c7967656e657261, v3 := k1 ^^^ 0x7465646279746573 }

/-- `SipHasher13::new_with_keys(k0, k1)`, `write(bytes)`, `finish()` -/
def sip13 (k0 k1 : UInt64) (bytes : List Nat) : UInt64 :=
  let (s, tail) := absorb bytes.length (init k0 k1) bytes
  let b : UInt64 := (UInt64.ofNat (bytes.length % 256) <<< 56) ||| UInt64.ofNat (word tail)
  let s := compress s b
  let s := { s with v2 := s.v2 ^^^ 0xff }
  let s := sipRound (sipRound (sipRound s))
  s.v0 ^^^ s.v1 ^^^ s.v2 ^^^ s.v3

/-- `DefaultHasher::new()` then `finish()` over a byte stream -/
def defaultHash (bytes : List Nat) : Nat := (sip13 0 0 bytes).toNat

end SR.Sip

/-! ## the hash-based order of `HashableHashSet` / `HashableHashMap` -/
namespace SR.HOrd
open SR.Hash

/-- the byte stream `HashableHashSet/Map::hash` feeds to a hasher, from the inner (stable-hasher) hashes of the
elements in ITERATION order: `write_usize(len)`, then the sorted hashes by `write_u64`. -/
def stream (hs : List Nat) : List Nat := le 8 hs.length ++ (hs.mergeSort leB).flatMap (le 8)

/-- `calculate_hash(self)` -/
def key (hs : List Nat) : Nat := Sip.defaultHash (stream hs)

/-- `Ord::cmp`: `calculate_hash(self).cmp(&calculate_hash(other))` -/
def cmp (a b : List Nat) : Ordering := compare (key a) (key b)

/-- `PartialOrd::partial_cmp`: `calculate_hash(self).partial_cmp(&calculate_hash(other))` -/
def partialCmp (a b : List Nat) : Option Ordering := some (compare (key a) (key b))

/-! ### serde_json text of the collections with integer elements / keys (iteration order given) -/

/-- `HashSet<int>::serialize` → `serialize_seq`: a JSON array in iteration order -/
def jsonSet (xs : List Nat) : String := "[" ++ ",".intercalate (xs.map toString) ++ "]"

/-- `HashMap<int, int>::serialize` → `serialize_map`: a JSON object, integer keys as strings -/
def jsonMap (ps : List (Nat × Nat)) : String :=
  "{" ++ ",".intercalate (ps.map fun p => "\"" ++ toString p.1 ++ "\":" ++ toString p.2) ++ "}"

end SR.HOrd
