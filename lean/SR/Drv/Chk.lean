import SR.Drv.Loop
import SR.Checker.Sched
import SR.Checker.Spec
import SR.Checker.Sim
import SR.Checker.Verdict
import SR.Checker.Assert
import SR.Checker.SymOk
import SR.Checker.Fuel
/-! Driver commands of the checker group (C01, C02, C03, C11, C12, C13): `chk` runs the machine
scheduler; `o-chk <prop> ...` evaluates the declarative oracle of one property on implementation outputs. -/
namespace SR.Drv.Chk
open SR SR.Checker

inductive Finish where
  | all | any | anyF | allF
  | allOf (s : List Nat) | anyOf (s : List Nat)

def Finish.ofSExp? : SExp → Option Finish
  | .atom "all" => some .all
  | .atom "any" => some .any
  | .atom "anyf" => some .anyF
  | .atom "allf" => some .allF
  | .list (.atom "allof" :: xs) => (xs.mapM SExp.nat?).map .allOf
  | .list (.atom "anyof" :: xs) => (xs.mapM SExp.nat?).map .anyOf
  | _ => none

/-- `HasDiscoveries::matches` on property indices (names are distinct; an index ≥ #props is a foreign name) -/
def Finish.matches (f : Finish) (props : List GProp) (disc : List Nat) : Bool :=
  let failures := (List.range props.length).filter fun i => (props.getD i default).exp != .sometimes
  match f with
  | .all => disc.eraseDups.length == props.length
  | .any => !disc.isEmpty
  | .anyF => failures.any disc.contains
  | .allF => failures.all disc.contains
  | .allOf s => s.all disc.contains
  | .anyOf s => s.any disc.contains

structure Case where
  g : Graph
  props : List GProp
  cfg : Cfg
  finish : Finish

def parseCfg : SExp → Option (Cfg × Finish)
  | .list [.atom "cfg", d, t, f] => do
    let d ← SExp.optNat d
    let t ← SExp.optNat t
    let f ← Finish.ofSExp? f
    pure ({ maxDepth := d, target := t, timeout := false }, f)
  | _ => none
where SExp.optNat : SExp → Option (Option Nat)
  | .atom "none" => some none
  | e => e.nat?.map some

def Case.params (c : Case) : Params Nat Nat Nat :=
  { M := c.g.toSys, props := c.props.map GProp.toProp, key := id, cfg := c.cfg,
    finishMatches := fun d => c.finish.matches c.props d }

def natsStr (l : List Nat) : String := toString (SExp.ofNats l)

/-- the ad-hoc fuel formula the driver used at first; NOT sufficient in general (`C01_driver_fuelFor_insufficient`,
    Props/C01Fuel.lean) — kept only because that theorem is about it.  The driver runs with `Graph.fuel`
    (Checker/Fuel.lean; `fuelFor'` there is the same formula for a case), which is proved sufficient on every well-formed graph
    (Proofs/Checker/SchedTerm.lean). -/
def fuelFor (g : Graph) (props : List GProp) : Nat :=
  20 + (g.n + 2) * (8 + props.length * 2 + (g.adj.map List.length).foldl (· + ·) 0 + g.init.length) * 2

def showVerdict (P : Params Nat Nat Nat) (s : St Nat Nat) : String :=
  s!" (done {Drv.bstr (isDone P s)}) (assert {if assertPropertiesOk P s then "ok" else "panic"})"

def showSt (s : St Nat Nat) : String :=
  let visits := "(" ++ " ".intercalate (s.visits.reverse.map natsStr) ++ ")"
  let disc := s.disc.mergeSort (fun a b => a.1 ≤ b.1)
  let discS := "(" ++ " ".intercalate (disc.map fun (i, p) => s!"({i} {natsStr p})") ++ ")"
  s!"(visits {visits}) (uniq {s.gen.length}) (count {s.stateCount}) (depth {s.maxDepth}) (disc {discS})"

/-- the implementation's observation -/
structure Obs where
  visits : List (List Nat)
  uniq : Nat
  count : Nat
  depth : Nat
  disc : List (Nat × List Nat)

def Obs.ofSExp? : SExp → Option (Option Obs)
  | .list [.atom "panic"] => some none
  | .list (.list [.atom "visits", vs] :: .list [.atom "uniq", u] :: .list [.atom "count", c] :: .list [.atom "depth", d] ::
           .list [.atom "disc", ds] :: _) => do
    let vs ← vs.listOf? SExp.nats?
    let u ← u.nat?; let c ← c.nat?; let d ← d.nat?
    let ds ← ds.listOf? (SExp.pairOf? SExp.nat? SExp.nats?)
    pure (some { visits := vs, uniq := u, count := c, depth := d, disc := ds })
  | _ => none

def lastOf (p : List Nat) : Nat := p.getLast?.getD 0

/-- was the run free of every early-exit condition?  (decided from the configuration and the FINAL discoveries:
    all conditions are monotone in the discoveries) -/
def completeRun (c : Case) (o : Obs) : Bool :=
  c.cfg.maxDepth.isNone && c.cfg.target.isNone &&
  !(c.finish.matches c.props (o.disc.map (·.1))) && (o.disc.map (·.1)).eraseDups.length != c.props.length

def oracleC01 (c : Case) (o : Obs) : List String :=
  let g := c.g
  let reach := g.reachList
  let lasts := o.visits.map lastOf
  (if o.visits.all g.isPathB then [] else ["visited-path-not-a-real-in-boundary-path"]) ++
  (if lasts.all reach.contains then [] else ["evaluated-unreachable-state"]) ++
  (if g.initB.eraseDups.length == g.initB.length && lasts.eraseDups.length != lasts.length then ["state-evaluated-twice"] else []) ++
  (if o.uniq ≤ reach.length then [] else ["unique-count-exceeds-reachable"]) ++
  (if o.count ≥ o.uniq then [] else ["state-count-below-unique"]) ++
  (if completeRun c o then
     (if reach.all lasts.contains then [] else ["reachable-state-not-evaluated"]) ++
     (if o.uniq == reach.length then [] else ["unique-count-not-reachable-size"])
   else [])

/-- the path's last state repeats an earlier state of the path -/
def closesCycle (p : List Nat) : Bool :=
  match p.reverse with
  | [] => false
  | l :: rest => rest.contains l

def witnessOk (c : Case) (i : Nat) (p : List Nat) (sim : Bool := false) : List String :=
  let g := c.g
  match c.props[i]? with
  | none => ["discovery-for-unknown-property"]
  | some pr =>
    (if g.isPathB p then [] else ["discovery-path-not-a-real-in-boundary-path"]) ++
    (match pr.exp with
     | .always => if pr.tbl.getD (lastOf p) false then ["always-discovery-last-state-satisfies"] else []
     | .sometimes => if pr.tbl.getD (lastOf p) false then [] else ["sometimes-discovery-last-state-does-not-satisfy"]
     | .eventually =>
       (if p.any (fun s => pr.tbl.getD s false) then ["eventually-discovery-path-satisfies-condition"] else []) ++
       (if (g.succB (lastOf p)).isEmpty || (sim && closesCycle p) then [] else ["eventually-discovery-path-extensible-inside-boundary"]))

def oracleC03 (c : Case) (o : Obs) (sim : Bool := false) : List String :=
  o.disc.flatMap fun (i, p) => witnessOk c i p sim

def oracleC02 (c : Case) (o : Obs) : List String :=
  let reach := c.g.reachList
  let names := o.disc.map (·.1)
  -- "completed": no early exit, OR everything discovered (then every verdict is decided by its witness)
  if !(completeRun c o) then [] else
  (List.range c.props.length).flatMap fun i =>
    match c.props[i]? with
    | none => []
    | some pr =>
      match pr.exp with
      | .always =>
        let ex := reach.any fun s => !pr.tbl.getD s false
        if names.contains i == ex then [] else [s!"always-verdict-wrong-p{i}"]
      | .sometimes =>
        let ex := reach.any fun s => pr.tbl.getD s false
        if names.contains i == ex then [] else [s!"sometimes-verdict-wrong-p{i}"]
      | .eventually => []

def oracleC11 (c : Case) (o : Obs) (sim : Bool := false) : List String :=
  let names := o.disc.map (·.1)
  (List.range c.props.length).flatMap fun i =>
    match c.props[i]? with
    | none => []
    | some pr =>
      if pr.exp != .eventually then [] else
      let ex := c.g.canAvoidForever (fun s => pr.tbl.getD s false)
      (if names.contains i && !ex then [s!"eventually-false-alarm-p{i}"] else []) ++
      (if !sim && completeRun c o && c.g.isForest && ex && !names.contains i then [s!"eventually-missed-on-forest-p{i}"] else [])

def oracleC13 (c : Case) (strat : String) (o : Obs) : List String :=
  if strat != "bfs" then [] else
  let g := c.g
  let ds := o.visits.map fun p => p.length
  let rec nondecr : List Nat → Bool
    | a :: b :: r => a ≤ b && nondecr (b :: r)
    | _ => true
  (if nondecr ds then [] else ["bfs-visit-depths-decrease"]) ++
  (if o.visits.all (fun p => g.distOf (lastOf p) == some (p.length - 1)) then [] else ["bfs-visit-path-not-shortest"]) ++
  (o.disc.flatMap fun (i, p) =>
    match c.props[i]? with
    | none => []
    | some pr =>
      if pr.exp == .eventually then [] else
      let wit := fun s => if pr.exp == .always then !pr.tbl.getD s false else pr.tbl.getD s false
      let best := (g.reachList.filter wit).filterMap g.distOf |>.foldl (fun m d => min m d) (p.length)
      if p.length - 1 ≤ best then [] else [s!"bfs-discovery-not-shortest-p{i}"])

/-- single-threaded run-control oracle (C12): depth limit, target, early stop only if the condition holds -/
def oracleC12 (c : Case) (o : Obs) (strat : String := "") : List String :=
  (match c.cfg.maxDepth with
   | some d =>
     -- the exhaustive checkers stop one level before the limit, simulation evaluates paths of exactly `d` states:
     -- both "never deeper than target_max_depth"
     (if o.visits.all (fun p => if strat == "sim" then p.length ≤ d else p.length < d) then []
      else ["evaluated-state-deeper-than-max-depth"]) ++
     -- single-threaded BFS still evaluates every state nearer than the limit (no other stop reason)
     (if strat == "bfs" && c.cfg.target.isNone && !(c.finish.matches c.props (o.disc.map (·.1))) &&
         (o.disc.map (·.1)).eraseDups.length != c.props.length then
        let lasts := o.visits.map lastOf
        if c.g.reachList.all (fun t => match c.g.distOf t with
            | some k => decide (k + 1 < d) → lasts.contains t
            | none => true)
        then [] else ["bfs-missed-a-state-nearer-than-max-depth"]
      else [])
   | none => []) ++
  (match c.cfg.target with
   | some t => if o.count ≥ min t (c.g.reachList.length) || !(c.cfg.maxDepth.isNone) ||
                   c.finish.matches c.props (o.disc.map (·.1)) || (o.disc.map (·.1)).eraseDups.length == c.props.length
               then [] else ["generated-fewer-states-than-target-although-more-exist"]
   | none => [])

def handle : Drv.Handler
  | "chk", [.atom strat, g, ps, cfg] => do
    let g ← Graph.ofSExp? g
    let ps ← ps.listOf? GProp.ofSExp?
    let (cfg, fin) ← parseCfg cfg
    let c : Case := { g, props := ps, cfg, finish := fin }
    if !decide g.WF then pure "ill-formed-graph" else
    let d := if strat == "dfs" then Discipline.dfs else if strat == "bfs" then Discipline.bfs else Discipline.ondemand
    let s := runSingle c.params d (g.fuel ps.length)
    pure (showSt s ++ showVerdict c.params s)
  -- the provided helpers of the `Checker` trait after a single-threaded run: per property
  -- `(i classification assert_any assert_no assert_discovery(own actions) assert_discovery(given actions))`
  | "helpers", [.atom strat, g, ps, cfg, given] => do
    let g ← Graph.ofSExp? g
    let ps ← ps.listOf? GProp.ofSExp?
    let (cfg, fin) ← parseCfg cfg
    let given ← given.listOf? SExp.nats?
    let c : Case := { g, props := ps, cfg, finish := fin }
    let d := if strat == "dfs" then Discipline.dfs else if strat == "bfs" then Discipline.bfs else Discipline.ondemand
    let P := c.params
    -- `fresh` = an on-demand checker that was never told to do anything: the state right after spawn
    let s := if strat == "fresh" then Checker.init P.M P.props P.key else runSingle P d (g.fuel ps.length)
    let M := g.toSys
    -- `discoveries()` rebuilds each stored fingerprint path with `Path::from_fingerprints` (states are their own keys)
    let view : Assert.View Nat Nat :=
      { done := isDone P s, disc := s.disc.filterMap fun (i, p) => (PathApi.fromFingerprints M id p).map fun q => (i, q) }
    let b := fun (x : Bool) => if x then "ok" else "panic"
    let rows := (List.range ps.length).map fun i =>
      let cls := match Assert.classification P.props i with
        | some .example => "example" | some .counterexample => "counterexample" | none => "panic"
      let own := match view.discovery i with
        | some q => b (Assert.assertDiscoveryOk M P.props view i (PathApi.intoActions q))
        | none => "none"
      let giv := b (Assert.assertDiscoveryOk M P.props view i (given.getD i []))
      s!"({i} {cls} {b (Assert.assertAnyOk view i)} {b (Assert.assertNoOk view i)} {own} {giv})"
    pure ("(" ++ " ".intercalate rows ++ s!") (assert {b (Assert.assertPropertiesOk P.props view)})")
  | "sim", [g, ps, cfg, ans] => do
    let g ← Graph.ofSExp? g
    let ps ← ps.listOf? GProp.ofSExp?
    let (cfg, fin) ← parseCfg cfg
    let ans ← ans.nats?
    let c : Case := { g, props := ps, cfg, finish := fin }
    if !decide g.WF then pure "ill-formed-graph" else
    let r := Sim.runTraces c.params (g.n + 3) (ans.length + 20) ans {}
    -- fuel g.n + 3 per trace is sufficient on a well-formed graph (C03_sim_fuel_sufficient); the number of traces is enough
    -- whenever the run stops within it (C03_sim_trace_budget_stable) — otherwise say so instead of answering a truncated run
    if !Sim.stops c.params r then pure "trace-budget-exhausted" else
    let s : St Nat Nat := { gen := [], frontier := [], active := [], done := [], disc := r.disc, stateCount := r.stateCount,
                            maxDepth := r.maxDepth, visits := r.visits, early := false, stopped := false }
    -- unique_state_count of the simulation checker is its state_count
    pure ((showSt s).replace "(uniq 0)" s!"(uniq {r.stateCount})")
  -- simulation with symmetry: the per-trace seen-set holds the keys of the REPRESENTATIVES
  | "sim-sym", [g, ps, cfg, rep, ans] => do
    let g ← Graph.ofSExp? g
    let ps ← ps.listOf? GProp.ofSExp?
    let (cfg, fin) ← parseCfg cfg
    let rep ← rep.nats?
    let ans ← ans.nats?
    let c : Case := { g, props := ps, cfg, finish := fin }
    let P : Params Nat Nat Nat := { c.params with key := fun s => rep.getD s s }
    if !decide g.WF then pure "ill-formed-graph" else
    let r := Sim.runTraces P (g.n + 3) (ans.length + 20) ans {}
    if !Sim.stops P r then pure "trace-budget-exhausted" else
    let s : St Nat Nat := { gen := [], frontier := [], active := [], done := [], disc := r.disc, stateCount := r.stateCount,
                            maxDepth := r.maxDepth, visits := r.visits, early := false, stopped := false }
    pure ((showSt s).replace "(uniq 0)" s!"(uniq {r.stateCount})")
  -- DFS with symmetry reduction: `rep` maps every state to its representative; key = rep
  | "chk-sym", [g, ps, cfg, rep] => do
    let g ← Graph.ofSExp? g
    let ps ← ps.listOf? GProp.ofSExp?
    let (cfg, fin) ← parseCfg cfg
    let rep ← rep.nats?
    let c : Case := { g, props := ps, cfg, finish := fin }
    let P : Params Nat Nat Nat := { c.params with key := fun s => rep.getD s s }
    let st := runSingle P .dfs (g.fuel ps.length)
    pure (showSt st ++ showVerdict P st)
  | "o-chk-sym", [g, ps, cfg, rep, obs] => do
    let g ← Graph.ofSExp? g
    let ps ← ps.listOf? GProp.ofSExp?
    let (cfg, fin) ← parseCfg cfg
    let rep ← rep.nats?
    let c : Case := { g, props := ps, cfg, finish := fin }
    -- the oracle functions are adequate on well-formed graphs (Props/OracleAdequacy: reachList = Reach without any fixpoint
    -- hypothesis, distOf = shortest-path length, canAvoidForever = a maximal avoiding path or lasso exists, isForest)
    if !decide g.WF then pure "ill-formed-graph" else
    -- the theorems behind the guarded lines (C10_complete_run_sym) assume that `rep` induces a simulation with invariant
    -- conditions; `symOk` decides exactly that (C10_oracle_symOk_iff).  A refusal means the HARNESS left the hypotheses.
    if !symOk g rep (ps.map (·.tbl)) then pure "rep-not-a-symmetry" else
    if !((g.closeStep g.reachList).all g.reachList.contains) then pure "oracle-closure-not-stabilised" else
    match ← Obs.ofSExp? obs with
    | none => pure "implementation-panicked"
    | some o =>
      let r := fun s => rep.getD s s
      let reach := g.reachList
      let lasts := o.visits.map lastOf
      let initReps := g.initB.map r
      let errs :=
        (if o.visits.all g.isPathB then [] else ["visited-path-not-a-real-path-of-the-original-model"]) ++
        oracleC03 c o ++
        (if lasts.length ≤ reach.length then [] else ["more-states-evaluated-than-reachable"]) ++
        (if initReps.eraseDups.length == initReps.length && (lasts.map r).eraseDups.length != lasts.length
           then ["two-evaluated-states-in-one-symmetry-class-key"] else []) ++
        (if completeRun c o then
           (if reach.all (fun t => lasts.any (fun v => r v == r t)) then [] else ["symmetry-class-without-evaluated-state"]) ++
           oracleC02 c o
         else [])
      pure (if errs.isEmpty then "ok" else " ".intercalate errs)
  | "o-chk", [.atom prop, .atom strat, g, ps, cfg, obs] => do
    let g ← Graph.ofSExp? g
    let ps ← ps.listOf? GProp.ofSExp?
    let (cfg, fin) ← parseCfg cfg
    let c : Case := { g, props := ps, cfg, finish := fin }
    -- adequacy of the oracle functions needs a well-formed graph (Props/OracleAdequacy); the fixpoint test is then redundant
    -- (C13_oracle_reach_stabilises) and kept as a tripwire
    if !decide g.WF then pure "ill-formed-graph" else
    if !((g.closeStep g.reachList).all g.reachList.contains) then pure "oracle-closure-not-stabilised" else
    match ← Obs.ofSExp? obs with
    | none => pure "implementation-panicked"
    | some o =>
      let sim := strat == "sim"
      let errs := match prop with
        | "c01" => if sim then [] else oracleC01 c o
        | "c02" => if sim then [] else oracleC02 c o
        | "c03" => oracleC03 c o sim
        | "c11" => oracleC11 c o sim ++ oracleC03 c o sim
        | "c12" => if sim then (oracleC12 { c with cfg := { c.cfg with target := none } } o "sim") else oracleC12 c o strat
        | "c13" => oracleC13 c strat o
        | _ => ["unknown-property"]
      pure (if errs.isEmpty then "ok" else " ".intercalate errs)
  | _, _ => none

end SR.Drv.Chk
