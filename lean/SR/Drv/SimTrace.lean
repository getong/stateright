import SR.Drv.Chk
import SR.Checker.MSim
/-!
Driver command `tvsim`: TRACE VALIDATION of a real multi-threaded `spawn_simulation` run against the machine of
`Checker/MSim.lean`.

The harness (`harness/src/bin/tvsim.rs`) runs the simulation checker with 1–4 threads with the trace hooks on (`TR_SIM_*`
of src/verif.rs; while tracing, every read of the shared `discoveries` map / `state_count` that decides something and
every write to them is serialised with its entry, so the order of the entries is the order of the operations).  This
command replays the entries as steps of the machine: every entry must be an ENABLED step whose observable outcome is
the recorded one (which way the top of the loop went, whether the read of the shared map found a discovery, whether the
evaluation inserted one, which successor was chosen / that none was left, which bits the recording loop found set, why
the worker left), the steps without an entry (`finishProps` when something is awaited, recording-loop iterations that
insert nothing) are filled in, and at the end every worker must be gone.  The answer is the machine's final count and
shared map, to be compared with what the checker reports.

`tvsim <k> <graph> <props> (cfg <depth> <target> <finish> [<timeout t|f>]) <rep or none> (<w> <kind> <a> <b>)*`
(worker 99999 = a thread that is not a worker)
-/
namespace SR.Drv.SimTrace
open SR SR.Checker SR.Checker.MSim SR.Drv.Chk

structure Ev where
  w : Nat
  kind : Nat
  a : Nat
  b : Nat

def Ev.ofSExp? : SExp → Option Ev
  | .list [w, k, a, b] => do pure { w := ← w.nat?, kind := ← k.nat?, a := ← a.nat?, b := ← b.nat? }
  | _ => none

abbrev R := Except String
abbrev S := MSim.St Nat Nat

variable (P : Params Nat Nat Nat)

def stepE (x : S) (f : Step Nat) : R S :=
  match MSim.step P f x with
  | some x' => pure x'
  | none => throw s!"step not enabled in the model: {repr f}"

def trOf (x : S) (w : Nat) : Option (Tr Nat Nat) :=
  match x.ws[w]? with
  | some (.busy t) => some t
  | _ => none

def phStr : Ph → String
  | .top => "top-of-loop"
  | .props i => s!"property-loop-at-{i}"
  | .decide i => s!"evaluating-{i}"
  | .choose => "choosing-a-successor"
  | .record i => s!"recording-loop-at-{i}"

def wStr (x : S) (w : Nat) : String :=
  match x.ws[w]? with
  | some .idle => "between-traces"
  | some (.busy t) => phStr t.ph
  | some .ended => "trace-ended"
  | some .left => "gone"
  | none => "no-such-worker"

/-- the steps of worker `w` that have no entry: fill them in -/
def fill (x : S) (w : Nat) : Nat → R S
  | 0 => pure x
  | fuel + 1 =>
    match trOf x w with
    | none => pure x
    | some t =>
      match t.ph with
      | .props i =>
        if i < P.props.length ∨ !t.awaiting then pure x
        else do let x' ← stepE P x (.finishProps w); fill x' w fuel
      | .record i =>
        if i < P.props.length ∧ i ∉ t.ebits then do let x' ← stepE P x (.recordOne w i); fill x' w fuel
        else pure x
      | _ => pure x

def fuelOf : Nat := P.props.length + 3

/-- the step of a worker inside a trace, with the effect the model computes for it -/
def busyE (x : S) (f : Step Nat) : R (Eff Nat Nat × S) :=
  match effOf P f x with
  | none => throw s!"step not enabled in the model: {repr f} (worker is {wStr x f.worker})"
  | some e => do let x' ← stepE P x f; pure (e, x')

def isEnded (x : S) (w : Nat) : Bool :=
  match x.ws[w]? with
  | some .ended => true
  | _ => false

/-- `if c then throw (msg ()) else k` -/
def check (c : Bool) (msg : Unit → String) (k : R S) : R S := if c then throw (msg ()) else k

def oneStart (x : S) (e : Ev) : R S := stepE P x (.start e.w e.a)

/-- `TR_SIM_ENTER` and the `TR_SIM_END` entries 1 (loop found), 3 (depth limit), 4 (outside the boundary): the four ways
    through the top of the loop -/
def oneEnter (x : S) (e : Ev) (want : EnterOut) : R S :=
  match trOf x e.w with
  | none => throw s!"top of the trace loop, but worker {e.w} is {wStr x e.w} in the model"
  | some t =>
    let got := enterOut P t
    let len := if want == .counted || want == .loop then t.path.length + 1 else t.path.length
    check (t.ph != .top) (fun _ => s!"top of the trace loop, but worker {e.w} is {wStr x e.w} in the model") <|
    check (got != want) (fun _ => s!"top of the trace loop at state {t.cur}: model {repr got}, implementation {repr want}") <|
    check (want == .counted && t.cur != e.a) (fun _ => s!"state entered: model {t.cur}, implementation {e.a}") <|
    check (len != e.b) (fun _ => s!"path length: model {len}, implementation {e.b}") <|
    stepE P x (.enter e.w)

/-- `TR_PROP i 0` (read: discovered) and `TR_SIM_MISS i` (read: not discovered) -/
def oneRead (x : S) (e : Ev) (hit : Bool) : R S :=
  let known := hasDisc x.disc e.a
  check (known != hit) (fun _ => s!"property {e.a}: the shared map {if known then "has a" else "has no"} discovery in the model, the implementation read the opposite") <|
  stepE P x (.evalProp e.w e.a)

/-- `TR_PROP i 1` (evaluated, discovery inserted) and `TR_PROP i 2` (evaluated, nothing inserted) -/
def oneApply (x : S) (e : Ev) (inserted : Bool) : R S :=
  match busyE P x (.applyProp e.w e.a) with
  | .error m => .error m
  | .ok (eff, x') =>
    check (eff.ins.isSome != inserted) (fun _ => s!"property {e.a}: discovery inserted in the model = {eff.ins.isSome}, in the implementation = {inserted}") <|
    pure x'

def oneEndProps (x : S) (e : Ev) : R S :=
  match stepE P x (.finishProps e.w) with
  | .error m => .error m
  | .ok x' =>
    check (!isEnded x' e.w) (fun _ => "the trace ended for `everything discovered`, in the model something is still awaited") <|
    pure x'

def oneNext (x : S) (e : Ev) : R S :=
  match fill P x e.w (fuelOf P) with
  | .error m => .error m
  | .ok x => stepE P x (.advance e.w (some e.a))

def oneTerminal (x : S) (e : Ev) : R S :=
  match fill P x e.w (fuelOf P) with
  | .error m => .error m
  | .ok x =>
    match trOf x e.w with
    | some t =>
      check (t.path.length != e.b) (fun _ => s!"path length: model {t.path.length}, implementation {e.b}") <|
      stepE P x (.advance e.w none)
    | none => throw s!"no action left, but worker {e.w} is {wStr x e.w} in the model"

def oneRecord (x : S) (e : Ev) : R S :=
  match fill P x e.w (fuelOf P) with
  | .error m => .error m
  | .ok x =>
    match busyE P x (.recordOne e.w e.a) with
    | .error m => .error m
    | .ok (eff, x') =>
      check eff.ins.isNone (fun _ => s!"recording loop: the implementation inserts property {e.a}, its bit is not set in the model") <|
      pure x'

def oneDone (x : S) (e : Ev) : R S :=
  match fill P x e.w (fuelOf P) with
  | .error m => .error m
  | .ok x => stepE P x (.endTrace e.w)

def oneCut (x : S) (e : Ev) : R S :=
  match trOf x e.w with
  | some t =>
    check (t.path.length != e.b) (fun _ => s!"path length: model {t.path.length}, implementation {e.b}") <|
    stepE P x (.cut e.w)
  | none => throw s!"shutdown seen inside a trace, but worker {e.w} is {wStr x e.w} in the model"

def one (x : S) (e : Ev) : R S :=
  match e.kind with
  | 40 => oneStart P x e
  | 41 => oneEnter P x e .counted
  | 42 => oneRead P x e false
  | 21 =>
    match e.b with
    | 0 => oneRead P x e true
    | 1 => oneApply P x e true
    | 2 => oneApply P x e false
    | _ => throw "unknown property outcome"
  | 43 => oneNext P x e
  | 44 =>
    match e.a with
    | 1 => oneEnter P x e .loop
    | 2 => oneTerminal P x e
    | 3 => oneEnter P x e .depth
    | 4 => oneEnter P x e .outside
    | 5 => oneEndProps P x e
    | 6 => oneCut P x e
    | _ => throw "unknown end-of-trace reason"
  | 23 => oneRecord P x e
  | 45 => oneDone P x e
  | 46 =>
    match e.a with
    | 1 => stepE P x (.leave e.w .finish)
    | 2 => stepE P x (.leave e.w .target)
    | 3 => stepE P x (.leave e.w .shutdown)
    | _ => throw "unknown reason to leave"
  | 47 => stepE P x (.cont e.w)
  | 48 => if e.a == 0 then stepE P x .timeout else stepE P x (.panic e.w)
  | _ => throw s!"unknown entry kind {e.kind}"

def replay : S → Nat → List Ev → R S
  | x, _, [] => pure x
  | x, i, e :: es =>
    match one P x e with
    | .ok x' => replay x' (i + 1) es
    | .error msg => throw s!"entry {i} (worker {e.w} kind {e.kind} {e.a} {e.b}): {msg}"

/-- `(cfg depth target finish)` as in the other checker commands, with an optional fourth field: a timeout is configured -/
def parseCfgT : SExp → Option (Cfg × Finish)
  | .list [c, d, t, f] => parseCfg (.list [c, d, t, f])
  | .list [c, d, t, f, to] => do
    let (cfg, fin) ← parseCfg (.list [c, d, t, f])
    let to ← to.bool?
    pure ({ cfg with timeout := to }, fin)
  | _ => none

def showResult (x : S) : String :=
  let disc := x.disc.mergeSort (fun a b => a.1 ≤ b.1)
  let discS := "(" ++ " ".intercalate (disc.map fun (i, p) => s!"({i} {natsStr p})") ++ ")"
  s!"(count {x.stateCount}) (disc {discS})"

def handle : Drv.Handler
  | "tvsim", (k :: g :: ps :: cfg :: rep :: evs) => do
    let k ← k.nat?
    let g ← Graph.ofSExp? g
    let ps ← ps.listOf? GProp.ofSExp?
    let (cfg, fin) ← parseCfgT cfg
    let rep ← match rep with
      | .atom "none" => some none
      | r => r.nats?.map some
    let evs ← evs.mapM Ev.ofSExp?
    let c : Case := { g, props := ps, cfg, finish := fin }
    let P : Params Nat Nat Nat := match rep with
      | none => c.params
      | some rep => { c.params with key := fun s => rep.getD s s }
    match replay P (MSim.init k) 0 evs with
    | .error msg => pure s!"mismatch {msg}"
    | .ok x =>
      if !allLeft x then
        let still := (List.range k).filter fun w => match x.ws[w]? with | some .left => false | _ => true
        pure s!"mismatch the trace is over, workers {still} have not left in the model"
      else pure (showResult x)
  | _, _ => none

end SR.Drv.SimTrace
