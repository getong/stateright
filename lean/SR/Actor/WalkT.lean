import SR.Actor.Codec
/-!
The total walk the drivers run (`graph` of C06; `reach`, `o-reach` of C09) in place of `walk` (SR/Actor/Codec.lean): the
visited set is kept by structural equality of states, with a fingerprint beside every discovered state as a cache, and a
fuel argument makes the loop total.  `Proofs/ReachRef.lean` proves it against the reachable set.
-/
namespace SR.ReachRef
open SR SR.Actor SR.Actor.Codec

variable {σ η : Type}

/-- what `walk` returns, without the hash index -/
structure WalkR (σ η : Type) where
  states : Array (St σ η)                     -- discovery order
  records : Array (List (Action × String))    -- per expanded state: sorted actions with `-`, `!` or successor index
deriving DecidableEq

variable [DecidableEq σ] [DecidableEq η]

/-! `walkK fp` keeps a fingerprint `fp s` beside every discovered state and compares states only where the fingerprints
agree: a cache for speed; nothing is assumed of `fp` (`walkK_eq`). -/
section keyed
variable {κ : Type} [DecidableEq κ]

def scanK {α : Type} [DecidableEq α] (xs : Array α) (ks : Array κ) (a : α) (k : κ) : Nat → Nat → Option Nat
  | 0, _ => none
  | n + 1, i =>
    if h : i < ks.size then
      if ks[i] = k then (if xs[i]? = some a then some i else scanK xs ks a k n (i + 1))
      else scanK xs ks a k n (i + 1)
    else none

def visitK (sys : ActorSys σ η) (fp : St σ η → κ) (st : St σ η)
    (acc : Array (St σ η) × Array κ × List (Action × String)) (a : Action) :
    Array (St σ η) × Array κ × List (Action × String) :=
  match step sys st a with
  | .panic => (acc.1, acc.2.1, (a, "!") :: acc.2.2)
  | .ignored => (acc.1, acc.2.1, (a, "-") :: acc.2.2)
  | .next s' =>
    match scanK acc.1 acc.2.1 s' (fp s') acc.1.size 0 with
    | some j => (acc.1, acc.2.1, (a, toString j) :: acc.2.2)
    | none => (acc.1.push s', acc.2.1.push (fp s'), (a, toString acc.1.size) :: acc.2.2)

def loopK (sys : ActorSys σ η) (fp : St σ η → κ) (bound : Nat) : Nat → WalkR σ η → Array κ → Option (WalkR σ η)
  | 0, _, _ => none
  | fuel + 1, w, ks =>
    if w.records.size ≥ bound then some w else
    match w.states[w.records.size]? with
    | none => some w
    | some st =>
      let r := (sortActions (actions sys st)).foldl (visitK sys fp st) (w.states, ks, [])
      loopK sys fp bound fuel { states := r.1, records := w.records.push r.2.2.reverse } r.2.1

def walkK (fp : St σ η → κ) (fuel : Nat) (sys : ActorSys σ η) (bound : Nat) : Option (WalkR σ η) :=
  match init sys with
  | none => none
  | some st0 => loopK sys fp bound fuel { states := #[st0], records := #[] } #[fp st0]

end keyed

/-- **drop-in for `walk`** (SR/Actor/Codec.lean): fuel `bound + 1` (never exhausted: `C09_oracle_walk_total`), result
    in the structure the drivers read (`.states`, `.records`, `ofWalk`); the hash index is not kept (no driver reads
    it); fingerprint = hash of the canonical text (only a cache: `walkK_eq`) -/
def walkT (sys : USys) (bound : Nat) : Option Walk :=
  (walkK (fun s => hash (toString (ofSt s))) (bound + 1) sys bound).map fun w =>
    { states := w.states, index := Std.HashMap.emptyWithCapacity 0, records := w.records }

end SR.ReachRef
