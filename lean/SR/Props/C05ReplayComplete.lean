import SR.Checker.FullSched
import SR.Props.C01
import SR.Proofs.Checker.ReplayCompleteSim
import SR.Proofs.Checker.ReplayComplete
import SR.Props.C03MSim
/-!
# C03 / C05 — completeness of the trace validators `tvsim` and `tv`

The validators replay the event log of a real multi-threaded run over the model machine and report a VIOLATION when an
entry is not an enabled step with the recorded outcome.  Soundness is `C03_msim_trace_validation_sound` and
`C05_trace_validation_sound`; here the converse: a rejection is never the validator's fault — every run of the machine, logged the
way the hooks log it, is accepted.
-/
namespace SR.CReplayComplete
open SR SR.Checker SR.Checker.MSim

section tvsim
open SR.Drv.SimTrace SR.ReplayComplete.Sim

variable (P : Params Nat Nat Nat)

/-- **Completeness of `tvsim`, any moment of any run.**  For EVERY step list `fs` (every interleaving, chooser, timeout,
    panic; steps that are not enabled are skipped as in `MSim.run`), the log `record` of the run is accepted, and the
    state the replay ends in is the machine's state `MSim.run P k fs` up to the steps that have no log entry
    (`finishProps` of a trace that awaits something, recording-loop iterations whose bit is not set), which the replay
    performs only when the worker's next entry arrives: `Lag`. -/
theorem C03_msim_trace_validation_complete (k : Nat) (fs : List (Step Nat)) :
    ∃ x, replay P (MSim.init k) 0 (record P (MSim.init k) fs) = .ok x ∧ Lag P x (MSim.run P k fs) :=
  replay_complete fs _ _ 0 (lag_refl _)

theorem C03_msim_trace_validation_complete_from (s : S) (i : Nat) (fs : List (Step Nat)) :
    ∃ x, replay P s i (record P s fs) = .ok x ∧ Lag P x (MSim.runFrom P s fs) :=
  replay_complete fs _ _ i (lag_refl _)

/-- `Lag` is equality of the shared map, the count and the flag; the workers differ only inside a trace, by steps
    without an entry -/
theorem C03_msim_lag_shared {x s : S} (h : Lag P x s) :
    x.disc = s.disc ∧ x.stateCount = s.stateCount ∧ x.shutdown = s.shutdown ∧ x.ws.length = s.ws.length ∧
    ∀ w : Nat, (∀ t, s.ws[w]? ≠ some (WSt.busy t)) → x.ws[w]? = s.ws[w]? :=
  ⟨h.disc, h.cnt, h.sd, lag_length h, fun _ hw => lag_ws_eq h fun t ht => (hw t ht).elim⟩

/-- **Completeness of `tvsim`, complete runs.**  If at the end of the run every worker has left (the driver rejects a
    trace otherwise: "workers … have not left in the model"), the replay of the log ends EXACTLY in the final state of
    the run: the count and the discoveries `tvsim` answers with are the machine's. -/
theorem C03_msim_trace_validation_complete_final (k : Nat) (fs : List (Step Nat))
    (hleft : allLeft (MSim.run P k fs) = true) :
    replay P (MSim.init k) 0 (record P (MSim.init k) fs) = .ok (MSim.run P k fs) :=
  replay_complete_settled fs 0 (lag_refl _) (settled_of_allLeft hleft)

/-- more generally whenever no worker is in its choice loop or its recording loop -/
theorem C03_msim_trace_validation_complete_settled (k : Nat) (fs : List (Step Nat))
    (hs : Settled (MSim.run P k fs)) :
    replay P (MSim.init k) 0 (record P (MSim.init k) fs) = .ok (MSim.run P k fs) :=
  replay_complete_settled fs 0 (lag_refl _) hs

/-- **`tvsim` is exact.**  The final states (all workers gone) that the validator can accept are exactly the final
    states of the runs of the machine. -/
theorem C03_msim_trace_validation_exact (k : Nat) (x : S) (hleft : allLeft x = true) :
    (∃ es, replay P (MSim.init k) 0 es = .ok x) ↔ ∃ fs : List (Step Nat), x = MSim.run P k fs := by
  constructor
  · rintro ⟨es, h⟩
    exact C03.C03_msim_trace_validation_sound P k es x h
  · rintro ⟨fs, rfl⟩
    exact ⟨_, C03_msim_trace_validation_complete_final P k fs hleft⟩

/-! Non-vacuity: the two racing runs and the cut run of `Props/C03MSim.lean` (every step enabled, all workers gone). -/

def accepts (P : Params Nat Nat Nat) (k : Nat) (fs : List (Step Nat)) : Bool :=
  match replay P (MSim.init k) 0 (record P (MSim.init k) fs) with
  | .ok x => allLeft x && x.disc == (MSim.run P k fs).disc && x.stateCount == (MSim.run P k fs).stateCount
  | .error _ => false

example : accepts C03.raceParams 2 C03.raceBoth = true ∧ accepts C03.raceParams 2 C03.raceSkip = true := by decide

/-- 22 steps, 20 entries: the two `finishProps` of a trace that awaits something have none -/
example : C03.raceBoth.length = 22 ∧ (record C03.raceParams (MSim.init 2) C03.raceBoth).length = 20 := by decide

example : accepts C03.cutParams 1 (C03.cutHead ++ [.timeout, .cut 0, .cont 0, .leave 0 .shutdown]) = true := by decide

/-- the recording loop: one entry (kind 23) for the set bit -/
example : accepts C03.cutParams 1 (C03.cutHead ++ [.enter 0, .evalProp 0 0, .applyProp 0 0, .finishProps 0,
    .advance 0 none, .recordOne 0 0, .endTrace 0, .leave 0 .finish]) = true := by decide

/-- `Lag` cannot be replaced by equality at an arbitrary moment: right after a `finishProps` without entry the machine's
    worker is in its choice loop, the replay's still at the end of the property loop -/
example :
    let fs : List (Step Nat) := [.start 0 0, .enter 0, .evalProp 0 0, .applyProp 0 0, .finishProps 0]
    (match (MSim.run C03.cutParams 1 fs).ws[0]? with | some (WSt.busy t) => t.ph == .choose | _ => false) = true ∧
    (match replay C03.cutParams (MSim.init 1) 0 (record C03.cutParams (MSim.init 1) fs) with
      | .ok x => (match x.ws[0]? with | some (WSt.busy t) => t.ph == .props 1 | _ => false)
      | .error _ => false) = true := by decide

end tvsim


section tv
open SR.Market SR.Full SR.Drv.Full SR.ReplayComplete.Full

variable (P : Params Nat Nat Nat)

/-- the state `tv` starts its replay in (after the entry of the owner's push of the initial jobs) -/
def tv0 (k : Nat) : TV := { x := finit P k, reason := [], pieces := [] }

/-- **Completeness of `tv` for `spawn_bfs` / `spawn_dfs` traces.**  For EVERY step list `fs` of the product
    `Checker/Full.lean` (every interleaving of `k` workers, every resolution of `notify_one`, spurious wake-ups, stops,
    panics, the timeout; steps that are not enabled are skipped) that follows the queue discipline of the code
    (`disciplined`: `pop_back`, a new job gets the next token and goes to the front (bfs) / back (dfs) of the own deque, no
    `discard` step, no worker leaves for the timeout — the product itself allows any discipline), the log `record` of the run
    — what the hooks of job_market.rs and bfs.rs / dfs.rs write, one entry per critical section / operation on the shared
    maps, none for `finishProps`, retiring and no-op iterations of the terminal-state loop — is ACCEPTED by the replay, and
    the replay ends in a state `Rel`-ated to the final state of the run: the same market up to the notification flags of
    waiting workers (which of them `notify_one` woke is not in the log), the same `generated`, pending jobs, discoveries,
    counts, and every worker's current job moved on to its next logged step (the replay performs the steps without entry
    eagerly).  `notw ≥ k` is the index the harness gives to threads that are not workers (99999). -/
theorem C05_trace_validation_complete (mode : Mode) (hm : mode ≠ .ondemand) (k notw : Nat) (hk : k ≤ notw)
    (fs : List FStep) (hd : disciplined P (mode == .dfs) (finit P k) fs = true) :
    ∃ tv, replay P k mode (tv0 P k) 1 (record P notw (finit P k) fs) = .ok tv ∧ Rel P tv.x (frun P k fs).1 := by
  obtain ⟨tv, h1, h2⟩ := replay_complete hk hm fs (tv0 P k) (finit P k) 1 (trel_init k) (book_init k) hd
  exact ⟨tv, h1, h2.rel⟩

theorem C05_trace_validation_complete_bfs (k notw : Nat) (hk : k ≤ notw) (fs : List FStep)
    (hd : disciplined P false (finit P k) fs = true) :
    ∃ tv, replay P k .bfs (tv0 P k) 1 (record P notw (finit P k) fs) = .ok tv ∧ Rel P tv.x (frun P k fs).1 :=
  C05_trace_validation_complete P .bfs (by decide) k notw hk fs hd

theorem C05_trace_validation_complete_dfs (k notw : Nat) (hk : k ≤ notw) (fs : List FStep)
    (hd : disciplined P true (finit P k) fs = true) :
    ∃ tv, replay P k .dfs (tv0 P k) 1 (record P notw (finit P k) fs) = .ok tv ∧ Rel P tv.x (frun P k fs).1 :=
  C05_trace_validation_complete P .dfs (by decide) k notw hk fs hd

/-- **Completeness of `tv`, bookkeeping entries where the hooks write them.**  In a real log the `TR_SPLIT_PIECE` entries of a
    `split_and_push` come before its `TR_SPLIT` entry and the `TR_STOP` entry of a worker before its `TR_DROP` entry, with
    entries of OTHER threads possibly in between (`check_block` does not hold the market mutex).  So: for every
    interleaving `is` of steps of the product (each logged at its last entry, `coreEntries`) with `piece` / `stopping`
    items (`TR_SPLIT_PIECE` / `TR_STOP`) such that (`itemsOk`) the steps follow the queue discipline, the sizes announced
    since the last `TR_SPLIT` are those of the batches a `split` publishes, and the last reason announced by a worker
    that leaves is the one it leaves for (1 `finish_when`, 2 target, 3 / 4 market closed / nothing popped, none or 5
    (control channel closed) for a panic) — the log is accepted and the replay ends `Rel`-ated to the state the steps lead to, which is the run
    `frun P k (itemSteps is)`.  `C05_trace_validation_complete` is the case where the bookkeeping entries of a step
    immediately precede its last entry. -/
theorem C05_trace_validation_complete_interleaved (mode : Mode) (hm : mode ≠ .ondemand) (k notw : Nat) (hk : k ≤ notw)
    (is : List Item) (hok : itemsOk P (mode == .dfs) [] [] (finit P k) is = true) :
    ∃ tv, replay P k mode (tv0 P k) 1 (itemLog P notw (finit P k) is) = .ok tv ∧
      Rel P tv.x (frun P k (itemSteps is)).1 := by
  obtain ⟨tv, h1, h2⟩ := items_complete hk hm is (tv0 P k) (finit P k) 1 (trel_init k) hok
  exact ⟨tv, h1, h2.rel⟩

/-- what `Rel` means for everything `tv` prints and the check compares: `uniq` (`generated`), `count`, the discoveries,
    `pending`, "all threads exited" are those of the run; `busy` is at most the run's (the replay has retired the workers
    whose job is over) -/
theorem C05_replay_rel_observables {x s : FState Nat Nat} (h : Rel P x s) :
    x.c.gen = s.c.gen ∧ x.c.stateCount = s.c.stateCount ∧ x.c.disc = s.c.disc ∧ x.c.frontier = s.c.frontier ∧
    x.c.maxDepth = s.c.maxDepth ∧ x.c.visits = s.c.visits ∧ x.c.stopped = s.c.stopped ∧ x.ft = s.ft ∧
    x.m.isOpen = s.m.isOpen ∧ x.m.batches = s.m.batches ∧ x.m.locs = s.m.locs ∧ x.m.openCount = s.m.openCount ∧
    x.m.pcs.all (· == Pc.exited) = s.m.pcs.all (· == Pc.exited) ∧
    x.c.active.length ≤ s.c.active.length := by
  refine ⟨h.c.gen, h.c.cnt, h.c.disc, h.c.fr, h.c.md, h.c.vis, h.c.st, h.ft, h.m.isOpen, h.m.batches, h.m.locs,
    h.m.openCount, ?_, ?_⟩
  · rw [← all_exited_strip, ← all_exited_strip s.m.pcs, h.m.pcs]
  · -- every worker busy in the replay is busy in the machine
    rw [← h.ix.awlen, ← h.is.awlen]
    exact h.ix.awnd.length_le_of_subset fun w hw => Decidable.byContradiction fun hn => rel_not_mem h hn hw

/-- in particular, when the run has ended (nobody works any more), `tv` answers exactly with the run's numbers -/
theorem C05_trace_validation_complete_final (mode : Mode) (hm : mode ≠ .ondemand) (k notw : Nat) (hk : k ≤ notw)
    (fs : List FStep) (hd : disciplined P (mode == .dfs) (finit P k) fs = true)
    (hq : (frun P k fs).1.c.active = []) :
    ∃ tv, replay P k mode (tv0 P k) 1 (record P notw (finit P k) fs) = .ok tv ∧
      tv.x.c.gen.length = (frun P k fs).1.c.gen.length ∧ tv.x.c.stateCount = (frun P k fs).1.c.stateCount ∧
      tv.x.c.disc = (frun P k fs).1.c.disc ∧ tv.x.c.frontier.length = (frun P k fs).1.c.frontier.length ∧
      tv.x.c.active.length = 0 ∧
      tv.x.m.pcs.all (· == Pc.exited) = (frun P k fs).1.m.pcs.all (· == Pc.exited) := by
  obtain ⟨tv, h1, h2⟩ := C05_trace_validation_complete P mode hm k notw hk fs hd
  obtain ⟨g, c, d, f, -, -, -, -, -, -, -, -, e, a⟩ := C05_replay_rel_observables P h2
  refine ⟨tv, h1, by rw [g], c, d, by rw [f], ?_, e⟩
  rw [hq] at a
  exact Nat.le_zero.1 a

/-- **on_demand.rs: partial.**  Every step of the product except `take` and `discard` is accepted in on-demand mode too
    (its entries are the same).  MISSING for `Mode.ondemand`: the block structure of on_demand.rs (`TR_BLOCK`: a block
    drains the deque into a local stack, `take` = pop of that stack, `TR_BLOCK_END`: the drained jobs are dropped) is not
    a step of the product, so the log of a run is not a function of its `FStep`s; a completeness statement needs a model
    of the block loop on top of `Checker/Full.lean`. -/
theorem C05_trace_validation_complete_ondemand_partial (k notw : Nat) (hk : k ≤ notw) (tv : TV) (s s' : FState Nat Nat)
    (f : FStep) (ms : List Step) (cs : List Choice) (h : TRel P k tv s) (hb : Book tv s)
    (hs : fstep P s f = some (s', ms, cs)) (hd : disc false s f = true) (hf : ∀ w p, f ≠ .take w p) (i : Nat) :
    ∃ tv', replay P k .ondemand tv i (entries P notw s f s') = .ok tv' ∧ TRel P k tv' s' := by
  obtain ⟨tv', h1, h2, -⟩ := step_complete (mode := .ondemand) hk h hb hs hd (fun _ => hf) i
  exact ⟨tv', h1, h2⟩

/-! Non-vacuity: the 2-worker run of `Props/C05Full.lean` (round-robin scheduler: work is shared through `split_and_push`,
workers park and are woken, the last one closes the market, all threads exit) is a disciplined bfs run, and `exFsD`, the
same scheduler under the dfs discipline, a disciplined dfs run; their logs are accepted and `tv` ends with the numbers of
the runs. -/

def accepted (P : Params Nat Nat Nat) (mode : Mode) (k : Nat) (fs : List FStep) : Bool :=
  match replay P k mode (tv0 P k) 1 (record P 99999 (finit P k) fs) with
  | .ok tv =>
    tv.x.c.gen == (frun P k fs).1.c.gen && tv.x.c.stateCount == (frun P k fs).1.c.stateCount &&
      tv.x.c.disc == (frun P k fs).1.c.disc && tv.x.c.frontier.length == (frun P k fs).1.c.frontier.length &&
      tv.x.c.active.length == 0 && tv.x.m.pcs.all (· == Pc.exited)
  | .error _ => false

-- fuel 400 (also for `exFsD`): more than the steps the scheduler takes until all workers are gone, which `accepted` checks
def exFs2 : List FStep := fsched C01.exParams 2 400 0 (finit C01.exParams 2)

example : disciplined C01.exParams false (finit C01.exParams 2) exFs2 = true ∧
    accepted C01.exParams .bfs 2 exFs2 = true ∧ 20 < (record C01.exParams 99999 (finit C01.exParams 2) exFs2).length ∧
    (record C01.exParams 99999 (finit C01.exParams 2) exFs2).length < exFs2.length := by decide +kernel

/-- a dfs run: the scheduler's steps with new jobs pushed at the back -/
def fschedDfs (P : Params Nat Nat Nat) (k : Nat) : Nat → Nat → FState Nat Nat → List FStep
  | 0, _, _ => []
  | fuel + 1, start, x =>
    match pickFrom P x k start with
    | none => []
    | some (w, f) =>
      let f' := match f with
        | .expand w _ tok _ => FStep.expand w false tok true
        | f => f
      match fstep P x f' with
      | none => []
      | some (x', _, _) => f' :: fschedDfs P k fuel ((w + 1) % k) x'

def exFsD : List FStep := fschedDfs C01.exParams 2 400 0 (finit C01.exParams 2)

example : disciplined C01.exParams true (finit C01.exParams 2) exFsD = true ∧
    accepted C01.exParams .dfs 2 exFsD = true ∧ 20 < exFsD.length := by decide +kernel

/-- a run with a stop (`finish_when`) while the colleague still holds jobs, accepted as well -/
example : disciplined { C01.exParams with finishMatches := fun _ => true } false
      (finit { C01.exParams with finishMatches := fun _ => true } 2)
      [.pop 0, .take 0 1, .evalProp 0 false, .stop 1 .finish, .finishProps 0, .expand 0 true 2 false,
       .expand 0 true 3 false, .expand 0 true 4 false, .exit 0] = true ∧
    accepted { C01.exParams with finishMatches := fun _ => true } .bfs 2
      [.pop 0, .take 0 1, .evalProp 0 false, .stop 1 .finish, .finishProps 0, .expand 0 true 2 false,
       .expand 0 true 3 false, .expand 0 true 4 false, .exit 0] = true := by decide +kernel

/-- an interleaved log: the `TR_STOP` of worker 1 comes two entries (of worker 0) before its `TR_DROP`; and the same run
    with the announcement missing, or wrong, is not a log the hooks write (`itemsOk` fails) -/
example :
    let Pf : Params Nat Nat Nat := { C01.exParams with finishMatches := fun _ => true }
    let is : List Item := [.step (.pop 0), .stopping 1 1, .step (.take 0 1), .step (.evalProp 0 false),
      .step (.stop 1 .finish), .step (.finishProps 0), .step (.expand 0 true 2 false), .step (.expand 0 true 3 false),
      .step (.expand 0 true 4 false), .stopping 0 3, .step (.exit 0)]
    itemsOk Pf false [] [] (finit Pf 2) is = true ∧
    (match replay Pf 2 .bfs (tv0 Pf 2) 1 (itemLog Pf 99999 (finit Pf 2) is) with
      | .ok tv => tv.x.c.disc == (frun Pf 2 (itemSteps is)).1.c.disc && tv.x.m.pcs.all (· == Pc.exited)
      | .error _ => false) = true ∧
    itemsOk Pf false [] [] (finit Pf 2) [.step (.pop 0), .step (.stop 1 .finish)] = false ∧
    itemsOk Pf false [] [] (finit Pf 2) [.step (.pop 0), .stopping 1 2, .step (.stop 1 .finish)] = false := by
  decide +kernel

/-- the items of a run with every step's bookkeeping entries right before it: the scheduler's 2-worker run (it shares
    work: `TR_SPLIT_PIECE` entries) satisfies `itemsOk` -/
def toItems (P : Params Nat Nat Nat) (s : FState Nat Nat) : List FStep → List Item
  | [] => []
  | f :: fs =>
    match fstep P s f with
    | none => toItems P s fs
    | some (s', _, _) =>
      (match f with
        | .split w _ => if s.m.isOpen then (pieceSizes s s').map (Item.piece w) else []
        | .stop w .finish => [Item.stopping w 1]
        | .stop w .target => [Item.stopping w 2]
        | .exit w => [Item.stopping w 4]
        | _ => []) ++ Item.step f :: toItems P s' fs

example : itemsOk C01.exParams false [] [] (finit C01.exParams 2) (toItems C01.exParams (finit C01.exParams 2) exFs2) = true ∧
    ((toItems C01.exParams (finit C01.exParams 2) exFs2).any fun | .piece _ _ => true | _ => false) = true := by
  decide +kernel

/-- the discipline matters: a bfs-disciplined run that takes from the FRONT of a deque of two jobs is rejected — by
    design: the hooks of bfs.rs cannot produce such a log (`pop_back`) -/
example : disciplined C01.exParams false (finit C01.exParams 2) [.pop 0, .take 0 0] = false ∧
    (match replay C01.exParams 2 .bfs (tv0 C01.exParams 2) 1 (record C01.exParams 99999 (finit C01.exParams 2) [.pop 0, .take 0 0]) with
      | .ok _ => false | .error _ => true) = true := by decide +kernel

end tv

end SR.CReplayComplete
