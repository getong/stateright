import SR.Proofs.Checker.MSimRefine
import SR.Drv.Chk
/-!
# C03, simulation model: the driver's fuel is sufficient; one worker of the event machine IS the single-worker model

**Part 1 (fuel).**  The driver commands `sim` / `sim-sym` (`SR/Drv/Chk.lean`) run
`Sim.runTraces P (g.n + 3) (ans.length + 20) ans {}` with `P := Case.params c` resp. `{ c.params with key := rep… }`.
"The fuel ran out" is made explicit by `Sim.loopDone` / `Sim.traceDone` / `Sim.runDone` (same control flow as
`Sim.traceLoop` / `trace` / `runTraces`; `false` exactly on the branch `traceLoop 0 … = (g, ans)`).  On a well-formed graph
`g.n + 1` iterations per trace are enough — for EVERY key function (so also for the representatives of `sim-sym`), property
list, run control, answer list, oracle and starting `G` — and any larger fuel yields the very same result.  The number of
traces `ans.length + 20` is NOT always enough to reach a stop condition; it is for the cases the harness generates (all
initial states inside the boundary, depth limit ≥ 1, target ≤ 11 < 20).

**Part 2 (refinement).**  For ONE worker (`k = 1`) and a step list without `timeout` / `panic` / `cut`, the event machine
`MSim` driven by the steps that the chooser's answers induce (`MSim.stepsOfTrace`, `MSim.stepsOfRun`: executable) accepts
every step (`(MSim.runStrict …).isSome`: nothing is skipped) and ends with the `disc` and `stateCount` of `Sim.trace` /
`Sim.runTraces` — full equality, for one trace with any fuel and any model, and for the whole worker loop when there is an
initial state and no trace runs out of fuel (in particular for the driver's call on a well-formed graph).
-/
namespace SR.C03
open SR SR.Checker SR.Drv.Chk

section
variable {κ : Type} [DecidableEq κ] (P : Params Nat κ Nat)

/-- **The loop of a trace, from the middle of a trace**: started in a configuration a trace can be in, it returns by itself
    within `g.n + 1 - path.length` iterations. -/
theorem C03_sim_loop_fuel_stable {g : Graph} (hwf : g.WF) (hM : P.M = g.toSys) (orc : Nat → Nat → Bool)
    (st : Nat) (path : List Nat) (gen : List κ) (eb ans : List Nat) (G₀ : Sim.G Nat)
    (hst : st < g.n) (hlt : ∀ s ∈ path, s < g.n) (hpw : path.Pairwise (fun a b => P.key a ≠ P.key b))
    (hgen : ∀ k, k ∈ gen ↔ ∃ t ∈ path, P.key t = k)
    (f : Nat) (hf : g.n + 1 ≤ f + path.length) :
    Sim.loopDone P orc f st path gen eb ans G₀.disc = true ∧
    ∀ f', f ≤ f' → Sim.traceLoop P orc f' st path gen eb ans G₀ = Sim.traceLoop P orc f st path gen eb ans G₀ := by
  have h := Sim.loopDone_of_graph hwf hM orc f st path gen eb ans G₀.disc hst hlt hpw hgen hf
  exact ⟨h, Sim.traceLoop_stable orc f st path gen eb ans G₀ h⟩

/-- **The fuel of a trace is sufficient** (any key function). -/
theorem C03_sim_fuel_sufficient_key {g : Graph} (hwf : g.WF) (hM : P.M = g.toSys) (ans : List Nat) (G₀ : Sim.G Nat)
    (orc : Nat → Nat → Bool) (f f' : Nat) (hf : g.n + 1 ≤ f) (hf' : g.n + 1 ≤ f') :
    Sim.traceDone P f ans G₀ orc = true ∧ Sim.trace P f ans G₀ orc = Sim.trace P f' ans G₀ orc := by
  have h := Sim.trace_stable (g.n + 1) ans G₀ orc (Sim.traceDone_of_graph hwf hM _ (Nat.le_refl _) ans G₀ orc)
  exact ⟨Sim.traceDone_of_graph hwf hM f hf ans G₀ orc, (h f hf).trans (h f' hf').symm⟩

theorem C03_sim_run_fuel_sufficient_key {g : Graph} (hwf : g.WF) (hM : P.M = g.toSys) (n : Nat) (ans : List Nat)
    (G₀ : Sim.G Nat) (f f' : Nat) (hf : g.n + 1 ≤ f) (hf' : g.n + 1 ≤ f') :
    Sim.runDone P f n ans G₀ = true ∧ Sim.runTraces P f n ans G₀ = Sim.runTraces P f' n ans G₀ := by
  have h := Sim.runTraces_fuel_stable (g.n + 1) n ans G₀ (Sim.runDone_of_graph hwf hM _ (Nat.le_refl _) n ans G₀)
  exact ⟨Sim.runDone_of_graph hwf hM f hf n ans G₀, (h f hf).trans (h f' hf').symm⟩

end

/-- **The driver's `sim` command**: its fuel `g.n + 3` is sufficient. -/
theorem C03_sim_fuel_sufficient (c : Case) (hwf : c.g.WF) (ans : List Nat) (G₀ : Sim.G Nat) (orc : Nat → Nat → Bool) :
    Sim.traceDone c.params (c.g.n + 3) ans G₀ orc = true ∧
    ∀ f, c.g.n + 1 ≤ f → Sim.trace c.params (c.g.n + 3) ans G₀ orc = Sim.trace c.params f ans G₀ orc :=
  ⟨(C03_sim_fuel_sufficient_key c.params hwf rfl ans G₀ orc (c.g.n + 3) (c.g.n + 3) (by omega) (by omega)).1,
   fun f hf => (C03_sim_fuel_sufficient_key c.params hwf rfl ans G₀ orc (c.g.n + 3) f (by omega) hf).2⟩

/-- the driver's run `Sim.runTraces c.params (g.n + 3) (ans.length + 20) ans {}`, for every trace budget `n` -/
theorem C03_sim_run_fuel_sufficient (c : Case) (hwf : c.g.WF) (n : Nat) (ans : List Nat) (G₀ : Sim.G Nat) :
    Sim.runDone c.params (c.g.n + 3) n ans G₀ = true ∧
    ∀ f, c.g.n + 1 ≤ f → Sim.runTraces c.params (c.g.n + 3) n ans G₀ = Sim.runTraces c.params f n ans G₀ :=
  ⟨(C03_sim_run_fuel_sufficient_key c.params hwf rfl n ans G₀ (c.g.n + 3) (c.g.n + 3) (by omega) (by omega)).1,
   fun f hf => (C03_sim_run_fuel_sufficient_key c.params hwf rfl n ans G₀ (c.g.n + 3) f (by omega) hf).2⟩

/-- **the driver's `sim-sym` command** (`key := fun s => rep.getD s s`, any table `rep`): the same -/
theorem C03_sim_sym_fuel_sufficient (c : Case) (hwf : c.g.WF) (rep : List Nat) (n : Nat) (ans : List Nat)
    (G₀ : Sim.G Nat) :
    Sim.runDone { c.params with key := fun s => rep.getD s s } (c.g.n + 3) n ans G₀ = true ∧
    ∀ f, c.g.n + 1 ≤ f →
      Sim.runTraces { c.params with key := fun s => rep.getD s s } (c.g.n + 3) n ans G₀ =
      Sim.runTraces { c.params with key := fun s => rep.getD s s } f n ans G₀ :=
  ⟨(C03_sim_run_fuel_sufficient_key _ hwf rfl n ans G₀ (c.g.n + 3) (c.g.n + 3) (by omega) (by omega)).1,
   fun f hf => (C03_sim_run_fuel_sufficient_key _ hwf rfl n ans G₀ (c.g.n + 3) f (by omega) hf).2⟩

section
variable {σ κ α : Type} [DecidableEq κ] (P : Params σ κ α)

/-- **A run that ended in a stop condition does not depend on the trace budget**: if after `n ≥ 1` traces
    `finish_when` matches or the target state count is reached (`Sim.stops`), every larger budget gives the same result. -/
theorem C03_sim_trace_budget_stable (f n : Nat) (ans : List Nat) (g : Sim.G σ) (hn : 1 ≤ n)
    (hs : Sim.stops P (Sim.runTraces P f n ans g) = true) :
    ∀ n', n ≤ n' → Sim.runTraces P f n' ans g = Sim.runTraces P f n ans g := by
  induction n generalizing ans g with
  | zero => omega
  | succ n ih =>
    intro n' hn'
    obtain ⟨n', rfl⟩ : ∃ k, n' = k + 1 := ⟨n' - 1, by omega⟩
    rw [Sim.runTraces_succ] at hs ⊢
    rw [Sim.runTraces_succ]
    split
    · rfl
    · next h =>
      rw [if_neg h] at hs
      cases n with
      | zero => exact absurd hs h
      | succ n => exact ih _ _ (by omega) hs n' (by omega)

/-- **`target_state_count` traces are enough when every trace counts a state** (there is an initial state, all initial
    states are inside the boundary, the depth limit is not 0 — what the harness generates): with a target `t ≤ n` the run
    ends in a stop condition and is the same for every larger budget. -/
theorem C03_sim_trace_budget_target (hinit : P.M.init ≠ []) (hinB : ∀ s ∈ P.M.init, P.M.inB s = true)
    (hdepth : P.cfg.maxDepth ≠ some 0) {t : Nat} (ht : P.cfg.target = some t) (f n : Nat) (hf : 1 ≤ f) (hn : 1 ≤ n)
    (htn : t ≤ n) (ans : List Nat) (g : Sim.G σ) :
    Sim.stops P (Sim.runTraces P f n ans g) = true ∧
    ∀ n', n ≤ n' → Sim.runTraces P f n' ans g = Sim.runTraces P f n ans g := by
  obtain ⟨f, rfl⟩ : ∃ k, f = k + 1 := ⟨f - 1, by omega⟩
  have hs : Sim.stops P (Sim.runTraces P (f + 1) n ans g) = true := by
    rcases Sim.runTraces_count hinit hinB hdepth f n ans g with h | h
    · exact h
    · simp only [Sim.stops, Sim.targetHit, ht, Bool.or_eq_true, decide_eq_true_eq]
      exact .inr (by omega)
  exact ⟨hs, C03_sim_trace_budget_stable P (f + 1) n ans g hn hs⟩

end

/-- the driver's budget `ans.length + 20` is enough for the cases the harness generates (target `≤ ans.length + 20`) -/
theorem C03_sim_driver_budget_target (c : Case) (hinit : c.g.init ≠ [])
    (hinB : ∀ s ∈ c.g.init, c.g.bnd.getD s false = true) (hdepth : c.cfg.maxDepth ≠ some 0) {t : Nat}
    (ht : c.cfg.target = some t) (ans : List Nat) (htn : t ≤ ans.length + 20) :
    Sim.stops c.params (Sim.runTraces c.params (c.g.n + 3) (ans.length + 20) ans {}) = true ∧
    ∀ n', ans.length + 20 ≤ n' →
      Sim.runTraces c.params (c.g.n + 3) n' ans {} = Sim.runTraces c.params (c.g.n + 3) (ans.length + 20) ans {} :=
  C03_sim_trace_budget_target c.params hinit hinB hdepth ht _ _ (by omega) (by omega) htn ans {}

/-- the cycle `0 → 1 → 0`, `eventually (s = 5)` (never holds): the trace `0, 1, 0` closes the cycle in its third iteration -/
def cycCase : Case :=
  { g := { n := 2, init := [0], adj := [[some 1], [some 0]], bnd := [true, true] },
    props := [{ exp := .eventually, tbl := [false, false] }], cfg := { target := some 4 }, finish := .any }

/-- **`g.n + 1` is tight**: on a well-formed graph with `n = 2` states, fuel `n` runs out (the "loop found" iteration is
    never reached, nothing is recorded), fuel `n + 1` does not. -/
theorem C03_sim_fuel_tight :
    cycCase.g.WF ∧
    Sim.traceDone cycCase.params 2 [] {} = false ∧ (Sim.trace cycCase.params 2 [] {}).1.disc = [] ∧
    Sim.traceDone cycCase.params 3 [] {} = true ∧ (Sim.trace cycCase.params 3 [] {}).1.disc = [(0, [0, 1, 0])] := by
  decide

/-- every trace counts one state -/
def budgetCase : Case :=
  { g := { n := 1, init := [0], adj := [[]], bnd := [true] }, props := [], cfg := { target := some 25 }, finish := .any }

/-- **The trace budget `ans.length + 20` is NOT always enough**: with the empty answer list the driver's run ends after 20
    traces with `state_count = 20` in no stop condition (the real worker goes on), 25 traces reach the target, and the two
    results differ. -/
theorem C03_sim_trace_budget_not_always_enough :
    budgetCase.g.WF ∧
    Sim.stops budgetCase.params (Sim.runTraces budgetCase.params (budgetCase.g.n + 3) (([] : List Nat).length + 20) [] {}) = false ∧
    (Sim.runTraces budgetCase.params (budgetCase.g.n + 3) (([] : List Nat).length + 20) [] {}).stateCount = 20 ∧
    Sim.stops budgetCase.params (Sim.runTraces budgetCase.params (budgetCase.g.n + 3) 25 [] {}) = true ∧
    (Sim.runTraces budgetCase.params (budgetCase.g.n + 3) 25 [] {}).stateCount = 25 := by
  decide

section
variable {σ κ α : Type} [DecidableEq σ] [DecidableEq κ] (P : Params σ κ α)

/-- **One trace, from any shared state**: a worker at the top of its loop, shared map `g.disc`, shared count
    `g.stateCount`. -/
theorem C03_msim_refines_trace_from (fuel : Nat) (ans : List Nat) (g : Sim.G σ) :
    ∃ s', MSim.runStrict P { disc := g.disc, stateCount := g.stateCount, shutdown := false, ws := [.idle] }
            (MSim.stepsOfTrace P 0 fuel ans g.disc) = some s' ∧
      s'.disc = (Sim.trace P fuel ans g).1.disc ∧ s'.stateCount = (Sim.trace P fuel ans g).1.stateCount ∧
      (P.M.init ≠ [] → Sim.traceDone P fuel ans g = true → s'.ws = [.ended]) := by
  obtain ⟨x, h1, h2⟩ := MSim.trace_run (P := P) fuel ans g
  exact ⟨_, h1, rfl, rfl, fun hi hd => by rw [h2 hi hd]; rfl⟩

/-- **The first trace of a single-threaded simulation** (`spawn_simulation` with one thread: one idle worker, empty
    discoveries map, `state_count = 0`). -/
theorem C03_msim_refines_trace (fuel : Nat) (ans : List Nat) :
    (MSim.run P 1 (MSim.stepsOfTrace P 0 fuel ans [])).disc = (Sim.trace P fuel ans {}).1.disc ∧
    (MSim.run P 1 (MSim.stepsOfTrace P 0 fuel ans [])).stateCount = (Sim.trace P fuel ans {}).1.stateCount ∧
    (MSim.runStrict P (MSim.init 1) (MSim.stepsOfTrace P 0 fuel ans [])).isSome = true := by
  obtain ⟨s', h, hd, hc, _⟩ := C03_msim_refines_trace_from P fuel ans {}
  have h' : MSim.runStrict P (MSim.init 1) (MSim.stepsOfTrace P 0 fuel ans []) = some s' := h
  have hr : MSim.run P 1 (MSim.stepsOfTrace P 0 fuel ans []) = s' := MSim.runFrom_of_runStrict h'
  rw [hr, h']
  exact ⟨hd, hc, rfl⟩

/-- **The whole worker loop** (`stepsOfRun`: traces, `cont`, `leave finish` / `leave target`); at the end the worker has
    left or (trace budget used up) is back at the top of its loop. -/
theorem C03_msim_refines_run (hinit : P.M.init ≠ []) (fuel n : Nat) (ans : List Nat)
    (hdone : Sim.runDone P fuel n ans {} = true) :
    (MSim.run P 1 (MSim.stepsOfRun P 0 fuel n ans {})).disc = (Sim.runTraces P fuel n ans {}).disc ∧
    (MSim.run P 1 (MSim.stepsOfRun P 0 fuel n ans {})).stateCount = (Sim.runTraces P fuel n ans {}).stateCount ∧
    (MSim.runStrict P (MSim.init 1) (MSim.stepsOfRun P 0 fuel n ans {})).isSome = true ∧
    ((MSim.run P 1 (MSim.stepsOfRun P 0 fuel n ans {})).ws = [.left] ∨
     (MSim.run P 1 (MSim.stepsOfRun P 0 fuel n ans {})).ws = [.idle]) := by
  obtain ⟨x, h, hx⟩ := MSim.run_run (P := P) hinit fuel n ans {} hdone
  have h' : MSim.runStrict P (MSim.init 1) (MSim.stepsOfRun P 0 fuel n ans {}) = some _ := h
  have hr := MSim.runFrom_of_runStrict h'
  unfold MSim.run
  rw [hr, h']
  refine ⟨rfl, rfl, rfl, ?_⟩
  rcases hx with rfl | rfl
  · exact Or.inl rfl
  · exact Or.inr rfl

end

/-- **The driver's `sim` / `sim-sym` run is a run of the event machine** (any key function). -/
theorem C03_msim_refines_run_graph (P : Params Nat Nat Nat) {g : Graph} (hwf : g.WF) (hM : P.M = g.toSys)
    (hinit : g.init ≠ []) (n : Nat) (ans : List Nat) :
    (MSim.run P 1 (MSim.stepsOfRun P 0 (g.n + 3) n ans {})).disc = (Sim.runTraces P (g.n + 3) n ans {}).disc ∧
    (MSim.run P 1 (MSim.stepsOfRun P 0 (g.n + 3) n ans {})).stateCount = (Sim.runTraces P (g.n + 3) n ans {}).stateCount ∧
    (MSim.runStrict P (MSim.init 1) (MSim.stepsOfRun P 0 (g.n + 3) n ans {})).isSome = true := by
  have hi : P.M.init ≠ [] := by rw [hM]; exact hinit
  have hd := Sim.runDone_of_graph hwf hM (g.n + 3) (by omega) n ans {}
  obtain ⟨a, b, c, _⟩ := C03_msim_refines_run P hi (g.n + 3) n ans hd
  exact ⟨a, b, c⟩

/-! ### Non-vacuity

`0 → {1, 2}`, `1 → 0`, `2` terminal; `eventually (s = 2)`, `always (s ≠ 2)`.  Trace 1 (answers `0, 0, 0`): `0, 1, 0` closes
a cycle, the eventually counterexample `[0, 1, 0]` is recorded.  Trace 2 (answers `0, 1`): `0, 2` violates the always
property (`[0, 2]`); `finish_when = all of {0, 1}` matches and the worker leaves. -/

def exCase : Case :=
  { g := { n := 3, init := [0], adj := [[some 1, some 2], [some 0], []], bnd := [true, true, true] },
    props := [{ exp := .eventually, tbl := [false, false, true] }, { exp := .always, tbl := [true, true, false] }],
    cfg := { target := some 30 }, finish := .allOf [0, 1] }

example : exCase.g.WF := by decide
example : exCase.params.M.init ≠ [] := by decide

example : (Sim.runTraces exCase.params (exCase.g.n + 3) 25 [0, 0, 0, 0, 1] {}).disc = [(1, [0, 2]), (0, [0, 1, 0])] ∧
    (Sim.runTraces exCase.params (exCase.g.n + 3) 25 [0, 0, 0, 0, 1] {}).stateCount = 4 ∧
    Sim.runDone exCase.params (exCase.g.n + 3) 25 [0, 0, 0, 0, 1] {} = true ∧
    Sim.stops exCase.params (Sim.runTraces exCase.params (exCase.g.n + 3) 25 [0, 0, 0, 0, 1] {}) = true := by decide

example : MSim.stepsOfRun exCase.params 0 (exCase.g.n + 3) 25 [0, 0, 0, 0, 1] {} =
    [.start 0 0, .enter 0, .evalProp 0 0, .applyProp 0 0, .evalProp 0 1, .applyProp 0 1, .finishProps 0,
     .advance 0 (some 1), .enter 0, .evalProp 0 0, .applyProp 0 0, .evalProp 0 1, .applyProp 0 1, .finishProps 0,
     .advance 0 (some 0), .enter 0, .recordOne 0 0, .recordOne 0 1, .endTrace 0, .cont 0,
     .start 0 0, .enter 0, .evalProp 0 0, .evalProp 0 1, .applyProp 0 1, .finishProps 0,
     .advance 0 (some 2), .enter 0, .evalProp 0 0, .evalProp 0 1, .applyProp 0 1, .finishProps 0,
     .leave 0 .finish] := by decide

example : (MSim.run exCase.params 1 (MSim.stepsOfRun exCase.params 0 (exCase.g.n + 3) 25 [0, 0, 0, 0, 1] {})).disc =
      [(1, [0, 2]), (0, [0, 1, 0])] ∧
    (MSim.run exCase.params 1 (MSim.stepsOfRun exCase.params 0 (exCase.g.n + 3) 25 [0, 0, 0, 0, 1] {})).stateCount = 4 ∧
    MSim.allLeft (MSim.run exCase.params 1 (MSim.stepsOfRun exCase.params 0 (exCase.g.n + 3) 25 [0, 0, 0, 0, 1] {})) = true :=
  by decide

/-- the hypotheses of `C03_sim_driver_budget_target` hold of a concrete case (target 4 ≤ 0 + 20) -/
example : cycCase.g.init ≠ [] ∧ (∀ s ∈ cycCase.g.init, cycCase.g.bnd.getD s false = true) ∧
    cycCase.cfg.maxDepth ≠ some 0 ∧ cycCase.cfg.target = some 4 := by decide

/-- a trace that runs out of fuel: the machine is then in the middle of the trace (still the same `disc`, `stateCount`) -/
example : (MSim.run cycCase.params 1 (MSim.stepsOfTrace cycCase.params 0 2 [] [])).stateCount = 2 ∧
    (Sim.trace cycCase.params 2 [] {}).1.stateCount = 2 ∧
    MSim.allLeft (MSim.run cycCase.params 1 (MSim.stepsOfTrace cycCase.params 0 2 [] [])) = false := by decide

end SR.C03
