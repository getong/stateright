import SR.Proofs.ReachRef
import SR.Props.C09Machine
/-!
# C09 — the reference of the oracle `o-reach` is the declarative reachable set

`o-reach` (SR/Drv/C09.lean) compares the states visited by the implementation's checkers with the states of a
bounded breadth-first walk of the MODEL.  `walkF` (SR/Proofs/ReachRef.lean) is that walk as a total function: same
successor enumeration (`sortActions (actions sys st)`, `step sys st a`), same records, same meaning of `bound`
(at most `bound` states are EXPANDED; the result is "closed" iff every discovered state was expanded,
`records.size = states.size`), identity of states = structural equality (no text key, nothing to assume).
The theorems hold for every actor system (any handlers), every fuel and every bound.
-/
namespace SR.C09Reach
open SR SR.Actor SR.Checker SR.ReachRef

variable {σ η : Type} [DecidableEq σ] [DecidableEq η]

/-- **Sound**: every state `walkF` lists is reachable from the initial state by steps of the model; the first one
    is the initial state, and no state is listed twice — closed or not, whatever the fuel and the bound. -/
theorem C09_oracle_walk_sound (sys : ActorSys σ η) (fuel bound : Nat) (w : WalkR σ η)
    (h : walkF fuel sys bound = some w) :
    (∀ st ∈ w.states.toList, (sys.toSys (fun _ => true)).Reach st) ∧
    w.states.toList.Nodup ∧ (init sys = w.states[0]? ∧ w.states[0]?.isSome) ∧
    w.records.size ≤ bound ∧ w.records.size ≤ w.states.size := by
  obtain ⟨st0, hi, hw, h0, _⟩ := walkF_inv sys fuel bound w h
  refine ⟨hw.reach, hw.nodup, ?_, hw.leB, hw.le⟩
  rw [hi, h0]
  exact ⟨rfl, rfl⟩

/-- **Complete**: a closed result (every discovered state expanded — the test `records.size = states.size` of the
    drivers) lists exactly the reachable states of the model, each once. -/
theorem C09_oracle_walk_complete (sys : ActorSys σ η) (fuel bound : Nat) (w : WalkR σ η)
    (h : walkF fuel sys bound = some w) (hc : w.records.size = w.states.size) :
    (∀ st, (sys.toSys (fun _ => true)).Reach st ↔ st ∈ w.states.toList) ∧ w.states.toList.Nodup := by
  obtain ⟨st0, hi, hw, _⟩ := walkF_inv sys fuel bound w h
  exact ⟨fun st => ⟨reach_mem_of_closed sys st0 bound w hi hw hc st, hw.reach st⟩, hw.nodup⟩

/-- **Meaning of the bound**: the result is closed iff the model has at most `bound` reachable states (there is a
    list of at most `bound` states holding all of them); if it is not closed, exactly `bound` states were expanded
    and MORE than `bound` distinct reachable states are listed. -/
theorem C09_oracle_walk_closed_iff (sys : ActorSys σ η) (fuel bound : Nat) (w : WalkR σ η)
    (h : walkF fuel sys bound = some w) :
    (w.records.size = w.states.size ↔
      ∃ l : List (Actor.St σ η), (∀ st, (sys.toSys (fun _ => true)).Reach st → st ∈ l) ∧ l.length ≤ bound) ∧
    (w.records.size ≠ w.states.size → w.records.size = bound ∧ bound < w.states.size) := by
  obtain ⟨st0, hi, hw, _, hex⟩ := walkF_inv sys fuel bound w h
  have hopen : w.records.size ≠ w.states.size → w.records.size = bound ∧ bound < w.states.size := by
    intro hne
    rcases hex with hb | hb
    · have := hw.le
      omega
    · exact absurd hb hne
  refine ⟨⟨?_, ?_⟩, hopen⟩
  · intro hc
    refine ⟨w.states.toList, reach_mem_of_closed sys st0 bound w hi hw hc, ?_⟩
    rw [Array.length_toList, ← hc]
    exact hw.leB
  · rintro ⟨l, hl, hlen⟩
    apply Classical.byContradiction
    intro hne
    obtain ⟨_, hlt⟩ := hopen hne
    have := hw.nodup.length_le_of_subset (fun s hs => hl s (hw.reach s hs))
    rw [Array.length_toList] at this
    omega

/-- **Total with fuel `bound + 1`**: the fuel never runs out; the only `none` is a panicking initial state (the
    answer `panic` of the drivers, as for `walk`). -/
theorem C09_oracle_walk_total (sys : ActorSys σ η) (bound : Nat) :
    walkF (bound + 1) sys bound = none ↔ init sys = none := by
  unfold walkF
  cases hi : init sys with
  | none => simp
  | some st0 =>
    have := loopF_fuel sys bound (bound + 1) { states := #[st0], records := #[] } (by simp) (by simp)
    simpa [Option.isSome_iff_ne_none] using this

/-- a result obtained with some fuel is the result with any larger fuel (so, with `C09_oracle_walk_total`, fuel beyond
    `bound + 1` changes nothing) -/
theorem C09_oracle_walk_fuel_irrelevant (sys : ActorSys σ η) (bound fuel : Nat) (w : WalkR σ η)
    (h : walkF fuel sys bound = some w) : ∀ fuel', fuel ≤ fuel' → walkF fuel' sys bound = some w := by
  intro fuel' hf
  obtain ⟨st0, hi, hl⟩ := (walkF_eq_some sys fuel bound w).1 h
  rw [← Nat.add_sub_cancel' hf]
  exact (walkF_eq_some sys _ bound w).2 ⟨st0, hi, loopF_add sys bound fuel _ w hl _⟩

/-- the fingerprint cache of `walkK` (used by the drop-in `walkT` for speed) is only a cache: whatever the fingerprint
    function — constant, colliding, anything — the result is that of `walkF` -/
theorem C09_oracle_walk_key_irrelevant {κ : Type} [DecidableEq κ] (fp : Actor.St σ η → κ) (fuel : Nat)
    (sys : ActorSys σ η) (bound : Nat) : walkK fp fuel sys bound = walkF fuel sys bound :=
  walkK_eq fp fuel sys bound

/-- **the drop-in `walkT`** for `walk` in the drivers (`graph`, `reach`, `o-reach`): it answers `none` exactly when the
    initial state panics, its states are reachable and distinct, and when the drivers' test `records.size = states.size`
    succeeds its states are exactly the reachable states of the system described by the request. -/
theorem C09_oracle_walkT (sys : Codec.USys) (bound : Nat) :
    (ReachRef.walkT sys bound = none ↔ init sys = none) ∧
    ∀ w, ReachRef.walkT sys bound = some w →
      (∀ st ∈ w.states.toList, (sys.toSys (fun _ => true)).Reach st) ∧ w.states.toList.Nodup ∧
      (w.records.size = w.states.size → ∀ st, (sys.toSys (fun _ => true)).Reach st ↔ st ∈ w.states.toList) ∧
      (w.records.size = w.states.size ↔
        ∃ l : List Codec.USt, (∀ st, (sys.toSys (fun _ => true)).Reach st → st ∈ l) ∧ l.length ≤ bound) := by
  constructor
  · rw [← C09_oracle_walk_total sys bound]
    simp [ReachRef.walkT, walkK_eq]
  · intro w hw
    simp only [ReachRef.walkT, walkK_eq, Option.map_eq_some_iff] at hw
    obtain ⟨v, hv, rfl⟩ := hw
    have hs := C09_oracle_walk_sound sys _ bound v hv
    exact ⟨hs.1, hs.2.1, fun hc => (C09_oracle_walk_complete sys _ bound v hv hc).1,
      (C09_oracle_walk_closed_iff sys _ bound v hv).1⟩

variable {κ : Type} [DecidableEq κ]

/-- **Corollary**: for a completed exhaustive check of the actor model without early exit (hypotheses of
    `C09_explored`, no boundary), the states the checker evaluated are exactly the states of a closed `walkF` — the
    reference `o-reach` compares the implementation's visited set with is the declarative reachable set. -/
theorem C09_oracle_reach_explored (sys : ActorSys σ η) (P : Params (Actor.St σ η) κ Actor.Action)
    (hM : P.M = sys.toSys (fun _ => true))
    (hinj : ∀ a b, P.M.Reach a → P.M.Reach b → P.key a = P.key b → a = b)
    (cs : List Choice) (hq : Quiescent (run P cs)) (he : (run P cs).early = false)
    (fuel bound : Nat) (w : WalkR σ η) (h : walkF fuel sys bound = some w) (hc : w.records.size = w.states.size) :
    ∀ st, st ∈ visitedStates (run P cs) ↔ st ∈ w.states.toList := by
  intro st
  rw [← (C09M.C09_explored sys (fun _ => true) P hM hinj cs hq he st)]
  exact (C09_oracle_walk_complete sys fuel bound w h hc).1 st

/-- … and as lists: the checker evaluates each reachable state once (`C01_once`; an actor model has one initial
    state), so the evaluated states are a PERMUTATION of the reference list — the multiset equality `o-reach` tests. -/
theorem C09_oracle_reach_perm (sys : ActorSys σ η) (P : Params (Actor.St σ η) κ Actor.Action)
    (hM : P.M = sys.toSys (fun _ => true))
    (hinj : ∀ a b, P.M.Reach a → P.M.Reach b → P.key a = P.key b → a = b)
    (cs : List Choice) (hq : Quiescent (run P cs)) (he : (run P cs).early = false)
    (fuel bound : Nat) (w : WalkR σ η) (h : walkF fuel sys bound = some w) (hc : w.records.size = w.states.size) :
    (visitedStates (run P cs)).Perm w.states.toList := by
  have hnd : (P.M.initB.map P.key).Nodup := by
    rw [hM]
    simp only [Sys.initB, ActorSys.toSys]
    cases init sys <;> simp
  exact (List.perm_ext_iff_of_nodup (C01.C01_once P hnd cs).2 (C09_oracle_walk_complete sys fuel bound w h hc).2).2
    (C09_oracle_reach_explored sys P hM hinj cs hq he fuel bound w h hc)

/-! ## the hypotheses are satisfiable -/

def pinger : Actor Nat where
  start id := (0, if id = 0 then [.send 1 7] else [])
  msg _ s _ _ := .ok (some (s + 1)) []
  timeout _ _ _ := .ok none []
  random _ _ _ := .ok none []

def exSys : ActorSys Nat Unit where
  n := 2
  actor _ := pinger
  lossy := false
  maxCrashes := 1
  initNet := Net.nondup []
  initHist := ()
  recordIn _ _ := none
  recordOut _ _ := none

def exSt (a1 : Nat) (sent : Bool) (c : List Bool) : Actor.St Nat Unit :=
  { actors := [0, a1], net := Net.nondup (if sent then [(⟨0, 1, 7⟩, 1)] else []), timers := [[], []],
    random := [[], []], crashed := c, hist := () }

/-- the six reachable states (message pending or delivered × nobody / actor 0 / actor 1 crashed), in BFS order,
    with the records of `walk`: a delivery to the crashed actor 1 is offered but is not a step (`-`) -/
def exW : WalkR Nat Unit where
  states := #[exSt 0 true [false, false], exSt 1 false [false, false], exSt 0 true [true, false],
              exSt 0 true [false, true], exSt 1 false [true, false], exSt 1 false [false, true]]
  records := #[[(.deliver ⟨0, 1, 7⟩, "1"), (.crash 0, "2"), (.crash 1, "3")], [(.crash 0, "4"), (.crash 1, "5")],
               [(.deliver ⟨0, 1, 7⟩, "4")], [(.deliver ⟨0, 1, 7⟩, "-")], [], []]

/-- closed exactly at the bound: 6 reachable states, `bound = 6`, fuel `bound + 1` -/
theorem ex_closed : walkF 7 exSys 6 = some exW := walkU_eq exSys 7 6 exW (by decide)
example : exW.records.size = exW.states.size := by decide

/-- one less and the result is open: 5 states expanded, all 6 discovered -/
theorem ex_open : ∃ w, walkF 6 exSys 5 = some w ∧ w.records.size = 5 ∧ w.states.size = 6 :=
  ⟨{ exW with records := exW.records.pop }, walkU_eq exSys 6 5 _ (by decide), by decide, by decide⟩

example : (exSys.toSys (fun _ => true)).Reach (exSt 1 false [false, true]) :=
  (C09_oracle_walk_sound exSys 7 6 exW ex_closed).1 _ (by decide)

end SR.C09Reach
