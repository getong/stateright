import SR.Proofs.Checker.Verdict
import SR.Checker.Verdict
/-!
# C02 — always/sometimes verdicts are exact once a check completes

Model: `SR/Checker/Machine.lean`.
-/
namespace SR.C02
open SR SR.Checker

variable {σ κ α : Type} [DecidableEq κ] (P : Params σ κ α)

/-- `join` has returned, and either no job was ever dropped or every property has a discovery (the second reason for
    `is_done`) -/
def Completed (s : St σ κ) : Prop := Quiescent s ∧ (s.early = false ∨ allDiscovered P s = true)

/-- `allDiscovered_eq_true_iff`, under the name the property files use -/
theorem allDiscovered_iff (s : St σ κ) :
    allDiscovered P s = true ↔ ∀ i, i < P.props.length → hasDisc s.disc i = true :=
  allDiscovered_eq_true_iff s

/-- Under symmetry reduction (`R` as in `complete_of_quiescent`), for a condition invariant under `R`: a discovery is
    reported for property `i` iff some reachable state is a witness. -/
theorem C02_verdict_modulo (R : σ → σ → Prop)
    (hkey : ∀ a b, P.M.Reach a → P.M.Reach b → P.key a = P.key b → R a b)
    (htrans : ∀ a b c, R a b → R b c → R a c)
    (hsim : ∀ a b, R a b → ∀ a' ∈ P.M.succB a, ∃ b' ∈ P.M.succB b, R a' b')
    (cs : List Choice) (hc : Completed P (run P cs))
    (i : Nat) (pr : Prop' σ) (hpr : P.props[i]? = some pr) (hinv : ∀ a b, R a b → pr.cond a = pr.cond b)
    (hexp : pr.exp ≠ .eventually) :
    hasDisc (run P cs).disc i = true ↔ ∃ t, P.M.Reach t ∧ Wit pr t :=
  verdict_modulo R hkey htrans hsim cs hc.1 hc.2 i pr hpr hinv hexp

/-- A counterexample is reported iff some reachable in-boundary state violates the property. -/
theorem C02_always (hinj : ∀ a b, P.M.Reach a → P.M.Reach b → P.key a = P.key b → a = b)
    (cs : List Choice) (hc : Completed P (run P cs)) (i : Nat) (pr : Prop' σ)
    (hpr : P.props[i]? = some pr) (hexp : pr.exp = .always) :
    hasDisc (run P cs).disc i = true ↔ ∃ t, P.M.Reach t ∧ pr.cond t = false := by
  rw [verdict_exact hinj cs hc.1 hc.2 i pr hpr (by simp [hexp])]
  simp only [wit_always hexp]

/-- An example is reported iff some reachable in-boundary state satisfies the property. -/
theorem C02_sometimes (hinj : ∀ a b, P.M.Reach a → P.M.Reach b → P.key a = P.key b → a = b)
    (cs : List Choice) (hc : Completed P (run P cs)) (i : Nat) (pr : Prop' σ)
    (hpr : P.props[i]? = some pr) (hexp : pr.exp = .sometimes) :
    hasDisc (run P cs).disc i = true ↔ ∃ t, P.M.Reach t ∧ pr.cond t = true := by
  rw [verdict_exact hinj cs hc.1 hc.2 i pr hpr (by simp [hexp])]
  simp only [wit_sometimes hexp]

/-- With always/sometimes properties only, `assert_properties` succeeds exactly when every always-property holds on all
    reachable states and every sometimes-property is witnessed; and `is_done` is true. -/
theorem C02_assert (hinj : ∀ a b, P.M.Reach a → P.M.Reach b → P.key a = P.key b → a = b)
    (hne : ∀ pr ∈ P.props, pr.exp ≠ .eventually)
    (cs : List Choice) (hc : Completed P (run P cs)) :
    isDone P (run P cs) = true ∧
    (assertPropertiesOk P (run P cs) = true ↔
      (∀ (i : Nat) (pr : Prop' σ), P.props[i]? = some pr → pr.exp = .always → ∀ t, P.M.Reach t → pr.cond t = true) ∧
      (∀ (i : Nat) (pr : Prop' σ), P.props[i]? = some pr → pr.exp = .sometimes → ∃ t, P.M.Reach t ∧ pr.cond t = true)) := by
  have hdone : isDone P (run P cs) = true := by
    unfold isDone
    rw [hc.1.1, hc.1.2]
    rfl
  refine ⟨hdone, ?_⟩
  -- property by property, the test of `assertPropertiesOk` is the verdict theorem for that expectation
  rw [assertPropertiesOk_iff]
  simp only [← forall_and]
  refine forall₃_congr fun i pr hpr => ?_
  cases hexp : pr.exp with
  | eventually => exact absurd hexp (hne _ (List.mem_of_getElem? hpr))
  | sometimes => simp [C02_sometimes P hinj cs hc i pr hpr hexp]
  | always => simp [hdone, ← Bool.not_eq_true, C02_always P hinj cs hc i pr hpr hexp]

end SR.C02
