import SR.Actor.Glue
import SR.Proofs.ListAux
/-!
# Actor glue — property theorems (DESIGN §13c)

Model: `SR/Actor/Glue.lean`.  Theorem prefixes name the property whose code the helper belongs to:
`C15_` actor.rs helpers (`majority`, `peer_ids`), `C06_` `model_peers` (actor/model.rs), `C07_` network
names / `FromStr` (actor/network.rs), `C18_` register-harness client start-up.
-/
namespace SR.CActorGlue
open SR.Glue

/-- `majority n` is characterised by: strictly more than half, and not one more than needed. -/
theorem C15_majority_spec (n m : Nat) : m = majority n ↔ (n < 2 * m ∧ 2 * m ≤ n + 2) := by
  unfold majority
  omega

theorem C15_nodup_bounded_length : ∀ (n : Nat) (l : List Nat), l.Nodup → (∀ x ∈ l, x < n) → l.length ≤ n :=
  fun _ _ => nodup_lt_length_le

/-- Two majorities of the same cluster intersect. -/
theorem C15_majority_intersect (n : Nat) (a b : List Nat) (ha : a.Nodup) (hb : b.Nodup)
    (hab : ∀ x ∈ a, x < n) (hbb : ∀ x ∈ b, x < n)
    (hma : majority n ≤ a.length) (hmb : majority n ≤ b.length) : ∃ x, x ∈ a ∧ x ∈ b := by
  apply Classical.byContradiction
  intro hno
  have hdis : ∀ x, x ∈ a → x ∉ b := fun x hx hxb => hno ⟨x, hx, hxb⟩
  have hnd : (a ++ b).Nodup := by
    rw [List.nodup_append]
    exact ⟨ha, hb, fun x hx y hy e => hdis x hx (e ▸ hy)⟩
  have := C15_nodup_bounded_length n (a ++ b) hnd (List.forall_mem_append.2 ⟨hab, hbb⟩)
  rw [List.length_append] at this
  unfold majority at hma hmb
  omega

/-- `majority n` is the least such threshold: one less admits two disjoint sets. -/
theorem C15_majority_minimal (n : Nat) :
    ∃ a b : List Nat, a.Nodup ∧ b.Nodup ∧ (∀ x ∈ a, x < n) ∧ (∀ x ∈ b, x < n) ∧
      a.length = majority n - 1 ∧ b.length = majority n - 1 ∧ ∀ x, x ∈ a → x ∉ b := by
  refine ⟨List.range (n / 2), List.range' (n / 2) (n / 2), List.nodup_range, List.nodup_range', ?_, ?_, ?_, ?_, ?_⟩
  · intro x hx
    have := List.mem_range.1 hx
    omega
  · intro x hx
    have := List.mem_range'_1.1 hx
    omega
  · simp [majority]
  · simp [majority]
  · intro x hx hx'
    have := List.mem_range.1 hx
    have := List.mem_range'_1.1 hx'
    omega

example : majority 5 = 3 ∧ majority 4 = 3 ∧ majority 0 = 1 := by decide

/-- `peer_ids` yields exactly the ids different from `self`, in their original order and multiplicity. -/
theorem C15_peer_ids_spec (s : Nat) (ids : List Nat) :
    (∀ x, x ∈ peerIds s ids ↔ x ∈ ids ∧ x ≠ s) ∧
    (peerIds s ids).Sublist ids ∧
    s ∉ peerIds s ids ∧
    (∀ x, x ≠ s → (peerIds s ids).count x = ids.count x) ∧
    (peerIds s ids).length = ids.length - ids.count s := by
  unfold peerIds
  refine ⟨?_, List.filter_sublist, ?_, ?_, ?_⟩
  · intro x; simp
  · simp
  · intro x hx
    rw [List.count_filter]
    simpa using hx
  · have := List.length_eq_countP_add_countP (· == s) (l := ids)
    have h2 : List.countP (fun a => decide ¬(a == s) = true) ids = List.countP (· != s) ids :=
      List.countP_congr (by simp [bne])
    rw [← List.countP_eq_length_filter, List.count_eq_countP]
    omega

/-- The declarative reading used by the oracle determines the result: a sublist of `ids` that avoids `s` and has
dropped only as many elements as `s` occurs IS `peer_ids s ids`. -/
theorem C15_peer_ids_unique (s : Nat) (ids l : List Nat) (hsub : l.Sublist ids) (hs : s ∉ l)
    (hlen : l.length = ids.length - ids.count s) : l = peerIds s ids := by
  -- `l` is a sublist of the filtered list, of the same length
  have h1 : l.Sublist (peerIds s ids) := by
    have := hsub.filter (fun o => o != s)
    rwa [List.filter_eq_self.2 (fun x hx => bne_iff_ne.2 (by rintro rfl; exact hs hx))] at this
  exact h1.eq_of_length (by rw [hlen, (C15_peer_ids_spec s ids).2.2.2.2])

example : peerIds 1 [0, 1, 2, 1, 3] = [0, 2, 3] := by decide

/-- `model_peers i n` = all of `0..n` except `i`, ascending: it is `peer_ids i (0..n)`. -/
theorem C06_model_peers_spec (i n : Nat) :
    modelPeers i n = peerIds i (List.range n) ∧
    (∀ j, j ∈ modelPeers i n ↔ j < n ∧ j ≠ i) ∧
    (modelPeers i n).Pairwise (· < ·) ∧
    (modelPeers i n).length = (if i < n then n - 1 else n) := by
  refine ⟨rfl, ?_, ?_, ?_⟩
  · intro j; simp [modelPeers]
  · exact List.Pairwise.filter _ List.pairwise_lt_range
  · have h := (C15_peer_ids_spec i (List.range n)).2.2.2.2
    show (peerIds i (List.range n)).length = _
    rw [h, List.length_range, List.count_range]
    split <;> omega

example : modelPeers 1 4 = [0, 2, 3] ∧ modelPeers 7 3 = [0, 1, 2] := by decide

/-- `Network::names()` lists the three kinds once each, every listed name parses to its kind, and nothing else
parses. -/
theorem C07_net_names :
    names = [NetKind.ordered.str, NetKind.dup.str, NetKind.nondup.str] ∧
    names.Nodup ∧
    (∀ k : NetKind, fromStr k.str = some k ∧ k.str ∈ names) ∧
    (∀ s : String, s ∈ names ↔ (fromStr s).isSome) ∧
    (∀ s k, fromStr s = some k → s = k.str) := by
  refine ⟨by decide, by decide, ?_, ?_, ?_⟩
  · intro k; cases k <;> exact ⟨by decide, by decide⟩
  · intro s
    have hn : names = ["ordered", "unordered_duplicating", "unordered_nonduplicating"] := by decide
    rw [hn]
    -- `fromStr` is three string comparisons: each name against each
    unfold fromStr
    grind
  · intro s k h
    unfold fromStr at h
    grind [NetKind.str]

/-- A client placed before the servers panics at start-up ("clients must be added after servers"). -/
theorem C18_client_before_servers_panics (p sc index : Nat) (h : index < sc) : clientStart p sc index = none := by
  simp [clientStart, h]

/-- A client placed after `sc > 0` servers (at most 190 clients, so that the value stays a `u8`) starts without
panic; with `put_count = 0` it sends nothing and awaits nothing; otherwise it sends exactly one `Put` whose request
id is its own index, whose value is `'A' + (index - sc)`, to a SERVER (`index % sc < sc`), and awaits that id. -/
theorem C18_client_start (p sc index : Nat) (hsc : 0 < sc) (h : sc ≤ index) (hv : index - sc ≤ 190) :
    (p = 0 → clientStart p sc index = some ⟨none, 0, []⟩) ∧
    (0 < p → clientStart p sc index = some ⟨some index, 1, [(index % sc, index, 65 + (index - sc))]⟩ ∧
      index % sc < sc) := by
  have h1 : ¬ index < sc := by omega
  have h2 : (index - sc) % 256 = index - sc := Nat.mod_eq_of_lt (by omega)
  have h3 : ¬ 65 + (index - sc) > 255 := by omega
  have h4 : ¬ sc = 0 := by omega
  constructor
  · intro hp
    simp [clientStart, h1, hp]
  · intro hp
    have h5 : ¬ p = 0 := by omega
    refine ⟨?_, Nat.mod_lt _ hsc⟩
    simp only [clientStart, h1, h5, h2, h3, h4, if_false]

/-- The panics of the client start-up are exactly: placed before a server, or (with puts) no server at all, or a
value beyond `u8`. -/
theorem C18_client_start_panic_iff (p sc index : Nat) :
    clientStart p sc index = none ↔
      index < sc ∨ (0 < p ∧ sc ≤ index ∧ (sc = 0 ∨ 190 < (index - sc) % 256)) := by
  -- the cascade of `if`s of `clientStart`, branch by branch; what is left is linear arithmetic
  unfold clientStart
  grind

example : clientStart 2 3 4 = some ⟨some 4, 1, [(1, 4, 66)]⟩ := by decide
example : clientStart 1 3 2 = none := by decide

end SR.CActorGlue
