import SR.Proofs.MarketOracleSim
import SR.Proofs.MarketOracleLed
/-!
# C05 — adequacy of the job-market bookkeeping oracle `o-mk` (`Drv/C05.lean`: `oracle`, `oracleEnd`)

All theorems are about `oracleR` (`SR/Proofs/MarketOracle.lean`), a word-for-word copy of `Drv.C05.oracle`;
`C05_oracle_is_relaxed` states the EQUALITY `oracle = oracleR` and so carries them to the oracle the driver runs and to
`handle`.

**Model side.**  `mkRun s evs` is the driver's `replay` (`mk-run`) with answers as data (`Ans`) and `none` where `replay`
answers `!disabled` / `!unwoken` / `!spurious` (`C05_oracle_model_side_is_replay`): an event list is a run of `Market.stepR` in which a
notified worker wakes before anybody else acts and `notify_one`'s choice is read off the following `wake` events.
That the results render the model's answers (`Renders`, `RendersAll`) is a hypothesis and does not go through `toString`/
`String.toNat?` (I/O glue, no kernel reduction): the theorems hold for EVERY rendering that parses back.
-/
namespace SR.C05Oracle
open SR SR.Market SR.Drv.C05

/-- **No false alarm: every disciplined run of the market machine passes the oracle**, `oracleEnd` has no complaint
    wherever the run may end (`mayEnd sf`: no notified worker still to wake, and an open market holds no job), and the
    answer of `o-mk` is then `ok`.  `hdisc`: no `xpush` / `push` / `split` on a closed market before the oracle has been
    told of the stop (`tfire`, `drop`, `xdrop`, a `shut` or `closed` probe answered true) — what `Session::run_op` of
    harness/src/market_h.rs guarantees by logging `(shut)` right after the operation (and its wake-ups) that changed the
    answer of `is_shut_down()`; a precondition of the oracle, stated in the docstring of `Drv.C05.oracle`.  `_partial`:
    without `hdisc` the statement is false (`C05_oracle_rejects_undisciplined_run`), and so it is without `tc ≤ k`
    (`C05_oracle_rejects_tc_gt_k`). -/
theorem C05_oracle_accepts_model_runs_partial (k tc : Nat) (h : tc ≤ k) (evs : List Ev) (as : List Ans)
    (sf : MState) (rs : List SExp)
    (hrun : mkRun (init k tc) evs = some (as, sf))
    (hdisc : disciplined (init k tc) false evs = true)
    (hrs : RendersAll as rs) :
    (∃ of, oracleR k { locs := List.replicate k [] } evs rs = .ok of ∧ Sim k sf of ∧
      (mayEnd sf = true → oracleEnd of = none))
    ∧ (mayEnd sf = true → verdict k evs rs = "ok") := by
  obtain ⟨of, h1, h2⟩ := sim_run evs (init k tc) { locs := List.replicate k [] } as sf rs (sim_init k tc h) hrun hdisc hrs
  refine ⟨⟨of, h1, h2, sim_end h2⟩, ?_⟩
  intro he
  simp [verdict, h1, sim_end h2 he]

theorem C05_oracle_model_side_is_replay (s : MState) (evs : List Ev) (as : List Ans) (sf : MState)
    (h : mkRun s evs = some (as, sf)) : replay s evs = (as.map Ans.str, sf) := by
  induction evs generalizing s as with
  | nil =>
    unfold mkRun at h
    cases h
    rfl
  | cons e rest ih =>
    obtain ⟨s', a, as', hs, hr, rfl⟩ := mkRun_cons h
    have ih' := ih _ _ hr
    unfold evStep at hs
    obtain ⟨hl, hs⟩ := guard_some hs
    cases e <;> simp only [isWakeEv, Bool.not_true, Bool.not_false, Bool.true_and, Bool.false_and] at hl hs
    case pop w =>
      split at hs
      · rename_i hst
        cases hs
        simp only [replay, hst, ih', hl]
        rfl
      · cases hs
    case wake w =>
      split at hs
      · rename_i hw
        split at hs
        · rename_i hst
          cases hs
          simp only [replay, hst, ih', hw]
          rfl
        · cases hs
      · cases hs
    case clone | closed | shut =>
      cases hs
      simp only [replay, ih', hl]
      rfl
    all_goals
      obtain ⟨x, hst, hx⟩ := Option.map_eq_some_iff.1 hs
      cases hx
      simp only [replay, hst, ih', hl]
      rfl

/-- the run may end when all workers have returned (at least one worker): `join` has come back -/
theorem C05_oracle_end_all_exited (k tc : Nat) (h : tc ≤ k) (hk : 0 < k) (evs : List Ev) (as : List Ans)
    (sf : MState) (rs : List SExp)
    (hrun : mkRun (init k tc) evs = some (as, sf))
    (hdisc : disciplined (init k tc) false evs = true)
    (hrs : RendersAll as rs) (hex : ∀ p, p ∈ sf.pcs → p = Pc.exited) :
    verdict k evs rs = "ok" := by
  obtain ⟨⟨of, _, hs, _⟩, hv⟩ := C05_oracle_accepts_model_runs_partial k tc h evs as sf rs hrun hdisc hrs
  apply hv
  have hne : sf.pcs ≠ [] := by
    intro hn
    have := hs.pc.len
    rw [hn] at this
    simp at this
    omega
  obtain ⟨p, hp⟩ := List.exists_mem_of_ne_nil _ hne
  have hclosed : sf.isOpen = false := (hs.pinv.dropped (hs.pinv.exited (hex p hp ▸ hp))).1
  have hpw : pendingWake sf = false := by
    cases hpw : pendingWake sf with
    | false => rfl
    | true =>
      have : Pc.parked true ∈ sf.pcs := by simpa [pendingWake] using hpw
      cases hex _ this
  simp [mayEnd, hpw, hclosed]

/-- real sharing: the owner pushes 4 jobs, worker 0 takes them, worker 1 finds nothing and sleeps, worker 0 evaluates a
    job, splits (waking 1, which takes the batch), an empty batch is pushed and popped, a `push`, probes -/
def exEvs1 : List Ev :=
  [.xpush [1, 2, 3, 4], .pop 0, .pop 1, .work 0 1 [5, 6], .split 0, .wake 1, .xpush [], .pop 1, .push 0 1, .pop 1,
    .shut, .closed]

example :
    (mkRun (init 2 2) exEvs1).map (·.1) =
      some [.dash, .pop (.got [1, 2, 3, 4]), .pop .park, .dash, .toks [5, 6, 1], .pop (.got [2, 3]), .dash,
        .pop (.got []), .dash, .pop (.got [5]), .bool false, .bool false]
    ∧ disciplined (init 2 2) false exEvs1 = true
    ∧ (mkRun (init 2 2) exEvs1).map (fun x => mayEnd x.2) = some true := by decide

/-- the last active worker closes the market; the sleeper is woken; the probe is logged; THEN the owner pushes and a
    worker splits on the closed market; both workers leave -/
def exEvs2 : List Ev := [.pop 0, .pop 1, .wake 0, .shut, .xpush [7], .split 1, .closed, .drop 0, .drop 1]
def exRs2 : List SExp :=
  [.atom "park", .list [], .list [], .atom "t", .atom "-", .list [], .atom "t", .atom "-", .atom "-"]

example :
    (mkRun (init 2 2) exEvs2).map (·.1) =
      some [.pop .park, .pop .empty, .pop .empty, .bool true, .dash, .toks [], .bool true, .dash, .dash]
    ∧ disciplined (init 2 2) false exEvs2 = true
    ∧ (mkRun (init 2 2) exEvs2).map (fun x => (mayEnd x.2, x.2.pcs)) = some (true, [.exited, .exited]) := by decide
example :
    RendersAll [.pop .park, .pop .empty, .pop .empty, .bool true, .dash, .toks [], .bool true, .dash, .dash] exRs2 :=
  ⟨rfl, rfl, rfl, rfl, trivial, rfl, rfl, trivial, trivial, trivial⟩
-- and the oracle evaluated on it, independently of the theorem
example : verdict 2 exEvs2 exRs2 = "ok" := by decide

/-- **Without the harness discipline the oracle rejects a legal model run.**  One worker: its `pop`
    finds nothing, it is the last active worker, the market closes (`()`); the owner then pushes job 5 (dropped: the
    market is closed), and only then `is_shut_down()` is probed.  The oracle answers
    `closed-by-last-worker-with-jobs-on-the-market` (it took the `()` for an empty batch and job 5 for a job on an open
    market).  Same with the `closed` probe; and without any probe `oracleEnd` complains. -/
theorem C05_oracle_rejects_undisciplined_run :
    (mkRun (init 1 1) [.pop 0, .xpush [5], .shut]).map (fun x => (x.1, mayEnd x.2))
      = some ([.pop .empty, .dash, .bool true], true)
    ∧ RendersAll [.pop .empty, .dash, .bool true] [.list [], .atom "-", .atom "t"]
    ∧ disciplined (init 1 1) false [.pop 0, .xpush [5], .shut] = false
    ∧ verdict 1 [.pop 0, .xpush [5], .shut] [.list [], .atom "-", .atom "t"]
        = "closed-by-last-worker-with-jobs-on-the-market"
    ∧ verdict 1 [.pop 0, .xpush [5], .closed] [.list [], .atom "-", .atom "t"]
        = "is_closed-with-jobs-on-the-market"
    ∧ verdict 1 [.pop 0, .xpush [5]] [.list [], .atom "-"] = "jobs-left-on-an-open-market-after-drain"
    -- the live `oracle` answers the same
    ∧ verdictLive 1 [.pop 0, .xpush [5], .shut] [.list [], .atom "-", .atom "t"]
        = "closed-by-last-worker-with-jobs-on-the-market" :=
  -- the verdicts by `rfl`, not `decide`: both sides compute to the same literal, whereas `decide` would run `String.decEq`,
  -- which compares the UTF-8 byte lists through `UInt8`/`BitVec` (about 20 000 heartbeats a character)
  ⟨by decide, ⟨rfl, trivial, rfl, trivial⟩, by decide, rfl, rfl, rfl, rfl⟩

/-- with the probe logged where the harness logs it, the same operations pass -/
example : disciplined (init 1 1) false [.pop 0, .shut, .xpush [5], .closed] = true
    ∧ verdict 1 [.pop 0, .shut, .xpush [5], .closed] [.list [], .atom "t", .atom "-", .atom "t"] = "ok" := by decide

/-- `tc ≤ k` is needed: a market created for two threads and driven by one worker lets that worker sleep with nobody
    left to wake it — a legal run of the machine (the C05 market theorems exclude it by the same hypothesis), rejected -/
theorem C05_oracle_rejects_tc_gt_k :
    (mkRun (init 1 2) [.pop 0]).map (·.1) = some [.pop .park]
    ∧ disciplined (init 1 2) false [.pop 0] = true
    ∧ verdict 1 [.pop 0] [.atom "park"] = "everybody-asleep:nobody-left-to-wake-them" := ⟨by decide, by decide, rfl⟩

/-- **What `oracle` accepts satisfies the observable content of `C05_conservation` and `C05_no_lost_wakeup`.**
    `l` is the ledger of the observations (`ledger`: jobs handed to the market by `xpush` / `push` / `split`, jobs handed
    out by `pop` / `wake`, each worker's deque, who sleeps, who left — computed with no check).  If `oracle` accepts:

    1. (no job duplicated or invented) the jobs handed out, those the oracle still holds on the market and some rest
       `lost` (discarded by a stop) are — as multisets — exactly the jobs handed in;
    2. (no job lost) as long as no event told of a stop (`noClose`), `lost` is empty; if moreover `oracleEnd` has no
       complaint, every job handed in has been handed out exactly once;
    3. the deques the oracle attributes to the workers are those of the ledger;
    4. (nobody sleeps on work) no worker went to sleep while — no stop known — a job handed in was not yet handed out;
    5. (no lost wake-up) whenever somebody sleeps, a worker is awake (in range, not asleep, not gone) or a sleeper has
       been notified by a stop and must wake next (`mustWake`); at an accepted end (`oracleEnd = none`) a worker is
       awake. -/
theorem C05_oracle_sound (k : Nat) (evs : List Ev) (rs : List SExp) (of : Obs)
    (h : oracleR k { locs := List.replicate k [] } evs rs = .ok of) :
    let l := ledger { locs := List.replicate k [] } evs rs
    (∃ lost : List Nat, l.pushed.Perm (l.popped ++ of.market ++ lost))
    ∧ (noClose evs rs = true → l.pushed.Perm (l.popped ++ of.market))
    ∧ (noClose evs rs = true → oracleEnd of = none → l.pushed.Perm l.popped)
    ∧ of.locs = l.locs
    ∧ sleptOnJobs { locs := List.replicate k [] } false evs rs = false
    ∧ (l.parked ≠ [] → (∃ v, v < k ∧ v ∉ l.parked ∧ v ∉ l.exited) ∨ of.mustWake ≠ [])
    ∧ (oracleEnd of = none → l.parked ≠ [] → ∃ v, v < k ∧ v ∉ l.parked ∧ v ∉ l.exited) := by
  intro l
  obtain ⟨hl, hkn, hsl⟩ := led_run evs rs _ _ (led_init k) of h
  have hopen : noClose evs rs = true → l.pushed.Perm (l.popped ++ of.market) := by
    intro hn
    rw [List.perm_iff_count]
    intro t
    rw [List.count_append]
    exact hl.lt.consOpen (hkn hn) t
  have haw : l.parked ≠ [] → (∃ v, v < k ∧ v ∉ l.parked ∧ v ∉ l.exited) ∨ of.mustWake ≠ [] := by
    intro hp
    have := hl.pa.aw (by rw [hl.parked]; exact hp)
    rw [hl.parked, hl.exited] at this
    exact this
  refine ⟨?_, hopen, ?_, hl.lt.locs, hsl, haw, ?_⟩
  · obtain ⟨lost, hc⟩ := hl.lt.cons
    refine ⟨lost, ?_⟩
    rw [List.perm_iff_count]
    intro t
    rw [List.count_append, List.count_append]
    exact hc t
  · intro hn he
    have := hopen hn
    rwa [((oracleEnd_none_iff of).1 he).2 (hkn hn), List.append_nil] at this
  · intro he hp
    exact (haw hp).resolve_right (fun hm => hm ((oracleEnd_none_iff of).1 he).1)

-- an accepted list, evaluated (`exEvs2` / `exRs2` above): the oracle's final state
example :
    (match oracleR 2 { locs := List.replicate 2 [] } exEvs2 exRs2 with
      | .ok o => o.parked == [] && o.exited == [1, 0] && o.dropSeen && o.mustWake == [] && o.locs == [[], []]
      | .error _ => false) = true := by decide
example :
    let l := ledger { locs := List.replicate 2 [] } exEvs2 exRs2
    l.pushed = [7] ∧ l.popped = [] ∧ l.parked = [] ∧ l.exited = [1, 0] := by decide

-- a stop-free accepted list: an empty batch pushed and taken, then worker 1 sleeps while worker 0 is awake
example :
    verdict 2 [.xpush [], .pop 0, .pop 1] [.atom "-", .list [], .atom "park"] = "ok"
    ∧ noClose [.xpush [], .pop 0, .pop 1] [.atom "-", .list [], .atom "park"] = true
    ∧ (ledger { locs := List.replicate 2 [] } [.xpush [], .pop 0, .pop 1] [.atom "-", .list [], .atom "park"]).parked
        = [1] := by decide

example : verdict 2 [.xpush [1, 2], .pop 0] [.atom "-", .atom "park"] = "worker-sleeps-while-jobs-are-on-the-market"
    ∧ verdict 2 [.xpush [], .pop 0] [.atom "-", .atom "park"] = "worker-sleeps-while-a-batch-is-on-the-market"
    ∧ verdict 2 [.pop 0, .pop 1] [.atom "park", .atom "park"] = "everybody-asleep:nobody-left-to-wake-them"
    ∧ verdict 2 [.wake 1] [.list []] = "wake-of-a-worker-that-was-not-asleep"
    ∧ verdict 2 [.pop 0, .pop 0] [.atom "park", .list []] = "harness:inactive-worker-acts"
    ∧ verdict 2 [.pop 0, .xdrop, .pop 1] [.atom "park", .atom "-", .list []] = "a-worker-asleep-at-a-stop-did-not-wake"
    ∧ verdict 2 [.pop 0, .xdrop] [.atom "park", .atom "-"] = "a-worker-asleep-at-a-stop-never-woke"
    ∧ verdict 2 [.xdrop, .shut] [.atom "-", .atom "f"] = "market-reopened-or-stop-not-visible" :=
  ⟨rfl, rfl, rfl, rfl, rfl, rfl, rfl, rfl⟩

/-- worker 0 takes `[1, 2]`, worker 1 sleeps, worker 0 splits, worker 1 is woken and takes what was shared -/
def exSplitEvs : List Ev := [.xpush [1, 2], .pop 0, .pop 1, .split 0, .wake 1]

/-- **A `split_and_push` that keeps the SUFFIX (shares from the front) is accepted, one that invents or duplicates a job
    is rejected.**  `rk` is the answer of `split` (the jobs kept); the token lists are given by what the results parse to
    (`String.toNat?` has no kernel reduction, so numerals cannot be `decide`d and the five events are evaluated by `simp`). -/
theorem C05_oracle_split_relaxed (r12 rk rw : SExp) (h12 : resToks? r12 = some [1, 2]) (hw : resToks? rw = some [1]) :
    (resToks? rk = some [2] →
      verdict 2 exSplitEvs [.atom "-", r12, .atom "park", rk, rw] = "ok")
    ∧ (resToks? rk = some [3] →
      verdict 2 exSplitEvs [.atom "-", r12, .atom "park", rk, rw] = "split-invented-or-duplicated-jobs")
    ∧ (resToks? rk = some [2, 2] →
      verdict 2 exSplitEvs [.atom "-", r12, .atom "park", rk, rw] = "split-invented-or-duplicated-jobs") := by
  obtain ⟨x12, rfl⟩ := resToks?_list h12
  obtain ⟨xw, rfl⟩ := resToks?_list hw
  refine ⟨?_, ?_, ?_⟩
  · intro hk
    obtain ⟨xk, rfl⟩ := resToks?_list hk
    simp [verdict, exSplitEvs, oracleR, h12, hw, hk, eraseAll?, awake, oracleEnd, List.range, List.range.loop]
  · intro hk
    obtain ⟨xk, rfl⟩ := resToks?_list hk
    simp [verdict, exSplitEvs, oracleR, h12, hk, eraseAll?, awake, List.range, List.range.loop]
  · intro hk
    obtain ⟨xk, rfl⟩ := resToks?_list hk
    simp [verdict, exSplitEvs, oracleR, h12, hk, eraseAll?, awake, List.range, List.range.loop]

-- the model's own split (keeps the PREFIX `[1]`, shares `[2]`) on the same operations: a legal, disciplined run
example :
    (mkRun (init 2 2) exSplitEvs).map (·.1) =
      some [.dash, .pop (.got [1, 2]), .pop .park, .toks [1], .pop (.got [2])]
    ∧ disciplined (init 2 2) false exSplitEvs = true := by decide

/-- "relaxed" refers to the `.split` clause of both, which checks conservation only (`C05_oracle_split_relaxed`) and
    not which jobs are kept: C05 does not pin which jobs `split_and_push` keeps -/
theorem C05_oracle_is_relaxed : @oracle = @oracleR := oracle_eq_oracleR

/-- the driver command as `handle` parses it answers `ok` on every disciplined model run that may end: `k`, the events and
    the results arrive as S-expressions -/
theorem C05_oracle_handle_ok (k tc : Nat) (h : tc ≤ k) (evs : List Ev) (as : List Ans)
    (sf : MState) (ksx tcsx esx : SExp) (rs : List SExp)
    (hk : ksx.nat? = some k) (he : esx.listOf? evOf? = some evs)
    (hrun : mkRun (init k tc) evs = some (as, sf))
    (hdisc : disciplined (init k tc) false evs = true)
    (hrs : RendersAll as rs) (hend : mayEnd sf = true) :
    Drv.C05.handle "o-mk" [ksx, tcsx, esx, .list rs] = some "ok" := by
  rw [handle_omk rs hk he, verdictLive_eq,
    (C05_oracle_accepts_model_runs_partial k tc h evs as sf rs hrun hdisc hrs).2 hend]

end SR.C05Oracle
