import SR.Proofs.ActorAdapters
/-!
# C15 — actor adapters are transparent to the actor they wrap

Model: `SR/Actor/Adapters.lean` — `Actor.wrap` is the one shape all four adapters of the
code have (untag the state, run the wrapped handler with a fresh `Out`, append it, re-tag the state if it came
back `Cow::Owned`); `wrapL`/`wrapR` = `Choice::L/R` in `Choice<A1,A2>`, `wrapOnly` = `Choice<A,Never>`,
`serverOf` = the `Server` arms of `RegisterActor` / `WORegisterActor`; `scripted` = `impl Actor for Vec<(Id,Msg)>`.
`Transparent tag a b`: for EVERY event (start, message, timeout, random choice) `b` on the tagged state hands
the same arguments to `a` and returns `a`'s state change re-tagged and `a`'s commands unchanged. The theorems
quantify over all wrapped actors (any handler functions), all nestings, all systems and all executions.
-/
namespace SR.C15
open SR SR.Actor

variable {σ σ' σ'' η : Type}

/-- the general form: any adapter of the common shape whose `untag` inverts its `tag` -/
theorem C15_handlers_wrap (tag : σ → σ') (untag : σ' → Option σ) (miss : HRes σ') (a : Actor σ)
    (h : ∀ s, untag (tag s) = some s) : Transparent tag a (a.wrap tag untag miss) where
  start _ := rfl
  msg id s src m := by simp [Actor.wrap, h]
  timeout id s t := by simp [Actor.wrap, h]
  random id s r := by simp [Actor.wrap, h]

/-- **Handlers**: each adapter forwards start, message, timeout and random-choice events unchanged and
returns the wrapped actor's result unchanged (state re-tagged). -/
theorem C15_handlers (a : Actor σ) :
    Transparent (Sum.inl : σ → σ ⊕ σ') a a.wrapL ∧
    (∀ b : Actor σ', Transparent (Sum.inr : σ' → σ ⊕ σ') b b.wrapR) ∧
    Transparent (Sum.inl : σ → σ ⊕ Empty) a a.wrapOnly ∧
    Transparent RegSt.server a a.serverOf :=
  ⟨C15_handlers_wrap _ _ _ a (fun _ => rfl), fun b => C15_handlers_wrap _ _ _ b (fun _ => rfl),
   C15_handlers_wrap _ _ _ a (fun _ => rfl), C15_handlers_wrap _ _ _ a (fun _ => rfl)⟩

/-- **Nesting**: transparency composes, so `Choice` in any position and any nesting with the register adapters
is transparent (e.g. position 2 of `choice![A,B,C]` is `wrapR ∘ wrapR ∘ wrapOnly`). -/
theorem C15_nest {t1 : σ → σ'} {t2 : σ' → σ''} {a : Actor σ} {b : Actor σ'} {c : Actor σ''}
    (h1 : Transparent t1 a b) (h2 : Transparent t2 b c) : Transparent (t2 ∘ t1) a c where
  start id := by
    rw [h2.start, h1.start]
    rfl
  msg id s src m := by
    simp only [Function.comp]
    rw [h2.msg, h1.msg, HRes.map_map]
  timeout id s t := by
    simp only [Function.comp]
    rw [h2.timeout, h1.timeout, HRes.map_map]
  random id s r := by
    simp only [Function.comp]
    rw [h2.random, h1.random, HRes.map_map]

/-- an instance: a server under `RegisterActor::Server` in position 1 of a three-way `Choice` -/
theorem C15_nest_example (a : Actor σ) :
    Transparent (fun s => (Sum.inr (Sum.inl (RegSt.server s)) : σ' ⊕ (RegSt σ ⊕ σ''))) a
      (a.serverOf.wrapL.wrapR) :=
  C15_nest (C15_nest (C15_handlers (σ' := Empty) a).2.2.2 (C15_handlers (σ' := σ'') a.serverOf).1)
    (C15_handlers_wrap Sum.inr Sum.getRight? .panic _ (fun _ => rfl))

/-- **Step**: in a system whose actors are wrapped (each with its own tag), every action from a lifted state
does exactly what it does in the unwrapped system, lifted — including being ignored and panicking. -/
theorem C15_step {tag : Nat → σ → σ'} {sys : ActorSys σ η} {sys' : ActorSys σ' η} (hw : SysWrapped tag sys sys')
    (st : St σ η) (a : Action) :
    step sys' (st.lift tag) a = (step sys st a).map (St.lift tag) ∧
    actions sys' (st.lift tag) = actions sys st :=
  ⟨step_lift hw st a, actions_lift hw st⟩

theorem C15_wrapped_system (tag : Nat → σ → σ') (untag : Nat → σ' → Option σ) (miss : Nat → HRes σ')
    (sys : ActorSys σ η) (h : ∀ i s, untag i (tag i s) = some s) :
    SysWrapped tag sys (sys.mapActors (fun i a => a.wrap (tag i) (untag i) (miss i))) :=
  sysWrapped_mapActors tag sys _ (fun i => C15_handlers_wrap _ _ _ _ (h i))

/-- **Isomorphism**: `lift` maps the reachable states of the unwrapped system one-to-one onto the reachable
states of the wrapped system, and commutes with initial states, enabled actions and steps (`C15_step`). -/
theorem C15_iso {tag : Nat → σ → σ'} {sys : ActorSys σ η} {sys' : ActorSys σ' η} (hw : SysWrapped tag sys sys')
    (inB : St σ η → Bool) (inB' : St σ' η → Bool) (hB : ∀ st, inB' (st.lift tag) = inB st)
    (hinj : ∀ i s t, tag i s = tag i t → s = t) :
    (∀ st', (sys'.toSys inB').Reach st' ↔ ∃ st, (sys.toSys inB).Reach st ∧ st' = st.lift tag) ∧
    (∀ a b : St σ η, a.lift tag = b.lift tag → a = b) := by
  refine ⟨fun st' => ⟨?_, ?_⟩, lift_injective hinj⟩
  · intro h
    induction h with
    | init hi =>
      obtain ⟨rfl, hb⟩ := mem_initB_toSys.1 hi
      rw [specInit_lift hw, hB] at hb
      exact ⟨specInit sys, .init (mem_initB_toSys.2 ⟨rfl, hb⟩), specInit_lift hw⟩
    | step _ hs ih =>
      obtain ⟨s, hr, rfl⟩ := ih
      obtain ⟨⟨a, hmem, hst⟩, hb⟩ := mem_succB_toSys.1 hs
      rw [step_lift hw] at hst
      obtain ⟨t, hst', rfl⟩ := Outcome.map_eq_next hst
      rw [actions_lift hw] at hmem
      rw [hB] at hb
      exact ⟨t, .step hr (mem_succB_toSys.2 ⟨⟨a, hmem, hst'⟩, hb⟩), rfl⟩
  · rintro ⟨st, hr, rfl⟩
    induction hr with
    | init hi =>
      obtain ⟨rfl, hb⟩ := mem_initB_toSys.1 hi
      exact .init (mem_initB_toSys.2 ⟨(specInit_lift hw).symm, (hB _).trans hb⟩)
    | @step s t _ hs ih =>
      obtain ⟨⟨a, hmem, hst⟩, hb⟩ := mem_succB_toSys.1 hs
      refine .step ih (mem_succB_toSys.2 ⟨⟨a, (actions_lift hw s).symm ▸ hmem, ?_⟩, (hB t).trans hb⟩)
      rw [step_lift hw, hst]
      rfl

/-- the scripted client run: `on_start`, then one `on_msg` per received message `(src, msg)` -/
def runClient (script : List (Nat × Nat)) (id : Nat) (msgs : List (Nat × Nat)) : Nat × List Cmd :=
  msgs.foldl (fun (acc : Nat × List Cmd) sm =>
    match (scripted script).msg id acc.1 sm.1 sm.2 with
    | .ok ns cmds => (ns.getD acc.1, acc.2 ++ cmds)
    | .panic => acc) ((scripted script).start id)

/-- **Scripted client**: after `k` received messages (whatever they are and whoever sent them) the client has
sent exactly the first `min (k+1) len` entries of its script, in order, one per event, and nothing else; its
state is that number. Its timeout and random handlers do nothing. -/
theorem C15_vec_client (script : List (Nat × Nat)) (id : Nat) (msgs : List (Nat × Nat)) :
    runClient script id msgs =
      (min (msgs.length + 1) script.length,
       (script.take (min (msgs.length + 1) script.length)).map (fun p => Cmd.send p.1 p.2)) ∧
    (∀ s t, (scripted script).timeout id s t = .ok none []) ∧
    (∀ s r, (scripted script).random id s r = .ok none []) := by
  refine ⟨?_, fun _ _ => rfl, fun _ _ => rfl⟩
  unfold runClient
  generalize hF : (fun (acc : Nat × List Cmd) (sm : Nat × Nat) => _) = F
  -- `S n`: the client after its first `n` script entries went out; one message moves it from `S n` to `S (n + 1)`
  -- while there are entries left
  let S : Nat → Nat × List Cmd := fun n => (n, (script.take n).map (fun p => Cmd.send p.1 p.2))
  have step : ∀ n, n ≤ script.length → ∀ sm, F (S n) sm = S (min (n + 1) script.length) := by
    intro n hn sm
    subst hF
    simp only [S, scripted]
    rcases Nat.lt_or_eq_of_le hn with hlt | rfl
    · rw [List.getElem?_eq_getElem hlt, Nat.min_eq_left hlt]
      simp only [Option.getD_some, List.take_add_one, List.getElem?_eq_getElem hlt, Option.toList_some,
        List.map_append, List.map_cons, List.map_nil]
    · simp
  have run : ∀ (msgs : List (Nat × Nat)) n, n ≤ script.length →
      msgs.foldl F (S n) = S (min (n + msgs.length) script.length) := by
    intro msgs
    induction msgs with
    | nil =>
      intro n hn
      simp [Nat.min_eq_left hn]
    | cons m ms ih =>
      intro n hn
      rw [List.foldl_cons, step n hn, ih _ (Nat.min_le_right _ _)]
      congr 1
      simp only [List.length_cons]
      omega
  have start : (scripted script).start id = S (min 1 script.length) := by
    cases script <;> simp [S, scripted]
  rw [start, run msgs _ (Nat.min_le_right _ _)]
  congr 1
  omega

/-! ## the hypotheses are satisfiable -/

/-- an actor that uses every kind of event -/
def exActor : Actor Nat where
  start _ := (0, [.setTimer 1, .chooseRandom 0 [1, 2]])
  msg _ s src m := .ok (some (s + m)) [.send src m]
  timeout _ s t := .ok (some (s + 10 * t)) [.setTimer t]
  random _ s r := .ok (some (s + 100 * r)) []

example : (exActor.wrapL (σ' := Nat)).random 0 (Sum.inl 5) 2 = .ok (some (Sum.inl 205)) [] := rfl
example : (exActor.wrapL (σ' := Nat)).msg 0 (Sum.inr 5) 1 2 = .panic := rfl
example : exActor.serverOf.timeout 0 (RegSt.client none 0) 1 = .ok none [] := rfl
example : runClient [(1, 7), (1, 8)] 0 [(1, 0), (1, 0), (1, 0)] = (2, [.send 1 7, .send 1 8]) := by decide

end SR.C15
