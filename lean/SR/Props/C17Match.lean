import SR.Proofs.RuntimeMatch
/-!
# C17 — the datagram matching of the runtime oracle `o-trace`

`o-trace` (`SR.Drv.C17.checkScenario`) replays the log of a real `spawn()` run.  A logged `on_msg` carries only
`(t, src id, msg)`; `eventsOf` backs it GREEDILY (`takeFirst`) by the first datagram of the actor's pool (the datagrams
sent to this actor: the harness's, then `sendsOf` of every actor) that is FEASIBLE: `okDg r d` = same source id, deserializes
to the claimed message, sent no later than the handler ran.  What is left of the pool is then subject to the delivery deadline
(`mustDeliver`: parses, sent at or after the destination's `on_start`, at least `grace` before the end of the observation).

Greedy loses nothing once the pool is normalised (must-deliver datagrams first: `C17_oracle_normalise`): on time-ordered logs
`o-trace` answers `ok` iff every actor has SOME matching (an injective assignment of its receives to feasible pool datagrams)
that passes every check (`C17_oracle_scenario_iff`).
-/
namespace SR.C17Match
open SR SR.Drv.C17 SR.IdCodec SR.Loop SR.RuntimeMatch

deriving instance DecidableEq for SR.Drv.C17.Dg

def me : Addr := ⟨127, 0, 0, 1, 3000⟩
def peer : Addr := ⟨127, 0, 0, 1, 4000⟩
/-- the datagram `M5` from `peer` to `me`, sent at `t` -/
def dg (t : Nat) : Dg := ⟨t, peer, me, [77, 53]⟩
/-- `on_msg(src = peer, msg = 5)` logged at `t` -/
def rcv (t : Nat) : Entry := .msg t 0 (idOf peer) 5 0 []

example : okDg ⟨10, idOf peer, 5⟩ (dg 3) = true := by decide
example : okDg ⟨10, idOf peer, 5⟩ (dg 11) = false := by decide

/-- `eventsOf` is `greedy okDg` on the `on_msg` entries of the log -/
theorem C17_oracle_eventsOf_is_greedy (pool : List Dg) (log : List Entry) (i : Nat) :
    (∀ evs left, eventsOf pool log i = .ok (evs, left) ↔
      ∃ ch, greedy okDg pool (recvsOf log) = some (ch, left) ∧ evs = backed log ch) ∧
    ((∃ e, eventsOf pool log i = .error e) ↔ greedy okDg pool (recvsOf log) = none) := by
  refine ⟨fun evs left => ?_, ?_⟩
  · rw [← Except.toOption_eq_some, eventsOf_toOption, Option.map_eq_some_iff]
    constructor
    · rintro ⟨⟨ch, l⟩, hg, he⟩
      cases he
      exact ⟨ch, hg, rfl⟩
    · rintro ⟨ch, hg, rfl⟩
      exact ⟨(ch, left), hg, rfl⟩
  · rw [← Except.toOption_eq_none, eventsOf_toOption, Option.map_eq_none_iff]

/-- the multiset formulation (`Matching`) and the injective assignment of receives to pool positions (`Assignment`) are the
same notion -/
theorem C17_oracle_matching_is_injective_assignment {α ρ : Type} (ok : ρ → α → Bool) (pool : List α) (rs : List ρ)
    (ch : List α) :
    (∃ left, Matching ok pool rs ch left) ↔ ∃ f, Assignment ok pool rs f ∧ f.filterMap (fun i => pool[i]?) = ch := by
  constructor
  · rintro ⟨left, hp, hs⟩
    obtain ⟨f, hn, hf⟩ := append_perm_iff_index.1 ⟨left, hs⟩
    exact ⟨f, ⟨pairedIdx_iff.2 ⟨ch, hf, hp⟩, hn⟩, filterMap_eq_of_map_eq_some hf⟩
  · rintro ⟨f, ⟨hp, hn⟩, rfl⟩
    obtain ⟨ch, hf, hp⟩ := pairedIdx_iff.1 hp
    obtain ⟨left, hs⟩ := append_perm_iff_index.2 ⟨f, hn, hf⟩
    exact ⟨left, filterMap_eq_of_map_eq_some hf ▸ ⟨hp, hs⟩⟩

example : Assignment okDg [dg 3, dg 7] [⟨5, idOf peer, 5⟩, ⟨10, idOf peer, 5⟩] [0, 1] :=
  ⟨⟨⟨dg 3, rfl, by decide⟩, ⟨dg 7, rfl, by decide⟩, trivial⟩, by decide⟩

/-- SOUND: if `eventsOf` succeeds, the datagrams it chose form a matching (an injective assignment) of the logged receives
into the pool with the returned left-over, and the events are the log backed by exactly these datagrams -/
theorem C17_oracle_match_sound {pool : List Dg} {log : List Entry} {i : Nat} {evs : List E} {left : List Dg}
    (h : eventsOf pool log i = .ok (evs, left)) :
    ∃ ch, Matching okDg pool (recvsOf log) ch left ∧ evs = backed log ch ∧
      ∃ f, Assignment okDg pool (recvsOf log) f ∧ f.filterMap (fun i => pool[i]?) = ch := by
  obtain ⟨ch, hg, he⟩ := ((C17_oracle_eventsOf_is_greedy pool log i).1 evs left).1 h
  have hm := greedy_sound hg
  exact ⟨ch, hm, he, (C17_oracle_matching_is_injective_assignment _ _ _ _).1 ⟨left, hm⟩⟩

example : ∃ evs, eventsOf [dg 3, dg 7] [rcv 5, rcv 10] 0 = .ok (evs, []) :=
  ⟨_, eventsOf_greedy_some _ _ 0 (ch := [dg 3, dg 7]) (by decide)⟩

/-- COMPLETE: if ANY matching of the logged receives into the pool exists and same-key receives are logged in time order
(`RecvsOrdered`, implied by `logOrdered log = true`: `C17_oracle_preconditions_checkable`), `eventsOf` succeeds.
Nothing is demanded of the pool (`poolOrdered` is not needed): the send-time test is part of the feasibility test, and in a
time-ordered log a datagram feasible now stays feasible. -/
theorem C17_oracle_match_complete {pool : List Dg} {log : List Entry} (i : Nat) {ch left : List Dg}
    (hlog : RecvsOrdered (recvsOf log)) (hM : Matching okDg pool (recvsOf log) ch left) :
    ∃ evs left', eventsOf pool log i = .ok (evs, left') := by
  obtain ⟨chg, leftg, hg⟩ := greedy_complete (exch_of_recvsOrdered hlog) hM
  exact ⟨_, _, eventsOf_greedy_some log pool i hg⟩

theorem C17_oracle_match_complete_assignment {pool : List Dg} {log : List Entry} (i : Nat) {f : List Nat}
    (hlog : logOrdered log = true) (hA : Assignment okDg pool (recvsOf log) f) :
    ∃ evs left', eventsOf pool log i = .ok (evs, left') := by
  obtain ⟨left, hM⟩ := (C17_oracle_matching_is_injective_assignment _ _ _ _).2 ⟨f, hA, rfl⟩
  exact C17_oracle_match_complete i (recvsOrdered_of_logOrdered hlog) hM

/-- on a time-ordered log, `on_msg-without-datagram` is a genuine alarm: no matching exists -/
theorem C17_oracle_match_alarm_genuine {pool : List Dg} {log : List Entry} {i : Nat} {e : String}
    (hlog : logOrdered log = true) (h : eventsOf pool log i = .error e) :
    (¬ ∃ ch left, Matching okDg pool (recvsOf log) ch left) ∧ ¬ ∃ f, Assignment okDg pool (recvsOf log) f := by
  have key : ¬ ∃ ch left, Matching okDg pool (recvsOf log) ch left := by
    rintro ⟨ch, left, hM⟩
    obtain ⟨evs, left', h'⟩ := C17_oracle_match_complete i (recvsOrdered_of_logOrdered hlog) hM
    rw [h] at h'
    cases h'
  refine ⟨key, ?_⟩
  rintro ⟨f, hA⟩
  obtain ⟨left, hM⟩ := (C17_oracle_matching_is_injective_assignment _ _ _ _).2 ⟨f, hA, rfl⟩
  exact key ⟨_, left, hM⟩

-- non-vacuous: an ordered log, an unordered pool, a matching that is NOT the greedy one
example : logOrdered [rcv 5, rcv 10] = true ∧ poolOrdered [dg 7, dg 3] = false ∧
    Matching okDg [dg 7, dg 3] (recvsOf [rcv 5, rcv 10]) [dg 3, dg 7] [] :=
  ⟨by decide, by decide, ⟨by decide, by decide, trivial⟩, List.Perm.swap _ _ _⟩

/-- `logOrdered` IS necessary: the log `[on_msg at 10, on_msg at 5]` (same source, same message) and the pool `[sent at 3, sent
at 7]` have a matching (`10 ↦ 7`, `5 ↦ 3`) but the greedy pass gives the datagram sent at 3 to the first entry and fails on the
second.  (Such a log is rejected by the replay anyway, as `clock-backwards`: the alarm is mislabelled, not false.) -/
theorem C17_oracle_match_needs_logOrdered :
    logOrdered [rcv 10, rcv 5] = false ∧ poolOrdered [dg 3, dg 7] = true ∧
    Matching okDg [dg 3, dg 7] (recvsOf [rcv 10, rcv 5]) [dg 7, dg 3] [] ∧
    ∃ e, eventsOf [dg 3, dg 7] [rcv 10, rcv 5] 0 = .error e :=
  ⟨by decide, by decide, ⟨⟨by decide, by decide, trivial⟩, List.Perm.swap _ _ _⟩,
    eventsOf_greedy_none _ _ 0 (by decide)⟩

/-- DEADLINE-COMPLETE (partial: needs `deadlineOrdered`).  If SOME matching leaves no datagram that must be delivered, so does
the greedy pass — provided that, among same-key datagrams of the pool, one that must be delivered is never preceded by one
that need not (`deadlineOrdered`).

FULL STATEMENT (FALSE, see `C17_oracle_deadline_regression`): the same with `poolOrdered pool = true` in place of
`deadlineOrdered …`.  What is missing: `noEarly` (no pool datagram was sent before the destination's `on_start`), see
`C17_oracle_preconditions_checkable`.  The driver does not rely on it: it normalises the pool (`C17_oracle_normalise`). -/
theorem C17_oracle_deadline_complete_partial {pool : List Dg} {log : List Entry} (i tStart tEnd grace : Nat)
    {ch left : List Dg}
    (hlog : logOrdered log = true) (hpool : deadlineOrdered tStart tEnd grace pool = true)
    (hM : Matching okDg pool (recvsOf log) ch left)
    (hleft : left.filter (mustDeliver tStart tEnd grace) = []) :
    ∃ evs left', eventsOf pool log i = .ok (evs, left') ∧ left'.filter (mustDeliver tStart tEnd grace) = [] := by
  obtain ⟨chg, leftg, hg, hlg⟩ := greedy_exchange (exch_of_recvsOrdered (recvsOrdered_of_logOrdered hlog))
    (mustPrefix_of_deadlineOrdered hpool) hM (filter_eq_nil_iff_false.1 hleft)
  exact ⟨_, _, eventsOf_greedy_some log pool i hg, filter_eq_nil_iff_false.2 hlg⟩

-- non-vacuous: destination started at 0, observation ends at 300 with grace 250; the datagram sent at 100 need not arrive
example : logOrdered [rcv 200] = true ∧ deadlineOrdered 0 300 250 [dg 1, dg 100] = true ∧
    Matching okDg [dg 1, dg 100] (recvsOf [rcv 200]) [dg 1] [dg 100] ∧
    [dg 100].filter (mustDeliver 0 300 250) = [] :=
  ⟨by decide, by decide, ⟨⟨by decide, trivial⟩, List.Perm.refl _⟩, by decide⟩

/-- An order condition on the POOL is necessary for the deadline check (the statement records that `poolOrdered` fails here;
the condition `C17_oracle_deadline_complete_partial` asks for, `deadlineOrdered`, fails as well): pool `[sent at 100, sent at 1]`,
one receive at 200, end of observation 300, grace 250.  Backing the receive by the datagram sent at 1 leaves only the one sent at
100 (too late to be due); the greedy pass takes the one sent at 100 and leaves the one sent at 1, which is due. -/
theorem C17_oracle_deadline_needs_poolOrdered :
    logOrdered [rcv 200] = true ∧ poolOrdered [dg 100, dg 1] = false ∧
    Matching okDg [dg 100, dg 1] (recvsOf [rcv 200]) [dg 1] [dg 100] ∧
    [dg 100].filter (mustDeliver 0 300 250) = [] ∧
    ∃ evs, eventsOf [dg 100, dg 1] [rcv 200] 0 = .ok (evs, [dg 1]) ∧ [dg 1].filter (mustDeliver 0 300 250) = [dg 1] :=
  ⟨by decide, by decide, ⟨⟨by decide, trivial⟩, List.Perm.swap _ _ _⟩, by decide,
    _, eventsOf_greedy_some _ _ 0 (ch := [dg 100]) (by decide), by decide⟩

/-- `checkScenario` hands `eventsOf` the NORMALISED pool (must-deliver datagrams first): a permutation of the actor's pool —
so the matchings are the same — that is `deadlineOrdered` by construction -/
theorem C17_oracle_normalise (tStart tEnd grace : Nat) (pool : List Dg) :
    (normalise tStart tEnd grace pool).Perm pool ∧
    deadlineOrdered tStart tEnd grace (normalise tStart tEnd grace pool) = true ∧
    ∀ (rs : List Recv) (ch left : List Dg),
      Matching okDg (normalise tStart tEnd grace pool) rs ch left ↔ Matching okDg pool rs ch left :=
  ⟨normalise_perm _ _ _ _, deadlineOrdered_normalise _ _ _ _, fun _ _ _ => matching_normalise⟩

example : normalise 50 1000 10 [dg 1, dg 100, dg 995, dg 60] = [dg 100, dg 60, dg 1, dg 995] := by decide

/-- the scenario: ONE actor (at `me`) whose log is `on_start` at 50 and one `on_msg(peer, 5)` at 200; the harness sent `M5`
from `peer` to `me` at 1 (before the actor's socket was up: lost) and again at 100 (delivered at 200); end of observation
1000, grace 10, nothing observed, no observers -/
def faActor : ActorLog := ⟨idOf me, [.start 50 0 [], rcv 200]⟩
def faSent : List Dg := [dg 1, dg 100]

/-- In the scenario above the log is time-ordered and the raw pool lists same-key datagrams in send-time order (`logOrdered`,
`poolOrdered`), and backing the `on_msg` by the datagram sent at 100 explains the run completely.
The greedy pass ON THE RAW POOL backs the `on_msg` by the datagram sent at 1 and leaves the one sent at 100, which must be
delivered: on the raw pool the answer is `datagram-not-delivered` (a FALSE ALARM).  `checkScenario`, with the normalised pool,
answers `ok`. -/
theorem C17_oracle_deadline_regression :
    logOrdered faActor.log = true ∧ poolOrdered (actorPool [faActor] faSent faActor) = true ∧
    Matching okDg (actorPool [faActor] faSent faActor) (recvsOf faActor.log) [dg 100] [dg 1] ∧
    afterMatch faActor [] [] 1000 10 0 (backed faActor.log [dg 100]) [dg 1] = none ∧
    (∃ evs, eventsOf (actorPool [faActor] faSent faActor) faActor.log 0 = .ok (evs, [dg 100]) ∧
      afterMatch faActor [] [] 1000 10 0 evs [dg 100] ≠ none) ∧
    checkScenario [faActor] faSent [] [] 1000 10 = none := by
  have hpool : actorPool [faActor] faSent faActor = [dg 1, dg 100] := by decide
  have hnorm : normPool [faActor] faSent faActor 1000 10 = [dg 100, dg 1] := by decide
  have hp : Paired okDg (recvsOf faActor.log) [dg 100] := ⟨by decide, trivial⟩
  have hpg : Paired okDg (recvsOf faActor.log) [dg 1] := ⟨by decide, trivial⟩
  have hcmp : compareOut ((sendsOf faActor).filter (fun d => ([] : List Addr).contains d.dst))
      (([] : List Dg).filter (fun d => d.src == addrOf faActor.id)) = none :=
    (compareOut_none_iff _ _).2 ⟨by decide, by decide⟩
  have hpass : afterMatch faActor [] [] 1000 10 0 (backed faActor.log [dg 100]) [dg 1] = none := by
    rw [afterMatch_none_iff _ _ _ _ _ _ hp]
    exact ⟨by decide, hcmp, by decide⟩
  have hord : poolOrdered (actorPool [faActor] faSent faActor) = true := by
    rw [hpool]
    decide
  have hsplit : ([dg 100] ++ [dg 1]).Perm (actorPool [faActor] faSent faActor) := by
    rw [hpool]
    exact List.Perm.swap _ _ _
  have hraw : greedy okDg (actorPool [faActor] faSent faActor) (recvsOf faActor.log) = some ([dg 1], [dg 100]) := by
    rw [hpool]
    decide
  refine ⟨by decide, hord, ⟨hp, hsplit⟩, hpass, ?_, ?_⟩
  · refine ⟨_, eventsOf_greedy_some _ _ 0 hraw, ?_⟩
    rw [Ne, afterMatch_none_iff _ _ _ _ _ _ hpg]
    rintro ⟨_, _, h⟩
    revert h
    decide
  · have hgo := go_cons [faActor] faSent [] [] 1000 10 faActor [] 0
    have he : eventsOf (normPool [faActor] faSent faActor 1000 10) faActor.log 0 =
        .ok (backed faActor.log [dg 100], [dg 1]) :=
      eventsOf_greedy_some _ _ 0 (hnorm ▸ by decide)
    show checkScenario.go faSent [] [] 1000 10 ([faActor].flatMap sendsOf) [faActor] 0 = none
    rw [hgo, he]
    dsimp only
    rw [hpass]
    rfl

/-- `logOrdered`, `poolOrdered`, `deadlineOrdered`, `noEarly` (defined in the driver, `SR/Drv/C17.lean`) are Bool functions of the
log, resp. of the pool and the three numbers `checkScenario` computes; they say what their names say (`Pairwise` statements) and
imply the hypotheses of the theorems above.  The driver uses `logOrdered` to label an `on_msg-without-datagram` alarm on a log
that is not time-ordered (`log-not-time-ordered`; still an alarm: the replay rejects such a log as `clock-backwards`). -/
theorem C17_oracle_preconditions_checkable (log : List Entry) (pool : List Dg) (tStart tEnd grace : Nat) :
    (logOrdered log = true ↔ log.Pairwise fun e e' => e.time ≤ e'.time) ∧
    (poolOrdered pool = true ↔ pool.Pairwise fun a b => sameKey a b = true → a.t ≤ b.t) ∧
    (deadlineOrdered tStart tEnd grace pool = true ↔ pool.Pairwise fun a b =>
      sameKey a b = true → mustDeliver tStart tEnd grace b = true → mustDeliver tStart tEnd grace a = true) ∧
    (noEarly tStart pool = true ↔ ∀ d ∈ pool, tStart ≤ d.t) ∧
    (logOrdered log = true → RecvsOrdered (recvsOf log)) ∧
    (deadlineOrdered tStart tEnd grace pool = true → MustPrefix okDg (mustDeliver tStart tEnd grace) pool) ∧
    (poolOrdered pool = true → noEarly tStart pool = true → deadlineOrdered tStart tEnd grace pool = true) := by
  exact ⟨logOrdered_iff, poolOrdered_iff, deadlineOrdered_iff, by simp [noEarly], recvsOrdered_of_logOrdered,
    mustPrefix_of_deadlineOrdered, deadlineOrdered_of_poolOrdered⟩

example : logOrdered faActor.log = true ∧ poolOrdered faSent = true ∧ noEarly 50 faSent = false ∧
    deadlineOrdered 50 1000 10 faSent = false := by decide

/-- `checkScenario` is the loop `go` over the actors, and for one actor `go` is: `eventsOf` on the actor's NORMALISED pool
(`normPool`), then `afterMatch` (replay, `sent` against `sendsOf`, `compareOut`, delivery deadline) -/
theorem C17_oracle_scenario_unfold (actors : List ActorLog) (psent precv : List Dg) (observers : List Addr)
    (tEnd grace : Nat) (a : ActorLog) (rest : List ActorLog) (i : Nat) :
    checkScenario actors psent precv observers tEnd grace =
      checkScenario.go psent precv observers tEnd grace (actors.flatMap sendsOf) actors 0 ∧
    checkScenario.go psent precv observers tEnd grace (actors.flatMap sendsOf) (a :: rest) i =
      match eventsOf (normPool actors psent a tEnd grace) a.log 0 with
      | .error e => some (if logOrdered a.log then s!"actor={i} {e}" else s!"actor={i} log-not-time-ordered {e}")
      | .ok (evs, left) =>
        match afterMatch a precv observers tEnd grace i evs left with
        | some e => some e
        | none => checkScenario.go psent precv observers tEnd grace (actors.flatMap sendsOf) rest (i + 1) :=
  ⟨rfl, go_cons actors psent precv observers tEnd grace a rest i⟩

/-- WHICH feasible datagram backs an `on_msg` is irrelevant to the replay: for two lists of backing datagrams, the machine
accepts both logs or neither, and the final states differ at most in the ghost log `recvd` -/
theorem C17_oracle_replay_choice_irrelevant (aid : Nat) {log : List Entry} {ch ch' : List Dg}
    (h : Paired okDg (recvsOf log) ch) (h' : Paired okDg (recvsOf log) ch') :
    match run (relax (cfgOf aid)) init (expand (backed log ch)), run (relax (cfgOf aid)) init (expand (backed log ch')) with
    | some s, some s' => { s with recvd := [] } = { s' with recvd := [] }
    | none, none => True
    | _, _ => False := by
  have := run_forget _ (evsRel_expand (backed_rel aid h h')) init init rfl
  revert this
  cases run (relax (cfgOf aid)) init (expand (backed log ch)) <;>
    cases run (relax (cfgOf aid)) init (expand (backed log ch'))
  · exact fun _ => trivial
  · exact nofun
  · exact nofun
  · exact Option.some.inj

example : Paired okDg (recvsOf faActor.log) [dg 1] ∧ Paired okDg (recvsOf faActor.log) [dg 100] ∧
    (run (relax (cfgOf faActor.id)) init (expand (backed faActor.log [dg 1]))).isSome = true :=
  ⟨⟨by decide, trivial⟩, ⟨by decide, trivial⟩, by decide⟩

/-- `C17_send_faithful` on the oracle's side: whatever datagrams back the `on_msg` entries, an accepted replay has executed
every command (`queue = []`) and the machine's `sent` IS `sendsOf` (destination, payload, in order) — so the
`internal-sent-mismatch` test of `checkScenario` never fires and `compareOut` compares the MACHINE's output to observers with
what was observed -/
theorem C17_oracle_send_faithful (a : ActorLog) {ch : List Dg} (hp : Paired okDg (recvsOf a.log) ch)
    {s : St Nat Nat Nat Nat} (h : run (relax (cfgOf a.id)) init (expand (backed a.log ch)) = some s) :
    s.queue = [] ∧ s.sent = (sendsOf a).map (fun d => (d.dst, d.bytes)) ∧
    ∀ observers : List Addr,
      ((s.sent.filter (fun p => observers.contains p.1)).map (fun p => (p.1, p.2)) !=
        ((sendsOf a).filter (fun d => observers.contains d.dst)).map (fun d => (d.dst, d.bytes))) = false :=
  ⟨(run_expand_sent _ _ init s rfl h).1, replay_sent a hp h, fun obs => sent_check obs a (replay_sent a hp h)⟩

example : (sendsOf ⟨idOf me, [.start 50 0 [.send 7 5, .send 7 13, .set 1 2 3]]⟩).map (fun d => (d.dst, d.bytes)) =
    [(addrOf 7, [77, 53])] := by decide

/-- what the per-actor check literally comes to once the receives are backed (by ANY datagrams `ch`): the machine accepts the
log, `compareOut` finds the datagrams `sendsOf` addresses to observers equal to the observed ones, and — the GRACE RULE — unless
the log is empty no left-over datagram parses, was sent at or after the first entry's time when that is `on_start` (else: after
the end of the observation, i.e. never) and at least `grace` before `tEnd` -/
theorem C17_oracle_actor_check_iff (a : ActorLog) (precv : List Dg) (observers : List Addr) (tEnd grace i : Nat)
    {ch left : List Dg} (hp : Paired okDg (recvsOf a.log) ch) :
    afterMatch a precv observers tEnd grace i (backed a.log ch) left = none ↔
      (run (relax (cfgOf a.id)) init (expand (backed a.log ch))).isSome = true ∧
      compareOut ((sendsOf a).filter (fun d => observers.contains d.dst))
        (precv.filter (fun d => d.src == addrOf a.id)) = none ∧
      (a.log.isEmpty = true ∨ ∀ d ∈ left,
        ¬((deMsg d.bytes).isSome = true ∧ d.t + grace ≤ tEnd ∧ tStartOf a.log tEnd ≤ d.t)) := by
  rw [afterMatch_none_iff a precv observers tEnd grace i hp, accepts]
  cases a.log.isEmpty <;> simp [mustDeliver]

/-- ACTOR-COMPLETE: if the log is time-ordered and SOME matching of the logged receives into the actor's pool makes the actor
pass every check of `o-trace`, then `checkScenario` passes this actor (goes on to the next one) -/
theorem C17_oracle_actor_complete (actors : List ActorLog) (psent precv : List Dg) (observers : List Addr)
    (tEnd grace : Nat) (a : ActorLog) (rest : List ActorLog) (i : Nat) {ch left : List Dg}
    (hlog : logOrdered a.log = true)
    (hM : Matching okDg (actorPool actors psent a) (recvsOf a.log) ch left)
    (hpass : afterMatch a precv observers tEnd grace i (backed a.log ch) left = none) :
    checkScenario.go psent precv observers tEnd grace (actors.flatMap sendsOf) (a :: rest) i =
      checkScenario.go psent precv observers tEnd grace (actors.flatMap sendsOf) rest (i + 1) := by
  -- the deadline is applied unless nothing is logged: `greedy_exchange` with `must` = "the log is not empty and `mustDeliver`"
  have hP : MustPrefix okDg (fun x => !a.log.isEmpty && mustDeliver (tStartOf a.log tEnd) tEnd grace x)
      (normPool actors psent a tEnd grace) :=
    (mustPrefix_of_deadlineOrdered (deadlineOrdered_normalise _ _ _ _)).imp fun h r ha hb hm => by
      simp only [Bool.and_eq_true] at hm ⊢
      exact ⟨hm.1, h r ha hb hm.2⟩
  obtain ⟨chg, leftg, hg, hlg⟩ := greedy_exchange (exch_of_recvsOrdered (recvsOrdered_of_logOrdered hlog)) hP
    (matching_normalise.2 hM) ((afterMatch_none_iff a precv observers tEnd grace i hM.paired).1 hpass).2.2
  rw [go_cons, eventsOf_greedy_some a.log _ 0 hg]
  dsimp only
  rw [afterMatch_transfer a precv observers tEnd grace i hM.paired (greedy_sound hg).paired hpass hlg]

/-- ACTOR-SOUND (converse, no precondition): if `checkScenario` passes an actor, there IS a matching (the greedy one) that makes
the actor pass every check -/
theorem C17_oracle_actor_sound (actors : List ActorLog) (psent precv : List Dg) (observers : List Addr)
    (tEnd grace : Nat) (a : ActorLog) (rest : List ActorLog) (i : Nat)
    (h : checkScenario.go psent precv observers tEnd grace (actors.flatMap sendsOf) (a :: rest) i = none) :
    ∃ ch left, Matching okDg (actorPool actors psent a) (recvsOf a.log) ch left ∧
      afterMatch a precv observers tEnd grace i (backed a.log ch) left = none ∧
      checkScenario.go psent precv observers tEnd grace (actors.flatMap sendsOf) rest (i + 1) = none := by
  rw [go_cons] at h
  cases he : eventsOf (normPool actors psent a tEnd grace) a.log 0 with
  | error e =>
    rw [he] at h
    cases h
  | ok p =>
    obtain ⟨evs, left⟩ := p
    rw [he] at h
    dsimp only at h
    obtain ⟨ch, hm, rfl, _⟩ := C17_oracle_match_sound he
    cases ha : afterMatch a precv observers tEnd grace i (backed a.log ch) left with
    | some e =>
      rw [ha] at h
      cases h
    | none =>
      rw [ha] at h
      exact ⟨ch, left, matching_normalise.1 hm, ha, h⟩

/-- SCENARIO-COMPLETE / SOUND, for the driver's own `checkScenario`: if every actor's log is time-ordered (the ONLY
precondition), `o-trace` answers `ok` EXACTLY WHEN every actor has SOME matching of its logged receives into its pool (the
datagrams sent to it) that passes every check (replay accepted, `compareOut`, delivery deadline on the matching's own
left-over); the direction from `ok` to the matchings needs no precondition. -/
theorem C17_oracle_scenario_iff (actors : List ActorLog) (psent precv : List Dg) (observers : List Addr)
    (tEnd grace : Nat) (hpre : ∀ a ∈ actors, logOrdered a.log = true) :
    checkScenario actors psent precv observers tEnd grace = none ↔
      ∀ a ∈ actors, ∃ ch left, Matching okDg (actorPool actors psent a) (recvsOf a.log) ch left ∧
        ∀ i, afterMatch a precv observers tEnd grace i (backed a.log ch) left = none := by
  -- the loop `go` over any list `l` of time-ordered logs; the pools are still those of `actors`
  suffices key : ∀ (l : List ActorLog) (i : Nat), (∀ a ∈ l, logOrdered a.log = true) →
      (checkScenario.go psent precv observers tEnd grace (actors.flatMap sendsOf) l i = none ↔
        ∀ a ∈ l, ∃ ch left, Matching okDg (actorPool actors psent a) (recvsOf a.log) ch left ∧
          ∀ i, afterMatch a precv observers tEnd grace i (backed a.log ch) left = none) from key actors 0 hpre
  intro l
  induction l with
  | nil =>
    intro i _
    simp [checkScenario.go]
  | cons a rest ih =>
    intro i hl
    rw [List.forall_mem_cons] at hl ⊢
    rw [← ih (i + 1) hl.2]
    constructor
    · intro h
      obtain ⟨ch, left, hm, ha, hr⟩ := C17_oracle_actor_sound actors psent precv observers tEnd grace a rest i h
      refine ⟨⟨ch, left, hm, fun j => ?_⟩, hr⟩
      rw [afterMatch_none_iff _ _ _ _ _ _ hm.paired] at ha ⊢
      exact ha
    · rintro ⟨⟨ch, left, hm, ha⟩, hr⟩
      rw [C17_oracle_actor_complete actors psent precv observers tEnd grace a rest i hl.1 hm (ha i)]
      exact hr

-- non-vacuous: `C17_oracle_deadline_regression`; both directions apply to it
example : checkScenario [faActor] faSent [] [] 1000 10 = none :=
  (C17_oracle_scenario_iff [faActor] faSent [] [] 1000 10 (by decide)).2 (by
    intro a ha
    simp only [List.mem_singleton] at ha
    subst ha
    exact ⟨[dg 100], [dg 1], C17_oracle_deadline_regression.2.2.1, fun i => by
      have hp : Paired okDg (recvsOf faActor.log) [dg 100] := ⟨by decide, trivial⟩
      have := C17_oracle_deadline_regression.2.2.2.1
      rw [afterMatch_none_iff _ _ _ _ _ _ hp] at this ⊢
      exact this⟩)

/-- WHAT `compareOut` CHECKS (the driver's own function): the multiset of keys `src>dst:payload` of the datagrams `sendsOf`
addresses to observers equals the multiset of keys observed from this actor, and for every key the `k`-th earliest observation
is no earlier than the `k`-th earliest handler that sent it. -/
theorem C17_oracle_compareOut_keys (expected observed : List Dg) :
    compareOut expected observed = none ↔
      (expected.map dgKey).Perm (observed.map dgKey) ∧
      ∀ e ∈ expected, ∀ p ∈ (timesOf expected e).zip (timesOf observed e), p.1 ≤ p.2 :=
  compareOut_none_iff expected observed

-- non-vacuous: one datagram sent by the handler at 5 and observed at 9
example : compareOut [dg 5] [dg 9] = none := by
  rw [C17_oracle_compareOut_keys]
  have hk : dgKey (dg 9) = dgKey (dg 5) := rfl
  refine ⟨by simp [hk], ?_⟩
  intro e he p hp
  simp only [List.mem_singleton] at he
  subst he
  have ht : ∀ t, (dg t).t = t := fun _ => rfl
  simp [timesOf, sortNats, hk, ht] at hp
  subst hp
  decide

end SR.C17Match
