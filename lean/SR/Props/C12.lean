import SR.Proofs.HasDisc
import SR.Proofs.ListAux
/-!
# C12 — run controls are honoured: finish conditions, targets, depth, timeout, seed

`HasDiscoveries::matches`: each variant of `HasDiscoveries` means what its name says. Model:
`SR/Util/HasDisc.lean` (transcription of src/has_discoveries.rs). `D` is the set of discovered property names,
`props` the property list; the hypotheses are the ones the checkers guarantee: `D` is a set (`Nodup`), every
discovered name is the name of a property (`D ⊆ names props`) and property names are distinct. Only `All` needs
them (it compares two lengths); the negative examples below show that the last two are necessary for `All`
(a foreign name, two properties of one name).

The theorems about stopping early, targets, depth and timeout over the checker machine are in
`SR/Props/C12Machine.lean`.  Seed replay has no theorem: the harness checks it on the implementation.
-/
namespace SR.C12
open SR.HasDisc

theorem C12_matches_all (D : List Nat) (props : List P)
    (hD : D.Nodup) (hsub : D ⊆ names props) (hn : (names props).Nodup) :
    «matches» .all D props = true ↔ ∀ p ∈ props, p.name ∈ D := by
  have hlen : props.length = (names props).length := (List.length_map _).symm
  simp only [«matches», beq_iff_eq, hlen, length_eq_iff_subset hD hn hsub]
  exact List.forall_mem_map

theorem C12_matches_any (D : List Nat) (props : List P) :
    «matches» .any D props = true ↔ D ≠ [] := by
  cases D <;> simp [«matches»]

theorem C12_matches_anyF (D : List Nat) (props : List P) :
    «matches» .anyFailures D props = true ↔ ∃ p ∈ props, p.exp ≠ .sometimes ∧ p.name ∈ D := by
  simp only [«matches», List.any_eq_true, List.mem_filter, List.contains_iff_mem, isFailure_iff, and_assoc]

theorem C12_matches_allF (D : List Nat) (props : List P) :
    «matches» .allFailures D props = true ↔ ∀ p ∈ props, p.exp ≠ .sometimes → p.name ∈ D := by
  simp only [«matches», List.all_eq_true, List.mem_filter, List.contains_iff_mem, isFailure_iff, and_imp]

theorem C12_matches_allOf (S D : List Nat) (props : List P) :
    «matches» (.allOf S) D props = true ↔ ∀ n ∈ S, n ∈ D := by
  simp [«matches»]

theorem C12_matches_anyOf (S D : List Nat) (props : List P) :
    «matches» (.anyOf S) D props = true ↔ ∃ n ∈ S, n ∈ D := by
  simp [«matches»]

/-- Used by the checkers' `is_done` (the length test of `All`, whatever the finish condition): once `All` matches, every other
    variant whose condition can still become true already matches. -/
theorem C12_matches_all_implies (D : List Nat) (props : List P)
    (hD : D.Nodup) (hsub : D ⊆ names props) (hn : (names props).Nodup)
    (h : «matches» .all D props = true) :
    «matches» .allFailures D props = true ∧
    ((∃ p ∈ props, p.exp ≠ .sometimes) → «matches» .anyFailures D props = true) ∧
    (props ≠ [] → «matches» .any D props = true) ∧
    (∀ S, (∀ n ∈ S, n ∈ names props) → «matches» (.allOf S) D props = true) := by
  have hall := (C12_matches_all D props hD hsub hn).1 h
  refine ⟨(C12_matches_allF D props).2 (fun p hp _ => hall p hp), ?_, ?_, ?_⟩
  · rintro ⟨p, hp, hne⟩
    exact (C12_matches_anyF D props).2 ⟨p, hp, hne, hall p hp⟩
  · intro hne
    rw [C12_matches_any]
    cases props with
    | nil => exact absurd rfl hne
    | cons p ps =>
      intro hD0
      have := hall p (List.mem_cons_self)
      rw [hD0] at this
      cases this
  · intro S hS
    rw [C12_matches_allOf]
    intro n hnS
    obtain ⟨p, hp, rfl⟩ := List.mem_map.1 (hS n hnS)
    exact hall p hp

example : «matches» .all [0, 1] [⟨0, .always⟩, ⟨1, .sometimes⟩] = true := by decide
example : «matches» .all [1] [⟨0, .always⟩, ⟨1, .sometimes⟩] = false := by decide
-- `All` never looks at names: a *foreign* discovery makes it match although property 1 has none
example : «matches» .all [0, 7] [⟨0, .always⟩, ⟨1, .sometimes⟩] = true := by decide
-- two properties with the same name can have one discovery only: `All` can then never match
example : «matches» .all [0] [⟨0, .always⟩, ⟨0, .sometimes⟩] = false := by decide
example : «matches» .anyFailures [1] [⟨0, .always⟩, ⟨1, .sometimes⟩] = false := by decide
example : «matches» .allFailures [0] [⟨0, .always⟩, ⟨1, .sometimes⟩] = true := by decide
example : «matches» .allFailures [] [⟨1, .sometimes⟩] = true := by decide
example : «matches» (.allOf [0, 9]) [0] [⟨0, .always⟩] = false := by decide
example : «matches» (.anyOf [0, 9]) [0] [⟨0, .always⟩] = true := by decide

end SR.C12
