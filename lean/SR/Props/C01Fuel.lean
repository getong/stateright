import SR.Drv.Chk
import SR.Proofs.Checker.SchedTerm
import SR.Props.C01
/-!
# C01 (driver part) — the fuel of the driver's single-threaded schedulers is sufficient

The compiled driver (`SR/Drv/Chk.lean`, commands `chk`, `helpers`, `chk-sym`) prints `runSingle P d fuel` for an explicit
graph `g` (`P.M = g.toSys`).  `runSingle` is the one-thread worker loop of bfs.rs / dfs.rs / on_demand.rs cut off after `fuel`
iterations.  With

    fuelFor' g ps = g.fuel ps.length = 3 * ((g.n + |g.init|) * (2·|ps| + g.maxDeg + 6) + 1) + 2

(`g.maxDeg` = largest number of actions of a state) the cut-off is never reached on a well-formed graph
(`Graph.WF`, decidable: all initial states and all edge targets are `< g.n`; duplicated / out-of-boundary initial states,
short `adj` / `bnd` tables are allowed): the loop has returned by itself, the state is quiescent, more fuel gives the very
same state, and the printed state is `run P cs` for a choice list `cs` — so `C01_exact`, C02, C03, … speak about exactly what
the driver prints.  All of this for every discipline, depth limit, target count and finish condition, and for the
symmetry-reduced runs of `chk-sym` as well.

`fuelFor` (`Drv/Chk.lean`) is a second, ad-hoc formula, which the driver does not run with.  It is NOT sufficient in
general: it has no term `|g.init| * |ps|`, but every duplicated initial state is a job of its own that evaluates all
properties.  It is sufficient whenever it is at least `fuelFor'`, which is the case for the graphs the harness generates
(at most 3 initial states).
-/
namespace SR.C01Fuel
open SR SR.Checker SR.Drv.Chk

/-- the parameters of `chk-sym`: the driver's parameters with the representative table as key -/
def symParams (c : Case) (rep : List Nat) : Params Nat Nat Nat := { c.params with key := fun s => rep.getD s s }

/-- **The driver's fuel is sufficient**: on a well-formed graph the single-threaded run the driver prints has come to
    its end by itself — nothing pending, nobody working — for bfs, dfs and on-demand, with any run controls. -/
theorem C01_driver_fuel_sufficient (c : Case) (hwf : c.g.WF) (d : Discipline) :
    Quiescent (runSingle c.params d (fuelFor' c.g c.props)) := by
  refine runSingle_graph_quiescent c.params hwf rfl d _ ?_
  simp [Case.params, fuelFor']

theorem C01_driver_fuel_stable (c : Case) (hwf : c.g.WF) (d : Discipline) (fuel : Nat)
    (hfuel : fuelFor' c.g c.props ≤ fuel) :
    runSingle c.params d fuel = runSingle c.params d (fuelFor' c.g c.props) := by
  have := runSingle_graph_stable c.params hwf rfl d fuel
  rw [show c.params.props.length = c.props.length from List.length_map _] at this
  exact this hfuel

/-- The same for `chk-sym` (DFS with a symmetry key): the fuel bound does not depend on the key. -/
theorem C01_driver_sym_fuel_sufficient (c : Case) (hwf : c.g.WF) (rep : List Nat) (d : Discipline) :
    Quiescent (runSingle (symParams c rep) d (fuelFor' c.g c.props)) := by
  refine runSingle_graph_quiescent (symParams c rep) hwf rfl d _ ?_
  simp [symParams, Case.params, fuelFor']

/-- the scheduler only produces a choice list -/
theorem C01_driver_run_is_a_machine_run (c : Case) (d : Discipline) (fuel : Nat) :
    ∃ cs, runSingle c.params d fuel = run c.params cs :=
  ⟨_, rfl⟩

theorem C01_driver_sym_run_is_a_machine_run (c : Case) (rep : List Nat) (d : Discipline) (fuel : Nat) :
    ∃ cs, runSingle (symParams c rep) d fuel = run (symParams c rep) cs :=
  ⟨_, rfl⟩

/-- **C01 for exactly what the driver prints**, without termination hypothesis and without injectivity hypothesis
    (states are their own keys): on a well-formed graph, if no early-exit condition occurred, the evaluated states are
    exactly the reachable in-boundary states, and `gen` (whose length is printed as `uniq`) lists each of them once. -/
theorem C01_driver_exact (c : Case) (hwf : c.g.WF) (d : Discipline)
    (he : (runSingle c.params d (fuelFor' c.g c.props)).early = false) :
    (∀ t, c.g.toSys.Reach t ↔ t ∈ visitedStates (runSingle c.params d (fuelFor' c.g c.props))) ∧
    (runSingle c.params d (fuelFor' c.g c.props)).gen.Nodup ∧
    (∀ t, t ∈ (runSingle c.params d (fuelFor' c.g c.props)).gen ↔ c.g.toSys.Reach t) := by
  obtain ⟨h1, h2, h3⟩ := C01.C01_exact c.params (fun _ _ _ _ h => h) _ (C01_driver_fuel_sufficient c hwf d) he
  exact ⟨h1, h2, fun t => (h3 t).trans exists_eq_right⟩

theorem C01_driver_fuelFor_sufficient_of_le (c : Case) (hwf : c.g.WF) (d : Discipline)
    (hle : fuelFor' c.g c.props ≤ fuelFor c.g c.props) :
    Quiescent (runSingle c.params d (fuelFor c.g c.props)) ∧
    runSingle c.params d (fuelFor c.g c.props) = runSingle c.params d (fuelFor' c.g c.props) := by
  have h := C01_driver_fuel_stable c hwf d _ hle
  exact ⟨h ▸ C01_driver_fuel_sufficient c hwf d, h⟩

def cexCase : Case :=
  { g := { n := 1, init := List.replicate 16 0, adj := [[]], bnd := [true] },
    props := List.replicate 7 { exp := .always, tbl := [true] }, cfg := {}, finish := .all }

/-- the run on `cexCase` that `fuelFor` cuts off, evaluated once.  `+kernel`: the 248 iterations are run by the kernel alone
    (the elaborator's own evaluation of `decide` exceeds its default recursion depth here) -/
theorem cex_cut : (runSingle cexCase.params .bfs (fuelFor cexCase.g cexCase.props)).frontier.length = 1 ∧
    (runSingle cexCase.params .bfs (fuelFor cexCase.g cexCase.props)).active.length = 1 ∧
    (runSingle cexCase.params .bfs (fuelFor cexCase.g cexCase.props)).visits.length = 15 := by decide +kernel

/-- **`fuelFor` is not sufficient**: on `cexCase` (well-formed) it is 248, but each of the 16 jobs needs 17 iterations;
    when the fuel is used up one job is still pending and the worker is in the middle of another one (15 of the
    16 jobs have been shown to the visitor).  With `fuelFor'` (= 1025) the run is complete. -/
theorem C01_driver_fuelFor_insufficient :
    ∃ c : Case, c.g.WF ∧ ¬ Quiescent (runSingle c.params .bfs (fuelFor c.g c.props)) := by
  refine ⟨cexCase, by decide, ?_⟩
  intro hq
  have h := cex_cut.1
  rw [hq.1] at h
  cases h

example : fuelFor cexCase.g cexCase.props = 248 ∧ fuelFor' cexCase.g cexCase.props = 1025 := by decide
set_option maxRecDepth 4000 in
example : (runSingle cexCase.params .bfs (fuelFor cexCase.g cexCase.props)).active.length = 1 ∧
    (runSingle cexCase.params .bfs (fuelFor cexCase.g cexCase.props)).visits.length = 15 := cex_cut.2
set_option maxRecDepth 4000 in
example : (runSingle cexCase.params .bfs (fuelFor' cexCase.g cexCase.props)).frontier.length = 0 ∧
    (runSingle cexCase.params .bfs (fuelFor' cexCase.g cexCase.props)).visits.length = 16 := by decide

/-! ### Non-vacuity: the 5-state graph of `Props/C01.lean` (self-loop, join, cycle, ignored action, two initial states,
one state outside the boundary) as a driver case.  It is well-formed, the run has no early exit, and the quiescent final
state has generated exactly the four reachable states. -/

def exCase : Case :=
  { g := C01.exGraph, props := [{ exp := .always, tbl := [true, true, true, true, true] }], cfg := {}, finish := .all }

example : exCase.g.WF := by decide
example : fuelFor' exCase.g exCase.props = 215 ∧ fuelFor exCase.g exCase.props = 300 := by decide

-- `.erase 4`: the order in which dfs meets the states, without state 4, which lies outside the boundary and is
-- never generated
example : (runSingle exCase.params .bfs (fuelFor' exCase.g exCase.props)).gen = [0, 3, 1, 2] ∧
    (runSingle exCase.params .dfs (fuelFor' exCase.g exCase.props)).gen = [0, 3, 4, 1, 2].erase 4 ∧
    (runSingle exCase.params .ondemand (fuelFor' exCase.g exCase.props)).gen = [0, 3, 1, 2] := by decide

example : ∀ t, exCase.g.toSys.Reach t ↔ t ∈ [0, 3, 1, 2] := by
  have he : (runSingle exCase.params .bfs (fuelFor' exCase.g exCase.props)).early = false := by decide
  have hg : (runSingle exCase.params .bfs (fuelFor' exCase.g exCase.props)).gen = [0, 3, 1, 2] := by decide
  intro t
  rw [← hg]
  exact ((C01_driver_exact exCase (by decide) .bfs he).2.2 t).symm

example : Quiescent (runSingle exCase.params .ondemand (fuelFor' exCase.g exCase.props)) :=
  C01_driver_fuel_sufficient exCase (by decide) .ondemand

end SR.C01Fuel
