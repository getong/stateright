import SR.Proofs.SemObjects
import SR.Proofs.SemRegister
/-!
# C18 — reference objects and the register harness yield well-formed, faithful histories

Models: `SR/Sem/SeqSpec.lean`, `SR/Sem/Objects.lean` (register.rs, write_once_register.rs, vec.rs with their
overridden `is_valid_step`), `SR/Sem/RegisterClient.lean`
(actor/register.rs, actor/write_once_register.rs clients + hooks + the delivery rule of actor/model.rs).

Reading of "including the resulting object state": required when the step is accepted. After a
rejected step the optimised implementations leave the object in a state that differs from what
`invoke`-then-compare would leave (`C18_rejected_state_differs`); `is_valid_history` short-circuits
and both testers drop the object after a rejection, so that state is unobservable through the crate.
-/
namespace SR.C18
open SR.Sem

section objects
variable {V : Type} [DecidableEq V]

/-! ## `is_valid_step` = invoke and compare (verdict) -/
theorem C18_step_verdict_register (s : V) (op : RegOp V) (r : RegRet V) :
    ((register V).isValidStep s op r).1 = decide (((register V).invoke s op).2 = r) :=
  Bool.eq_iff_iff.2 (((register_lawful V).verdict s op r).trans decide_eq_true_iff.symm)

theorem C18_step_verdict_woRegister (s : Option V) (op : WOOp V) (r : WORet V) :
    ((woRegister V).isValidStep s op r).1 = decide (((woRegister V).invoke s op).2 = r) :=
  Bool.eq_iff_iff.2 (((woRegister_lawful V).verdict s op r).trans decide_eq_true_iff.symm)

theorem C18_step_verdict_vec (s : List V) (op : VecOp V) (r : VecRet V) :
    ((vec V).isValidStep s op r).1 = decide (((vec V).invoke s op).2 = r) :=
  Bool.eq_iff_iff.2 (((vec_lawful V).verdict s op r).trans decide_eq_true_iff.symm)

/-! ## an accepted step leaves the object `invoke` leaves -/
theorem C18_step_state_register (s : V) (op : RegOp V) (r : RegRet V)
    (h : ((register V).isValidStep s op r).1 = true) :
    ((register V).isValidStep s op r).2 = ((register V).invoke s op).1 := (register_lawful V).state s op r h

theorem C18_step_state_woRegister (s : Option V) (op : WOOp V) (r : WORet V)
    (h : ((woRegister V).isValidStep s op r).1 = true) :
    ((woRegister V).isValidStep s op r).2 = ((woRegister V).invoke s op).1 := (woRegister_lawful V).state s op r h

theorem C18_step_state_vec (s : List V) (op : VecOp V) (r : VecRet V)
    (h : ((vec V).isValidStep s op r).1 = true) :
    ((vec V).isValidStep s op r).2 = ((vec V).invoke s op).1 := (vec_lawful V).state s op r h

/-! ## `is_valid_history` accepts exactly the sequences obtained by invoking from the initial object
(and then leaves the object those invocations leave) -/
theorem C18_history_register (s₀ : V) (l : List (RegOp V × RegRet V)) :
    (register V).isValidHistory s₀ l = true ↔ l = (register V).trace s₀ (l.map (·.1)) :=
  (register_lawful V).validHistory_iff s₀ l

theorem C18_history_woRegister (s₀ : Option V) (l : List (WOOp V × WORet V)) :
    (woRegister V).isValidHistory s₀ l = true ↔ l = (woRegister V).trace s₀ (l.map (·.1)) :=
  (woRegister_lawful V).validHistory_iff s₀ l

theorem C18_history_vec (s₀ : List V) (l : List (VecOp V × VecRet V)) :
    (vec V).isValidHistory s₀ l = true ↔ l = (vec V).trace s₀ (l.map (·.1)) :=
  (vec_lawful V).validHistory_iff s₀ l

/-- the same for every spec that keeps the trait's default `is_valid_step`, and for every spec whose
    override satisfies the contract (`Lawful` = the two `C18_step_*` clauses) -/
theorem C18_history {S Op Ret : Type} (spec : SeqSpec S Op Ret) (h : spec.Lawful) (s₀ : S) (l : List (Op × Ret)) :
    (spec.isValidHistory s₀ l = true ↔ l = spec.trace s₀ (l.map (·.1))) ∧
    (spec.isValidHistory s₀ l = true → (spec.validHistory s₀ l).2 = spec.run s₀ (l.map (·.1))) :=
  ⟨h.validHistory_iff s₀ l, h.validHistory_state s₀ l⟩

/-- the trait's default `is_valid_step` (`&self.invoke(op) == ret`) satisfies the contract -/
theorem C18_default_step_lawful {S Op Ret : Type} [DecidableEq Ret] (inv : S → Op → S × Ret) :
    (SeqSpec.ofInvoke inv).Lawful :=
  .of_step fun s op r => by simp [SeqSpec.ofInvoke, SeqSpec.defaultStep]

end objects

/-! ## after a *rejected* step the optimised overrides and invoke-then-compare leave different objects
(informational; unobservable through `is_valid_history` and the testers) -/
theorem C18_rejected_state_differs :
    ((register Nat).isValidStep 0 (.write 1) (.readOk 0)).1 = false ∧
    ((register Nat).isValidStep 0 (.write 1) (.readOk 0)).2 ≠ ((register Nat).invoke 0 (.write 1)).1 := by
  decide

/-! non-vacuity -/
example : (vec Nat).isValidHistory [] [(.push 10, .pushOk), (.pop, .popOk (some 10)), (.len, .lenOk 0)] = true := by decide
example : (vec Nat).isValidHistory [] [(.push 10, .pushOk), (.pop, .popOk none)] = false := by decide
example : (woRegister Nat).isValidHistory none [(.write 1, .writeOk), (.write 2, .writeFail), (.read, .readOk (some 1))] = true := by decide
example : ((vec Nat).isValidStep [1, 2] .pop (.popOk (some 1))) = (false, [1]) := by decide

/-! ## the register harness

`SR/Sem/RegisterClient.lean`: clients as in actor/register.rs / actor/write_once_register.rs, the
hooks `record_invocations` / `record_returns`, the delivery rule of actor/model.rs (`deliverClient`),
and `Step`: the harness with an *arbitrary environment* in place of servers and network, which may
answer a request id only after the client sent it and only once; replies are delivered in any order,
may be lost and — on a duplicating network — redelivered. `Reach cfg I h0 s`: `s` is reachable
from the state in which no client has started yet.

The theorems hold for every history type with a `HistView` (validity flag, in-flight operation and
completed operations per thread, `on_invoke`/`on_return` acting on them as specified); the four
instances `viewRegLin`, `viewRegSC`, `viewWoLin`, `viewWoSC` are the two testers on `Register` /
`WORegister` with `valid = is_valid_history`, `inflight t = in_flight_by_thread[t]`,
`done t = history_by_thread[t]` (operation and return of each entry). -/
section harness
open SR.Sem.RC SR.Sem.AMap
variable {H Op Ret : Type} {cfg : Cfg} {I : Iface H Op Ret} (V : HistView I) {h0 : H}

/-- the recorded history stays well-formed: the tester's validity flag never drops -/
theorem C18_wellformed (hcfg : cfg.Ok) (hf : Fresh V h0) {s : HSt H} (hr : Reach cfg I h0 s) :
    V.valid s.sys.hist = true :=
  (reach_inv V hcfg hf hr).valid

/-- each client has an operation outstanding exactly when the tester has an in-flight operation of
    that thread; a thread that is no (started) client has none -/
theorem C18_one_outstanding (hcfg : cfg.Ok) (hf : Fresh V h0) {s : HSt H} (hr : Reach cfg I h0 s) (c : Nat) :
    (∀ st, find? c s.sys.clients = some st →
      (st.awaiting.isSome = true ↔ (V.inflight s.sys.hist c).isSome = true)) ∧
    (find? c s.sys.clients = none → V.inflight s.sys.hist c = none) := by
  have hI := reach_inv V hcfg hf hr
  constructor
  · intro st hst
    have hc := hI.client c st hst
    cases ha : st.awaiting with
    | none => rw [hc.idle ha]; exact Iff.rfl
    | some r => simp [(hc.busy r ha).2.2]
  · intro hn; exact (hI.other c hn).infl

/-- the request ids a client has used are `1·index, 2·index, …` (as many as it has sent), the
    outstanding one is the last of them, and they are pairwise distinct because
    `index ≥ server_count ≥ 1` -/
theorem C18_fresh_ids (hcfg : cfg.Ok) (hf : Fresh V h0) {s : HSt H} (hr : Reach cfg I h0 s) (c : Nat) (st : CState)
    (hst : find? c s.sys.clients = some st) :
    ridsOf c s.log = (List.range (if st.awaiting.isSome then st.opCount else st.opCount - 1)).map (fun j => (j + 1) * c) ∧
    (ridsOf c s.log).Nodup ∧ 1 ≤ cfg.nServers ∧ cfg.nServers ≤ c ∧
    (∀ r, st.awaiting = some r → r = st.opCount * c ∧ (ridsOf c s.log).getLast? = some r) := by
  have hI := reach_inv V hcfg hf hr
  have hc := hI.client c st hst
  have hc1 : 1 ≤ c := Nat.le_trans hcfg.servers hc.idx
  exact ⟨hc.rids, hc.nodup_rids hc1, hcfg.servers, hc.idx, fun r ha => ⟨(hc.busy r ha).1, hc.last_rid ha⟩⟩

/-- the recorded history of every client mirrors its client-visible calls and replies: the completed
    `(op, ret)` pairs are the `Put`/`Get` it sent paired with the `PutOk`/`PutFail`/`GetOk` it accepted,
    in order, and the in-flight operation is its unanswered request; other threads have nothing -/
theorem C18_mirror (hcfg : cfg.Ok) (hf : Fresh V h0) {s : HSt H} (hr : Reach cfg I h0 s) (c : Nat) :
    (V.done s.sys.hist c, V.inflight s.sys.hist c) = mirror I cfg.wo c s.log ∧
    ((find? c s.sys.clients).isNone = true → V.done s.sys.hist c = [] ∧ V.inflight s.sys.hist c = none) := by
  have hI := reach_inv V hcfg hf hr
  cases hst : find? c s.sys.clients with
  | some st => exact ⟨(hI.client c st hst).mirr, by simp⟩
  | none =>
    have ho := hI.other c hst
    exact ⟨by rw [ho.mirr, ho.done, ho.infl], fun _ => ⟨ho.done, ho.infl⟩⟩

/-- on an ordered network a delivery the client ignores would still be a step that runs the
    `record_returns` hook — under an at-most-once environment it never happens -/
theorem C18_no_ignored_delivery (hcfg : cfg.Ok) (hf : Fresh V h0) {s : HSt H} (hr : Reach cfg I h0 s)
    {c : Nat} {m : RMsg} {cl : Client} {st : CState} {sys' : RSys H} (hpool : (c, m) ∈ s.pool)
    (hfind : find? c s.sys.clients = some st) (hmsg : cl.onMsg cfg.wo c st m = none) :
    deliverClient I cfg.wo cfg.ordered cl s.sys c m ≠ some sys' :=
  fun hdel => no_ignored V hcfg (reach_inv V hcfg hf hr) hpool hfind hmsg hdel

/-- what `init_states` computes for clients and history is a reachable state of `Step` -/
theorem C18_init_reachable (sys : RSys H) (h : RC.init I h0 cfg.actors = some sys) :
    ∃ s, Reach cfg I h0 s ∧ s.sys = sys ∧ s.pool = [] := by
  unfold RC.init Cfg.actors at h
  rw [initFrom_servers] at h
  exact init_reach cfg I h0 _ (HSt.init h0) sys Reach.init rfl (by simpa [HSt.init] using h)

/-- the four harness flavours start from a fresh tester -/
theorem C18_fresh_instances (v0 : Nat) (w0 : Option Nat) :
    Fresh viewRegLin (Tester.new v0) ∧ Fresh viewRegSC (SCTester.new v0) ∧
    Fresh viewWoLin (Tester.new w0) ∧ Fresh viewWoSC (SCTester.new w0) :=
  have lin {S Op Ret : Type} (I : Iface (Tester S Op Ret) Op Ret) hi hr (s0 : S) :
      Fresh (testerView true I hi hr) (Tester.new s0) :=
    have t := testerView_new true I hi hr s0
    ⟨t.1, t.2.1, t.2.2⟩
  have sc {S Op Ret : Type} (I : Iface (SCTester S Op Ret) Op Ret) hi hr (s0 : S) :
      Fresh (scView I hi hr) (SCTester.new s0) :=
    have t := scView_new I hi hr s0
    ⟨t.1, t.2.1, t.2.2⟩
  ⟨lin _ _ _ v0, sc _ _ _ v0, lin _ _ _ w0, sc _ _ _ w0⟩

end harness

/-! non-vacuity: one server, one client with `put_count = 1`, linearizability tester on `Register`
(initial value 63 = `'?'`; the client writes `'A'` = 65);
the client starts (Put sent, recorded), the environment answers, the reply is delivered. -/
section example_run
open SR.Sem.RC SR.Sem.AMap

def cfg1 : Cfg := { wo := false, ordered := false, dup := false, nServers := 1, clients := [{ putCount := 1, serverCount := 1 }] }

example : cfg1.Ok := ⟨Nat.le_refl 1, by intro c hc; simp [cfg1] at hc; subst hc; rfl, by intro h; cases h⟩

example : (RC.init regLin (Tester.new 63) cfg1.actors).map (fun s => (s.clients, s.hist.inflight)) =
    some ([(1, { awaiting := some 1, opCount := 1 })], [(1, ([], .write 65))]) := by rfl

example : ((RC.init regLin (Tester.new 63) cfg1.actors).bind fun s =>
      deliverClient regLin false false { putCount := 1, serverCount := 1 } s 1 (.putOk 1)).map
      (fun s => (s.clients, s.hist.hist, s.hist.inflight, s.hist.valid)) =
    some ([(1, { awaiting := some 2, opCount := 2 })], [(1, [([], .write 65, .writeOk)])], [(1, ([], .read))], true) := by
  rfl

end example_run

end SR.C18
