import SR.Proofs.CompleteRun
import SR.Props.C01
import SR.Props.C02
import SR.Props.OracleAdequacy
/-!
# `completeRun` ⇒ `Completed` (checker-group oracles)

`Drv/Chk.lean`: `completeRun c o` decides from the case's configuration and the FINAL discoveries of an observed run that
no early-exit condition can have fired; `oracleC01`, `oracleC02`, `oracleC11`, `o-chk-sym` then demand exhaustiveness.
The reason is that all these conditions are monotone in the discoveries; here that is proved for every run of the checker
machine (`SR/Checker/Machine.lean`, any choice list = any schedule, interleaving, race): a guard that holds on the final
discoveries held after every prefix (`C01_complete_run_no_early`), so a terminated run that passes it satisfies the
hypotheses of `C01_exact` / `C02_always` / `C02_sometimes`, and the lines of `oracleC01` / `oracleC02` guarded by
`completeRun` never demand more of an observation of such a run than those theorems give.

The guard cannot see a panic of model code or a timeout: both are hypotheses (`parseCfg` always sets `timeout := false`;
the driver answers `implementation-panicked` before any oracle runs); without the no-panic hypothesis:
`C01_complete_run_stop_is_panic`.
-/
namespace SR.CCompleteRun
open SR SR.Checker SR.Drv.Chk

theorem C01_complete_run_guard (c : Case) (o : Obs) : completeRun c o = true ↔ Guard c (o.disc.map (·.1)) :=
  completeRun_iff_guard c o

section
variable {σ κ α : Type} [DecidableEq κ] (P : Params σ κ α)

/-- a later insert for the same property replaces the path, not the name -/
theorem C01_discoveries_grow (ch : Choice) (s : St σ κ) :
    discNames s.disc ⊆ discNames (step P ch s).disc ∧ ∀ k, hasDisc s.disc k = true → hasDisc (step P ch s).disc k = true :=
  ⟨discNames_subset_of_mono (mono_step ch s), (mono_step ch s).disc⟩

theorem C01_discoveries_grow_run (pre post : List Choice) :
    discNames (run P pre).disc ⊆ discNames (run P (pre ++ post)).disc :=
  discNames_subset_run_append pre post

theorem C12_all_discovered_mono (pre post : List Choice) (h : allDiscovered P (run P pre) = true) :
    allDiscovered P (run P (pre ++ post)) = true :=
  allDiscovered_run_append pre post h

/-- the machine's "all discovered" is the driver's length test on the discovered names of a run -/
theorem C12_all_discovered_iff_length (cs : List Choice) :
    allDiscovered P (run P cs) = true ↔ (discNames (run P cs).disc).eraseDups.length = P.props.length :=
  allDiscovered_iff_length cs

end

/-- `hb`: the discovered names of every run are property indices (`C03_known_property`) -/
theorem C12_finish_matches_mono (f : Finish) (props : List GProp) (d d' : List Nat) (hs : d ⊆ d')
    (hb : ∀ x ∈ d', x < props.length) (h : f.matches props d = true) : f.matches props d' = true :=
  Finish.matches_mono f props hs hb h

/-- for every constructor but `all` (`hf` says `f ≠ .all`) no hypothesis on the names is needed -/
theorem C12_finish_matches_mono_ne_all (f : Finish) (props : List GProp) (d d' : List Nat) (hs : d ⊆ d')
    (hf : ∀ (_ : f = .all), False) (h : f.matches props d = true) : f.matches props d' = true :=
  Finish.matches_mono_of_ne_all f props hs hf h

/-- `all` is NOT monotone in an arbitrary name list (one property, discoveries `[0]` then `[0, 7]`): the hypothesis
    `hb` of `C12_finish_matches_mono` is necessary.  Harmless for `completeRun`: its last conjunct is the same length test. -/
theorem C12_finish_all_not_mono_foreign :
    Finish.matches .all [⟨.always, []⟩] [0] = true ∧ Finish.matches .all [⟨.always, []⟩] [0, 7] = false ∧
    ([0] : List Nat) ⊆ [0, 7] := by decide

example : Finish.matches .anyF [⟨.always, []⟩, ⟨.sometimes, []⟩] [0] = true ∧ ([0] : List Nat) ⊆ [1, 0] ∧
    (∀ x ∈ ([1, 0] : List Nat), x < 2) := by decide

theorem C01_case_props_length (c : Case) : c.params.props.length = c.props.length := by simp [Case.params]

theorem C12_finish_mono_case (c : Case) : FinishMono c.params :=
  finishMono_of_matches c.finish c.props rfl (C01_case_props_length c)

/-- without the no-panic hypothesis: a set stop flag is due to a `panic` choice earlier in the run, and `early` is only ever set
    after such a stop -/
theorem C01_complete_run_stop_is_panic (c : Case) (hto : c.cfg.timeout = false) (pre post : List Choice)
    (hg : Guard c (discNames (run c.params (pre ++ post)).disc)) :
    ((run c.params pre).stopped = true → ∃ a b, pre = a ++ Choice.stop .panic :: b) ∧
    ((run c.params pre).early = true → (run c.params pre).stopped = true) := by
  obtain ⟨hd, ht, hfin, hall⟩ := hg
  exact ⟨stopped_is_panic_of_final (C12_finish_mono_case c) ht hto pre post hfin,
    early_only_stopped_of_final hd pre post ((C01_case_props_length c).symm ▸ hall)⟩

/-- **`completeRun` on the FINAL discoveries ⇒ no early-exit condition fired anywhere along the run** (no timeout configured,
    model code does not panic): after every prefix no job was dropped unexpanded, no worker had left its loop, not everything
    was discovered, the finish condition did not match, and no stop reason other than a panic was enabled. -/
theorem C01_complete_run_no_early (c : Case) (hto : c.cfg.timeout = false) (cs : List Choice)
    (hnp : ∀ ch ∈ cs, ch ≠ Choice.stop .panic)
    (hg : Guard c (discNames (run c.params cs).disc)) :
    ∀ pre post, cs = pre ++ post →
      (run c.params pre).early = false ∧ (run c.params pre).stopped = false ∧
      allDiscovered c.params (run c.params pre) = false ∧
      c.finish.matches c.props (discNames (run c.params pre).disc) = false ∧
      ∀ why, why ≠ Why.panic → stopEnabled c.params why (run c.params pre) = false := by
  intro pre post hcs
  subst hcs
  obtain ⟨hd, ht, hfin, hall⟩ := hg
  exact no_early_of_final (C12_finish_mono_case c) hd ht hto pre post (fun ch h => hnp ch (List.mem_append_left _ h)) hfin
    ((C01_case_props_length c).symm ▸ hall)

/-- the same for ANY parameters with a monotone finish condition — in particular for the symmetry-reduced machine of
    `chk-sym` / `o-chk-sym`, `{ c.params with key := rep }` (`C12_finish_mono_case_key`): the guard does not depend on the key -/
theorem C01_complete_run_no_early_any_key {κ : Type} [DecidableEq κ] (P : Params Nat κ Nat) (hmono : FinishMono P)
    (hd : P.cfg.maxDepth = none) (ht : P.cfg.target = none) (hto : P.cfg.timeout = false) (cs : List Choice)
    (hnp : ∀ ch ∈ cs, ch ≠ Choice.stop .panic)
    (hfin : P.finishMatches (discNames (run P cs).disc) = false)
    (hall : (discNames (run P cs).disc).eraseDups.length ≠ P.props.length) :
    ∀ pre post, cs = pre ++ post → (run P pre).early = false ∧ (run P pre).stopped = false := by
  intro pre post hcs
  subst hcs
  have h := no_early_of_final hmono hd ht hto pre post (fun ch h => hnp ch (List.mem_append_left _ h)) hfin hall
  exact ⟨h.1, h.2.1⟩

theorem C12_finish_mono_case_key {κ : Type} (c : Case) (k : Nat → κ) : FinishMono { c.params with key := k } :=
  finishMono_of_matches c.finish c.props rfl (C01_case_props_length c)

/-- **`completeRun` ⇒ the hypotheses and conclusion of `C01_exact`**: a run that terminated (`Quiescent`) and passes the guard
    evaluated exactly the reachable in-boundary states, and generated each exactly once (`key = id` in the driver's cases,
    so there is no collision hypothesis). -/
theorem C01_complete_run_exact (c : Case) (hto : c.cfg.timeout = false) (cs : List Choice)
    (hnp : ∀ ch ∈ cs, ch ≠ Choice.stop .panic)
    (hg : Guard c (discNames (run c.params cs).disc)) (hq : Quiescent (run c.params cs)) :
    (run c.params cs).early = false ∧
    (∀ t, c.g.toSys.Reach t ↔ t ∈ visitedStates (run c.params cs)) ∧
    (run c.params cs).gen.Nodup ∧ (∀ k, k ∈ (run c.params cs).gen ↔ c.g.toSys.Reach k) := by
  have he := (C01_complete_run_no_early c hto cs hnp hg cs [] (by simp)).1
  obtain ⟨h1, h2, h3⟩ := C01.C01_exact c.params (fun _ _ _ _ h => h) cs hq he
  exact ⟨he, h1, h2, fun k => (h3 k).trans exists_eq_right⟩

/-- **`completeRun` ⇒ `Completed`** (the hypothesis of `C02_always`, `C02_sometimes`, `C02_assert`), through its first
    disjunct: the run was exhaustive -/
theorem C02_complete_run_completed (c : Case) (hto : c.cfg.timeout = false) (cs : List Choice)
    (hnp : ∀ ch ∈ cs, ch ≠ Choice.stop .panic)
    (hg : Guard c (discNames (run c.params cs).disc)) (hq : Quiescent (run c.params cs)) :
    C02.Completed c.params (run c.params cs) :=
  ⟨hq, Or.inl (C01_complete_run_no_early c hto cs hnp hg cs [] (by simp)).1⟩

theorem C02_complete_run_always (c : Case) (hto : c.cfg.timeout = false) (cs : List Choice)
    (hnp : ∀ ch ∈ cs, ch ≠ Choice.stop .panic)
    (hg : Guard c (discNames (run c.params cs).disc)) (hq : Quiescent (run c.params cs))
    (i : Nat) (pr : GProp) (hpr : c.props[i]? = some pr) (hexp : pr.exp = .always) :
    hasDisc (run c.params cs).disc i = true ↔ ∃ t, c.g.toSys.Reach t ∧ pr.tbl.getD t false = false :=
  C02.C02_always c.params (fun _ _ _ _ h => h) cs (C02_complete_run_completed c hto cs hnp hg hq) i pr.toProp
    (C01_case_props_getElem? c i pr hpr) hexp

theorem C02_complete_run_sometimes (c : Case) (hto : c.cfg.timeout = false) (cs : List Choice)
    (hnp : ∀ ch ∈ cs, ch ≠ Choice.stop .panic)
    (hg : Guard c (discNames (run c.params cs).disc)) (hq : Quiescent (run c.params cs))
    (i : Nat) (pr : GProp) (hpr : c.props[i]? = some pr) (hexp : pr.exp = .sometimes) :
    hasDisc (run c.params cs).disc i = true ↔ ∃ t, c.g.toSys.Reach t ∧ pr.tbl.getD t false = true :=
  C02.C02_sometimes c.params (fun _ _ _ _ h => h) cs (C02_complete_run_completed c hto cs hnp hg hq) i pr.toProp
    (C01_case_props_getElem? c i pr hpr) hexp

/-- the observation `showSt` prints -/
def obsOf (s : St Nat Nat) : Obs :=
  { visits := s.visits.reverse, uniq := s.gen.length, count := s.stateCount, depth := s.maxDepth,
    disc := s.disc.mergeSort (fun a b => a.1 ≤ b.1) }

theorem C01_observes_obsOf (s : St Nat Nat) : Observes (obsOf s) s :=
  ⟨rfl, rfl, (List.mergeSort_perm _ _).map _⟩

/-- the same with the discoveries in the machine's order -/
def obsRaw (s : St Nat Nat) : Obs :=
  { visits := s.visits.reverse, uniq := s.gen.length, count := s.stateCount, depth := s.maxDepth, disc := s.disc }

theorem C01_observes_obsRaw (s : St Nat Nat) : Observes (obsRaw s) s := ⟨rfl, rfl, List.Perm.refl _⟩

/-- the guard reads the discovered names as a set: it is the same on the observation and on the machine state -/
theorem C01_complete_run_guard_of_observes (c : Case) (cs : List Choice) (o : Obs) (ho : Observes o (run c.params cs))
    (hc : completeRun c o = true) : Guard c (discNames (run c.params cs).disc) :=
  guard_of_observes c ho hc

/-- the two lines of `oracleC01` guarded by `completeRun`, `reachable-state-not-evaluated` and `unique-count-not-reachable-size`,
    are never raised against an observation of a terminated run of the model -/
theorem C01_complete_run_oracle_lines (c : Case) (hwf : c.g.WF) (hto : c.cfg.timeout = false) (cs : List Choice)
    (hnp : ∀ ch ∈ cs, ch ≠ Choice.stop .panic) (hq : Quiescent (run c.params cs))
    (o : Obs) (ho : Observes o (run c.params cs)) (hc : completeRun c o = true) :
    c.g.reachList.all (o.visits.map lastOf).contains = true ∧ (o.uniq == c.g.reachList.length) = true := by
  obtain ⟨_, hreach, hnd, hgen⟩ := C01_complete_run_exact c hto cs hnp (guard_of_observes c ho hc) hq
  obtain ⟨hrl, hrnd⟩ := COracle.C13_oracle_reach c.g hwf
  constructor
  · rw [List.all_eq_true]
    intro t ht
    simpa using (lasts_iff_visited ho t).2 ((hreach t).1 ((hrl t).1 ht))
  · rw [beq_iff_eq, ho.uniq]
    exact ((List.perm_ext_iff_of_nodup hnd hrnd).2 fun k => (hgen k).trans (hrl k).symm).length_eq

/-- **`oracleC02` passes every observation of a terminated run of the model** (all its lines are guarded by `completeRun`) -/
theorem C02_complete_run_oracle_passes (c : Case) (hwf : c.g.WF) (hto : c.cfg.timeout = false) (cs : List Choice)
    (hnp : ∀ ch ∈ cs, ch ≠ Choice.stop .panic) (hq : Quiescent (run c.params cs))
    (o : Obs) (ho : Observes o (run c.params cs)) : oracleC02 c o = [] := by
  cases hc : completeRun c o with
  | false => simp [oracleC02, hc]
  | true =>
    rw [oracleC02_nil_iff c hwf o hc]
    intro i pr hpr hexp
    rw [contains_names_eq ho]
    exact verdict_exact (fun _ _ _ _ h => h) cs hq
      (Or.inl (C01_complete_run_no_early c hto cs hnp (guard_of_observes c ho hc) cs [] (by simp)).1) i pr.toProp
      (C01_case_props_getElem? c i pr hpr) hexp

/-! Non-vacuity: a 4-state graph, an always-property that holds and a sometimes-property with a witness; finish condition
`AnyFailures`.  The BFS scheduler terminates, one of two properties is discovered, the guard holds. -/

def noPanic (cs : List Choice) : Bool := cs.all fun ch => match ch with | .stop .panic => false | _ => true

theorem C01_noPanic_iff (cs : List Choice) (h : noPanic cs = true) : ∀ ch ∈ cs, ch ≠ Choice.stop .panic := by
  intro ch hch he
  have := List.all_eq_true.1 h ch hch
  rw [he] at this
  cases this

def exCase : Case :=
  { g := { n := 4, init := [0], adj := [[some 1, some 2], [some 3], [some 3, some 0], []], bnd := [true, true, true, true] },
    props := [⟨.always, [true, true, true, true]⟩, ⟨.sometimes, [false, false, true, false]⟩],
    cfg := {}, finish := .anyF }

/-- the BFS scheduler on `exCase`.  The fuel 120 is an ad-hoc bound for this case (`Graph.fuel` is the one that always
    suffices): `C01_complete_run_ex` checks that the run has terminated within it. -/
def exChoices : List Choice := schedule exCase.params .bfs 120 (init exCase.params.M exCase.params.props exCase.params.key) blockSize

theorem C01_complete_run_ex : exCase.cfg.timeout = false ∧ noPanic exChoices = true ∧
    (run exCase.params exChoices).frontier.length = 0 ∧ (run exCase.params exChoices).active.length = 0 ∧
    completeRun exCase (obsRaw (run exCase.params exChoices)) = true ∧
    discNames (run exCase.params exChoices).disc = [1] ∧ decide exCase.g.WF = true := by decide

/-- the hypotheses of `C01_complete_run_no_early` / `_exact` / `C02_complete_run_*` / the oracle-line theorems hold for it -/
example : (∀ ch ∈ exChoices, ch ≠ Choice.stop .panic) ∧ Guard exCase (discNames (run exCase.params exChoices).disc) ∧
    Quiescent (run exCase.params exChoices) ∧ exCase.g.WF :=
  ⟨C01_noPanic_iff _ C01_complete_run_ex.2.1,
   C01_complete_run_guard_of_observes _ _ _ (C01_observes_obsRaw _) C01_complete_run_ex.2.2.2.2.1,
   ⟨List.length_eq_zero_iff.1 C01_complete_run_ex.2.2.1, List.length_eq_zero_iff.1 C01_complete_run_ex.2.2.2.1⟩,
   of_decide_eq_true C01_complete_run_ex.2.2.2.2.2.2⟩

end SR.CCompleteRun
