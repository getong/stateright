import SR.Proofs.Checker.FullRun
import SR.Checker.FullSched
import SR.Proofs.Checker.FullReplay
import SR.Props.C01
import SR.Props.C02
/-!
# C05 (and the multi-threaded reading of C01/C02) — the concurrent checker refines the checker machine

`SR/Checker/Full.lean` is the product of the job market (`SR/Market/Machine.lean`, the model
of src/job_market.rs) and the checker machine (`SR/Checker/Machine.lean`): `k` worker threads with their own deques,
jobs travelling through `pop` / `split_and_push`, one step per critical section of the market or per atomic section
of `check_block`.  Every theorem below is about `frun P k fs` for ALL step lists `fs` (steps that are not enabled are
skipped): every interleaving of the workers, the timeout thread and the owner of the checker, every queue discipline,
every resolution of `notify_one`, spurious wake-ups, panics in model code.

What this closes: the machine theorems (C01–C03, C05a, C09–C13) quantify over all choice lists but keep all pending jobs in
one list; the market theorems (C05b) quantify over all interleavings but know nothing about what a job is.  Here the two
are composed, so "no pending job is lost or evaluated by two workers" + "the checker explores exactly the reachable
states" become ONE statement about the multi-threaded checker: `C05_full_exact`, `C05_full_verdicts`.
-/
namespace SR.C05F
open SR SR.Checker SR.Market SR.Full

variable {σ κ α : Type} [DecidableEq κ] (P : Params σ κ α)

/-- **Refinement.**  Every run of the concurrent checker is, component-wise, a run of the job market (from
    `JobBroker::new(k)` and the push of the initial jobs) and a run of the checker machine: it reports the market
    steps and the machine choices it performed, and its state is what they produce.  So every market theorem (C05b) and
    every machine theorem holds of the multi-threaded checker. -/
theorem C05_full_refines (k : Nat) (fs : List FStep) :
    (frun P k fs).1.m =
      mrun (Market.init k k)
        (Step.xpush (List.range (Checker.init P.M P.props P.key).frontier.length) [] :: (frun P k fs).2.1) ∧
    (frun P k fs).1.c = run P (frun P k fs).2.2 := by
  obtain ⟨h1, h2⟩ := frunFrom_proj (P := P) fs (finit P k)
  refine ⟨?_, h2⟩
  show (frunFrom P (finit P k) fs).1.m = _
  rw [h1, finit_m]
  simp only [mrun, List.foldl_cons, xpush_init, Option.getD_some]
  rfl

/-- **Coupling.**  At every moment the jobs physically present in the shared batches and the workers' deques are exactly
    the pending jobs of the machine (`ft`, which lists a token for every entry of the machine's frontier, is a
    permutation of the tokens in the market; no token occurs twice), every worker the machine considers busy is a
    thread that is not waiting, and a thread that waits or has left holds no jobs. -/
theorem C05_full_coupling (k : Nat) (fs : List FStep) :
    (frun P k fs).1.ft.Perm (tokensIn (frun P k fs).1.m) ∧
    (frun P k fs).1.ft.length = (frun P k fs).1.c.frontier.length ∧
    (tokensIn (frun P k fs).1.m).Nodup ∧
    (frun P k fs).1.aw.length = (frun P k fs).1.c.active.length ∧
    (∀ w ∈ (frun P k fs).1.aw, (frun P k fs).1.m.pcs[w]? = some Pc.running) ∧
    (∀ w, (frun P k fs).1.m.pcs[w]? ≠ some Pc.running → locOf (frun P k fs).1.m w = []) := by
  have inv := frun_inv (P := P) k fs
  have hperm : (frun P k fs).1.ft.Perm (tokensIn (frun P k fs).1.m) := List.perm_iff_count.2 inv.cnt
  exact ⟨hperm, inv.len, hperm.nodup_iff.1 inv.nodup, inv.awlen, inv.awrun, inv.idle⟩

/-- **Jobs are discarded only after a stop.**  If the market is closed, then either the machine has stopped (a worker
    left for `finish_when` / `target_state_count` / a panic, the timeout fired, the checker was dropped) — or nothing is
    pending anywhere and nobody is working: the market was closed by the last worker that found no work. -/
theorem C05_full_closed (k : Nat) (fs : List FStep) (hc : (frun P k fs).1.m.isOpen = false) :
    (frun P k fs).1.c.stopped = true ∨
    ((frun P k fs).1.c.frontier = [] ∧ (frun P k fs).1.c.active = []) := by
  have inv := frun_inv (P := P) k fs
  exact (inv.closed hc).imp_right fun h => inv.quiescent h.1 h.2

/-- **`join` returns to a finished machine.**  When every worker thread is gone, nothing is pending and nobody is
    working: the machine is quiescent. -/
theorem C05_full_join (k : Nat) (hk : 0 < k) (fs : List FStep) (hex : allExited (frun P k fs).1) :
    Quiescent (frun P k fs).1.c :=
  (frun_inv k fs).join hex ((frun_pcs_length (P := P) k fs).symm ▸ hk)

/-- **Never stuck** (the market's no-lost-wake-up theorem, composed): at every moment of every run, as long as some worker
    thread is still there, either a worker that is RUNNING has an enabled step (a step on its current job, take the next job
    from its deque, or call `pop`), or a waiting worker has been NOTIFIED and can wake.  The situation "everybody waits
    on the condition variable and nobody will ever call `notify`" does not occur.  Enabled means that `fstep` performs the
    step; a step on the current job is enabled in every phase of the job, so this is a statement about the MARKET side: that
    the checking logic of a busy worker always has a step that changes the state is `C05_progress`, on the machine.  (That the
    operating system then actually schedules such a worker is the fairness assumption; with it and `C05_bounded_work` every run ends.) -/
theorem C05_full_never_stuck (k : Nat) (fs : List FStep) (h : ¬ allExited (frun P k fs).1) :
    (∃ w f r, (frun P k fs).1.m.pcs[w]? = some Pc.running ∧ fstep P (frun P k fs).1 f = some r ∧
        (f = .pop w ∨ f = .take w 0 ∨ f = .evalProp w false)) ∨
    (∃ w r, (frun P k fs).1.m.pcs[w]? = some (Pc.parked true) ∧ fstep P (frun P k fs).1 (.wake w) = some r) :=
  not_stuck P (frun_inv k fs) h

/-- **C01 for the multi-threaded checker.**  All workers gone, no early exit (no stop, no depth limit hit, not
    everything discovered before the end), no fingerprint collision among reachable states: the evaluated states are
    exactly the reachable in-boundary states, the generated keys are duplicate-free and are exactly their keys — for every
    thread count and every schedule. -/
theorem C05_full_exact (hinj : ∀ a b, P.M.Reach a → P.M.Reach b → P.key a = P.key b → a = b)
    (k : Nat) (hk : 0 < k) (fs : List FStep) (hex : allExited (frun P k fs).1)
    (he : (frun P k fs).1.c.early = false) :
    (∀ t, P.M.Reach t ↔ t ∈ visitedStates (frun P k fs).1.c) ∧
    (frun P k fs).1.c.gen.Nodup ∧ (∀ key, key ∈ (frun P k fs).1.c.gen ↔ ∃ t, P.M.Reach t ∧ P.key t = key) := by
  have hq := C05_full_join P k hk fs hex
  obtain ⟨_, hc⟩ := C05_full_refines P k fs
  rw [hc] at hq he ⊢
  exact C01.C01_exact P hinj _ hq he

/-- **C02 for the multi-threaded checker**: after `join`, unless the run was cut short, a property that is not an
    eventually-property has a discovery iff a reachable state is a witness (always: violates it; sometimes: satisfies
    it). -/
theorem C05_full_verdicts (hinj : ∀ a b, P.M.Reach a → P.M.Reach b → P.key a = P.key b → a = b)
    (k : Nat) (hk : 0 < k) (fs : List FStep) (hex : allExited (frun P k fs).1)
    (he : (frun P k fs).1.c.early = false ∨ allDiscovered P (frun P k fs).1.c = true)
    (i : Nat) (pr : Prop' σ) (hpr : P.props[i]? = some pr) :
    (pr.exp = .always → (hasDisc (frun P k fs).1.c.disc i = true ↔ ∃ t, P.M.Reach t ∧ pr.cond t = false)) ∧
    (pr.exp = .sometimes → (hasDisc (frun P k fs).1.c.disc i = true ↔ ∃ t, P.M.Reach t ∧ pr.cond t = true)) := by
  have hq := C05_full_join P k hk fs hex
  obtain ⟨_, hc⟩ := C05_full_refines P k fs
  rw [hc] at hq he ⊢
  exact ⟨fun hexp => C02.C02_always P hinj _ ⟨hq, he⟩ i pr hpr hexp,
         fun hexp => C02.C02_sometimes P hinj _ ⟨hq, he⟩ i pr hpr hexp⟩

/-- **The trace validator accepts only runs of the product.**  `SR/Drv/Full.lean` (driver command `tv`) replays the entries
    recorded by the trace hooks during a real multi-threaded `spawn_bfs` / `spawn_dfs` / `spawn_on_demand` run (`mode`); if
    it accepts the trace, the state it ends in is the state of a run `frun P k fs` of the concurrent checker — so the
    theorems above hold of the very run that was observed (and its final counts and discoveries, which the check compares
    with what the checker reported, are those of that run). -/
theorem C05_trace_validation_sound (P : Params Nat Nat Nat) (k : Nat) (mode : Drv.Full.Mode) (es : List Drv.Full.Ev)
    (tv : Drv.Full.TV)
    (h : Drv.Full.replay P k mode { x := finit P k, reason := [], pieces := [] } 1 es = .ok tv) :
    ∃ fs : List FStep, tv.x = (frun P k fs).1 :=
  Drv.Full.isRun_replay k mode es _ tv 1 (Drv.Full.isRun_refl P (finit P k)) h

/-! ### Non-vacuity: concrete runs of the concurrent checker that reach "all workers gone" without a stop and without an
early exit — 2 workers on the 5-state graph of `Props/C01.lean` (the round-robin scheduler of `Checker/FullSched.lean`:
work is shared through `split_and_push`, workers park and are woken, the last one closes the market), and 3 workers on
an 8-state graph with three initial states.  The scheduler's fuel (400, 1000) only bounds its recursion: it stops by
itself when no worker can move, and `allExited` below shows that the bound was not reached. -/

instance (x : FState Nat Nat) : Decidable (allExited x) := by unfold allExited; infer_instance

def exRun2 : FState Nat Nat × List Step × List Choice :=
  frun C01.exParams 2 (fsched C01.exParams 2 400 0 (finit C01.exParams 2))

example : allExited exRun2.1 ∧ exRun2.1.c.stopped = false ∧ exRun2.1.c.early = false ∧
    exRun2.1.c.gen.length = 4 ∧ exRun2.1.c.done.length = 4 ∧ exRun2.1.m.isOpen = false := by decide +kernel

def exGraph3 : Graph :=
  { n := 8, init := [0, 3, 5],
    adj := [[some 1, some 2], [some 3, none], [some 3, some 2], [some 0, some 4], [], [some 6, some 7], [some 7],
            [some 5, some 1]],
    bnd := [true, true, true, true, false, true, true, true] }

def exParams3 : Params Nat Nat Nat :=
  { M := exGraph3.toSys, props := [{ exp := .always, cond := fun _ => true }], key := id, cfg := {},
    finishMatches := fun d => d.length == 1 }

def exRun3 : FState Nat Nat × List Step × List Choice :=
  frun exParams3 3 (fsched exParams3 3 1000 0 (finit exParams3 3))

example : allExited exRun3.1 ∧ exRun3.1.c.stopped = false ∧ exRun3.1.c.early = false ∧
    exRun3.1.c.gen.length = 7 ∧ exRun3.1.c.done.length = 7 ∧ exRun3.1.m.isOpen = false := by decide +kernel

/-- a run in which a worker stops for `finish_when` while its colleague still holds jobs: the jobs are discarded, the
    machine is stopped, `early` is set -/
def exStopRun : FState Nat Nat × List Step × List Choice :=
  frun { C01.exParams with finishMatches := fun _ => true } 2
    [.pop 0, .take 0 1, .evalProp 0 false, .stop 1 .finish, .finishProps 0, .expand 0 true 2 false,
     .expand 0 true 3 false, .expand 0 true 4 false, .exit 0]

example : allExited exStopRun.1 ∧ exStopRun.1.c.stopped = true ∧ exStopRun.1.c.early = true ∧
    exStopRun.1.c.frontier.length = 0 ∧ exStopRun.1.c.active.length = 0 ∧ exStopRun.1.c.done.length = 1 := by
  decide +kernel

end SR.C05F
