import SR.Checker.Assert
import SR.Proofs.PathApi
import SR.Checker.Verdict
/-!
# The provided assertion / classification helpers of the `Checker` trait (C02, C03)

Model: `SR/Checker/Assert.lean` (src/checker.rs: `discovery`, `discovery_classification`,
`assert_any_discovery`, `assert_no_discovery`, `assert_properties`, `assert_discovery`).  They are what a user's test
calls after a check, so C02 ("assert_properties succeeds exactly when …") and C03 (`discovery_classification`) are
observed through them.
-/
namespace SR.CAssert
open SR SR.PathApi SR.Checker SR.Checker.Assert

variable {σ α : Type}

/-- `assert_no_discovery` returns exactly when there is no discovery and the check is done;
    `assert_any_discovery` returns exactly when there is a discovery. -/
theorem C02_assert_any_no (v : View σ α) (i : Nat) :
    (assertAnyOk v i = true ↔ ∃ p, v.discovery i = some p) ∧
    (assertNoOk v i = true ↔ v.discovery i = none ∧ v.done = true) := by
  constructor
  · simp [assertAnyOk, Option.isSome_iff_exists]
  · simp [assertNoOk, Option.isNone_iff_eq_none]

/-- `assert_properties` (the loop over the per-property helpers, as written in the code) is the verdict function of
    the checker machine for which `C02_assert` is proved: for any exposure `v` of a machine state `s` — `is_done` and the
    presence of a discovery per property agree — the two coincide. -/
theorem C02_assert_properties_helpers {κ : Type} [DecidableEq κ] (P : Params σ κ α) (s : St σ κ) (v : View σ α)
    (hdone : v.done = isDone P s) (hdisc : ∀ i, (v.discovery i).isSome = hasDisc s.disc i) :
    Assert.assertPropertiesOk P.props v = Checker.assertPropertiesOk P s := by
  unfold Assert.assertPropertiesOk Checker.assertPropertiesOk
  congr 1
  funext i
  cases hp : P.props[i]? with
  | none => rfl
  | some pr =>
    -- `assert_no_discovery` for always/eventually (it also demands `is_done`), `assert_any_discovery` for sometimes
    have hno : assertNoOk v i = (!hasDisc s.disc i && isDone P s) := by
      rw [assertNoOk, hdone, ← hdisc i, Option.not_isSome]
    have hany : assertAnyOk v i = hasDisc s.disc i := hdisc i
    dsimp only
    cases pr.exp with
    | always => exact hno
    | eventually => exact hno
    | sometimes => exact hany

/-- `discovery_classification`: "counterexample" exactly for always/eventually properties, "example" exactly for
    sometimes properties (and a panic only for a name that is not a property). -/
theorem C03_classification (props : List (Prop' σ)) (i : Nat) :
    (classification props i = some .counterexample ↔ ∃ pr, props[i]? = some pr ∧ pr.exp ≠ .sometimes) ∧
    (classification props i = some .example ↔ ∃ pr, props[i]? = some pr ∧ pr.exp = .sometimes) ∧
    (classification props i = none ↔ props.length ≤ i) := by
  unfold classification
  cases hp : props[i]? with
  | none =>
    have := List.getElem?_eq_none_iff.1 hp
    simp [this]
  | some pr =>
    have : i < props.length := (List.getElem?_eq_some_iff.1 hp).1
    cases hx : pr.exp <;> simp [hx] <;> omega

/-- what `assert_discovery` demands of the path denoted by the actions -/
def Accepts (M : Sys σ α) (pr : Prop' σ) (p : Path σ α) : Prop :=
  (pr.exp = .always → ∃ s, lastState p = some s ∧ pr.cond s = false) ∧
  (pr.exp = .sometimes → ∃ s, lastState p = some s ∧ pr.cond s = true) ∧
  (pr.exp = .eventually → (∀ s ∈ intoStates p, pr.cond s = false) ∧ ∃ s, lastState p = some s ∧ M.acts s = [])

theorem acceptsPath_iff (M : Sys σ α) (pr : Prop' σ) (p : Path σ α) :
    acceptsPath M pr p = true ↔ Accepts M pr p := by
  unfold acceptsPath Accepts
  cases hx : pr.exp <;> cases hl : lastState p <;> simp [List.isEmpty_iff]

/-- **`assert_discovery(name, actions)`** returns exactly when the checker has a discovery for the property AND the
    actions, replayed from some initial state, denote a real execution of the model (every action offered and not
    ignored) that is a witness in the sense of `Accepts`. -/
theorem C03_assert_discovery [DecidableEq α] (M : Sys σ α) (props : List (Prop' σ)) (v : View σ α) (i : Nat)
    (acts : List α) :
    assertDiscoveryOk M props v i acts = true ↔
      (∃ q, v.discovery i = some q) ∧
      ∃ pr, props[i]? = some pr ∧ ∃ s0 ∈ M.init, ∃ p, ExecFrom M s0 p ∧ intoActions p = acts ∧ Accepts M pr p := by
  unfold assertDiscoveryOk
  rw [Bool.and_eq_true, (C02_assert_any_no v i).1]
  apply and_congr_right
  intro _
  cases hp : props[i]? with
  | none => simp
  | some pr =>
    -- the replay from `s0` yields the one path with these actions, and `acceptsPath` decides `Accepts`
    simp only [List.any_eq_true, Option.some.injEq, exists_eq_left', ← acceptsPath_iff, ← and_assoc,
      ← fromActionsAux_iff]
    refine exists_congr fun s0 => and_congr_right fun _ => ?_
    cases fromActionsAux M s0 acts <;> simp

/-- non-vacuity: a two-state system `0 -a-> 1`, property "always (≠ 1)" with the discovery `[0,1]`: the helper accepts
    the action list `[a]` and rejects the empty one -/
example :
    let M : Sys Nat Nat := { init := [0], acts := fun s => if s = 0 then [7] else [], next := fun s a => if s = 0 ∧ a = 7 then some 1 else none, inB := fun _ => true }
    let props : List (Prop' Nat) := [{ exp := .always, cond := fun s => s != 1 }]
    let v : View Nat Nat := { done := true, disc := [(0, [(0, some 7), (1, none)])] }
    assertDiscoveryOk M props v 0 [7] = true ∧ assertDiscoveryOk M props v 0 [] = false ∧
    assertPropertiesOk props v = false ∧ classification props 0 = some .counterexample := by
  decide

end SR.CAssert
