import SR.Proofs.Checker.MSim
import SR.Proofs.Checker.SimReplay
import SR.Props.C11
import SR.Checker.Graph
/-!
# C03 / C11 for the MULTI-THREADED simulation checker, as one machine

The machine `SR/Checker/MSim.lean`: k workers sharing the `discoveries` map, `state_count` and the shutdown flag; one step
per operation on shared state.
`(MSim.run P k fs).disc` is the shared map at ANY moment of ANY run: `fs` is an arbitrary step
list — every interleaving of any number of workers, every chooser (the `start` / `advance` steps carry what it chose),
traces cut anywhere by the shutdown flag (`timeout`, `cut`) or by a panic in model code (`panic`), workers leaving for any
reason.  Compared with `C03_sim_worker` / `C03_sim_shared_map` (one worker + an oracle for the colleagues) nothing is
left to an oracle: the reads of the shared map are reads of THE map of the machine.

Hypothesis `hkc` as in `C03_sim`: states with the same identity agree on the property conditions (no fingerprint
collisions; under symmetry the invariance of the conditions).

The trace validator `tvsim` (`SR/Drv/SimTrace.lean`) accepts only runs of this machine (`C03_msim_trace_validation_sound`), so
the theorems hold of every real `spawn_simulation` run whose trace it accepts.
-/
namespace SR.C03
open SR SR.Checker

variable {σ κ α : Type} [DecidableEq σ] [DecidableEq κ] (P : Params σ κ α)

/-- `C03_msim` with the predicate folded (that of `C03_sim_worker`) -/
theorem C03_msim_discOk
    (hkc : ∀ a b, P.M.Reach a → P.M.Reach b → P.key a = P.key b → ∀ pr ∈ P.props, pr.cond a = pr.cond b)
    (k : Nat) (fs : List (MSim.Step σ)) : Sim.DiscOk P (MSim.run P k fs).disc :=
  (MSim.runFrom_inv hkc fs _ (MSim.inv_init k)).disc

/-- **Every entry of the shared discoveries map of a multi-threaded simulation, at any moment of any run, is a genuine
    witness** in the sense of `C03_sim`. -/
theorem C03_msim
    (hkc : ∀ a b, P.M.Reach a → P.M.Reach b → P.key a = P.key b → ∀ pr ∈ P.props, pr.cond a = pr.cond b)
    (k : Nat) (fs : List (MSim.Step σ)) :
    ∀ e ∈ (MSim.run P k fs).disc,
      P.M.IsPath e.2 ∧ e.1 < P.props.length ∧
      (∀ pr, P.props[e.1]? = some pr →
        (pr.exp = .always → ∃ s, e.2.getLast? = some s ∧ pr.cond s = false) ∧
        (pr.exp = .sometimes → ∃ s, e.2.getLast? = some s ∧ pr.cond s = true) ∧
        (pr.exp = .eventually → (∀ t ∈ e.2, pr.cond t = false) ∧
          ((∃ t, e.2.getLast? = some t ∧ P.M.succB t = []) ∨ Sim.CyclesBack P e.2))) := by
  intro e he
  have h := C03_msim_discOk P hkc k fs e he
  exact ⟨h.path, h.idx, fun pr hpr => ⟨(h.wit pr hpr).1, (h.wit pr hpr).2, fun hev => h.ev pr hpr hev⟩⟩

theorem C11_msim_counterexample_is_maximal
    (hkc : ∀ a b, P.M.Reach a → P.M.Reach b → P.key a = P.key b → ∀ pr ∈ P.props, pr.cond a = pr.cond b)
    (k : Nat) (fs : List (MSim.Step σ)) (e : Nat × List σ) (he : e ∈ (MSim.run P k fs).disc) (pr : Prop' σ)
    (hpr : P.props[e.1]? = some pr) (hexp : pr.exp = .eventually) : C11.MaxPathAvoidingSim P pr e.2 := by
  have h := C03_msim_discOk P hkc k fs e he
  exact ⟨h.path, (h.ev pr hpr hexp).1, (h.ev pr hpr hexp).2⟩

/-- **No false alarm, multi-threaded simulation, every schedule**: if the shared map holds a counterexample for an
    eventually property, there is a maximal in-boundary path (terminal, or a lasso) on which the condition never holds. -/
theorem C11_msim_no_false_alarm
    (hkc : ∀ a b, P.M.Reach a → P.M.Reach b → P.key a = P.key b → ∀ pr ∈ P.props, pr.cond a = pr.cond b)
    (k : Nat) (fs : List (MSim.Step σ)) (i : Nat) (pr : Prop' σ) (hpr : P.props[i]? = some pr)
    (hexp : pr.exp = .eventually) (hd : hasDisc (MSim.run P k fs).disc i = true) :
    ∃ p, C11.MaxPathAvoidingSim P pr p := by
  obtain ⟨p, he⟩ := (hasDisc_iff_exists _ _).1 hd
  exact ⟨p, C11_msim_counterexample_is_maximal P hkc k fs (i, p) he pr hpr hexp⟩

/-- **`state_count` = the number of `enter` steps that counted.** -/
theorem C03_msim_state_count (k : Nat) (fs : List (MSim.Step σ)) :
    (MSim.run P k fs).stateCount = MSim.counted P (MSim.init k) fs := by
  have := MSim.runFrom_count (P := P) fs (MSim.init k)
  simpa [MSim.run, MSim.init] using this

/-- … where a step counts iff it is the `enter` step of a worker at the top of its trace loop whose current state passes
    the depth test, the boundary test and the seen test (`enterOut = counted`) -/
theorem C03_msim_counts_iff (f : MSim.Step σ) (s : MSim.St σ κ) :
    MSim.counts P f s = true ↔
      ∃ w t, f = .enter w ∧ s.ws[w]? = some (MSim.WSt.busy t) ∧ t.ph = .top ∧ MSim.enterOut P t = .counted :=
  MSim.counts_iff

/-- Only `applyProp` (a witness of an always / sometimes property) and `recordOne` (the recording loop after "loop found"
    / "no action left") write to the shared map, and they insert the path of the worker's own trace.  In particular a
    trace that is cut by the shutdown flag, stopped by the depth limit, started outside the boundary or ended because
    everything is discovered records nothing. -/
theorem C03_msim_only_inserts (f : MSim.Step σ) (s s' : MSim.St σ κ) (h : MSim.step P f s = some s') :
    s'.disc = s.disc ∨
    ∃ w i t, (f = .applyProp w i ∨ f = .recordOne w i) ∧ s.ws[w]? = some (MSim.WSt.busy t) ∧
      s'.disc = discInsert s.disc i t.path :=
  MSim.step_disc h

/-- a property that is discovered stays discovered, whatever happens next (so a worker that has read "discovered" and
    logs it later, and `finish_when` evaluated on a concurrent iteration of the map, are consistent with the map at the
    moment of the log entry) -/
theorem C03_msim_discovered_stays (s : MSim.St σ κ) (fs : List (MSim.Step σ)) (i : Nat)
    (hd : hasDisc s.disc i = true) : hasDisc (MSim.runFrom P s fs).disc i = true := by
  fun_induction MSim.runFrom P s fs
  case case1 => exact hd
  case case2 ih => exact ih hd  -- the step is not enabled
  case case3 hstep ih => exact ih (MSim.step_hasDisc hstep hd)

/-- **The trace validator accepts only runs of the machine.**  `SR/Drv/SimTrace.lean` (driver command `tvsim`) replays the
    entries recorded by the `TR_SIM_*` hooks during a real multi-threaded `spawn_simulation` run; if it accepts the trace,
    the state it ends in is the state of a run `MSim.run P k fs` — so the theorems above hold of the very run that was
    observed (and its final count and discoveries, which the check compares with what the checker reported, are those of
    that run). -/
theorem C03_msim_trace_validation_sound (P : Params Nat Nat Nat) (k : Nat) (es : List Drv.SimTrace.Ev)
    (x : MSim.St Nat Nat) (h : Drv.SimTrace.replay P (MSim.init k) 0 es = .ok x) :
    ∃ fs : List (MSim.Step Nat), x = MSim.run P k fs :=
  (Drv.SimTrace.isRun_replay es 0 (Drv.SimTrace.isRun_refl P _)).ok h

theorem C03_msim_validated_run (P : Params Nat Nat Nat)
    (hkc : ∀ a b, P.M.Reach a → P.M.Reach b → P.key a = P.key b → ∀ pr ∈ P.props, pr.cond a = pr.cond b)
    (k : Nat) (es : List Drv.SimTrace.Ev) (x : MSim.St Nat Nat)
    (h : Drv.SimTrace.replay P (MSim.init k) 0 es = .ok x) :
    Sim.DiscOk P x.disc ∧ ∃ fs : List (MSim.Step Nat), x.stateCount = MSim.counted P (MSim.init k) fs := by
  obtain ⟨fs, rfl⟩ := C03_msim_trace_validation_sound P k es x h
  exact ⟨C03_msim_discOk P hkc k fs, fs, C03_msim_state_count P k fs⟩

/-! ### Non-vacuity: two workers racing on one property

`0 → {1, 2}`, one property `sometimes (s ≠ 0)`.  Worker 0 walks to 1, worker 1 to 2.  Both read the shared map before
either inserts: both insert, the later insert wins (`raceBoth`).  If worker 1 reads after worker 0's insert it skips the
property and its trace ends with "everything discovered" (`raceSkip`).  Both are runs of the same machine. -/

def raceGraph : Graph :=
  { n := 3, init := [0], adj := [[some 1, some 2], [], []], bnd := [true, true, true] }

def raceParams : Params Nat Nat Nat :=
  { M := raceGraph.toSys, props := [{ exp := .sometimes, cond := fun s => s != 0 }], key := id,
    cfg := { target := some 100 }, finishMatches := fun d => d.length == 1 }

def raceCommon : List (MSim.Step Nat) :=
  [.start 0 0, .start 1 0, .enter 0, .enter 1,
   .evalProp 0 0, .evalProp 1 0, .applyProp 0 0, .applyProp 1 0,        -- state 0 is no witness: awaited
   .finishProps 0, .finishProps 1, .advance 0 (some 1), .advance 1 (some 2), .enter 0, .enter 1]

def raceBoth : List (MSim.Step Nat) :=
  raceCommon ++
  [.evalProp 0 0, .evalProp 1 0,                                         -- both reads: nothing there
   .applyProp 0 0, .applyProp 1 0,                                       -- both insert; worker 1's path replaces worker 0's
   .finishProps 0, .finishProps 1, .leave 0 .finish, .leave 1 .finish]

def raceSkip : List (MSim.Step Nat) :=
  raceCommon ++
  [.evalProp 0 0, .applyProp 0 0,                                        -- worker 0 reads and inserts
   .evalProp 1 0,                                                        -- worker 1 reads: discovered, skipped
   .finishProps 0, .finishProps 1, .leave 0 .finish, .leave 1 .finish]

example : (MSim.run raceParams 2 raceBoth).disc = [(0, [0, 2])] ∧ (MSim.run raceParams 2 raceBoth).stateCount = 4 ∧
    MSim.allLeft (MSim.run raceParams 2 raceBoth) = true ∧ MSim.counted raceParams (MSim.init 2) raceBoth = 4 := by
  decide

example : (MSim.run raceParams 2 raceSkip).disc = [(0, [0, 1])] ∧ (MSim.run raceParams 2 raceSkip).stateCount = 4 ∧
    MSim.allLeft (MSim.run raceParams 2 raceSkip) = true := by decide

/-- every step of the two runs is enabled (none is skipped by `runFrom`) -/
def allEnabled (P : Params Nat Nat Nat) : MSim.St Nat Nat → List (MSim.Step Nat) → Bool
  | _, [] => true
  | s, f :: fs => match MSim.step P f s with
    | none => false
    | some s' => allEnabled P s' fs

example : allEnabled raceParams (MSim.init 2) raceBoth = true ∧ allEnabled raceParams (MSim.init 2) raceSkip = true := by
  decide

/-- the hypothesis of `C03_msim` holds of the example (`key = id`) -/
example : ∀ a b, raceParams.M.Reach a → raceParams.M.Reach b → raceParams.key a = raceParams.key b →
    ∀ pr ∈ raceParams.props, pr.cond a = pr.cond b := by
  intro a b _ _ h pr _; simp only [raceParams, id] at h; rw [h]

/-! A cut trace records nothing: `0 → 1`, `eventually (s = 5)` (never holds).  Uncut, the trace ends in the terminal state
1 and records the counterexample `[0, 1]`; with the timeout firing while the worker is on its way, the shutdown flag is
seen at the top of the loop and nothing is recorded — the worker then leaves for the shutdown. -/

def cutGraph : Graph := { n := 2, init := [0], adj := [[some 1], []], bnd := [true, true] }

def cutParams : Params Nat Nat Nat :=
  { M := cutGraph.toSys, props := [{ exp := .eventually, cond := fun s => s == 5 }], key := id,
    cfg := { timeout := true }, finishMatches := fun d => d.length == 1 }

def cutHead : List (MSim.Step Nat) :=
  [.start 0 0, .enter 0, .evalProp 0 0, .applyProp 0 0, .finishProps 0, .advance 0 (some 1)]

example : (MSim.run cutParams 1 (cutHead ++ [.enter 0, .evalProp 0 0, .applyProp 0 0, .finishProps 0, .advance 0 none,
    .recordOne 0 0, .endTrace 0, .leave 0 .finish])).disc = [(0, [0, 1])] := by decide

example : (MSim.run cutParams 1 (cutHead ++ [.timeout, .cut 0, .cont 0, .leave 0 .shutdown])).disc = [] ∧
    MSim.allLeft (MSim.run cutParams 1 (cutHead ++ [.timeout, .cut 0, .cont 0, .leave 0 .shutdown])) = true ∧
    allEnabled cutParams (MSim.init 1) (cutHead ++ [.timeout, .cut 0, .cont 0, .leave 0 .shutdown]) = true := by decide

/-- without the flag the `cut` step is not enabled -/
example : MSim.step cutParams (.cut 0) (MSim.run cutParams 1 cutHead) = none := by decide

end SR.C03
