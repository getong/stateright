import SR.Proofs.RewritePlan
import SR.Proofs.RewriteReindex
import SR.Proofs.UtilExtras
import SR.Proofs.HashBytes
/-!
# Util containers and plans: the remaining operations (DESIGN §13c)

Models: `SR/Util/Extras.lean` (the remaining `DenseNatMap` operations, plans built from
dense maps, the hash-based order of `HashableHashSet/Map` with std's SipHash-1-3) on top of
`SR/Util/DenseNatMap.lean` / `SR/Util/Rewrite.lean` / `SR/Hash/Univ.lean`.
`C20_*`: dense maps; `C10_*`: plans; `C04_*`: hashing order.
-/
namespace SR.CUtilExtras
open SR SR.DNM SR.RW SR.Hash

/-- `m[k] = v ↔ m.get(k) = Some(v)` -/
theorem C20_dnx_index_iff {V} (m : List V) (k : Nat) (v : V) :
    index m k = .ok v ↔ DNM.get m k = some v := by
  unfold index DNM.get
  by_cases h : k < m.length
  · simp [h]
  · simp [h]

theorem C20_dnx_index_panic_iff {V} (m : List V) (k : Nat) :
    (index m k = .panic ↔ DNM.get m k = none) ∧ (index m k = .panic ↔ len m ≤ k) := by
  unfold index DNM.get len
  by_cases h : k < m.length
  · simp [h]
  · simp [h]
    omega

theorem C20_dnx_len {V} (m : List V) (k : Nat) : (DNM.get m k).isSome ↔ k < len m := by
  unfold DNM.get len
  by_cases h : k < m.length <;> simp [h]

/-- `m[k] = v` (`IndexMut`) -/
theorem C20_dnx_index_mut {V} (m : List V) (k : Nat) (v : V) :
    (indexMut m k v = none ↔ len m ≤ k) ∧
    ∀ m', indexMut m k v = some m' →
      len m' = len m ∧ index m' k = .ok v ∧ DNM.get m' k = some v ∧ ∀ j, j ≠ k → DNM.get m' j = DNM.get m j := by
  unfold indexMut len
  by_cases h : k < m.length
  · refine ⟨by simp [h], ?_⟩
    intro m' hm
    simp only [h, if_true, Option.some.injEq] at hm
    subst hm
    refine ⟨by simp, ?_, by simp [DNM.get, h], ?_⟩
    · rw [C20_dnx_index_iff]
      simp [DNM.get, h]
    · intro j hj
      simp [DNM.get, Ne.symm hj]
  · refine ⟨by simp [h]; omega, ?_⟩
    intro m' hm
    simp [h] at hm

/-- owned `into_iter()` / `iter()`: every pair once, in key order -/
theorem C20_dnx_into_iter {V} (m : List V) :
    (intoIter m).length = len m ∧
    (∀ k, (intoIter m)[k]? = (DNM.get m k).map (fun v => (k, v))) ∧
    (intoIter m).map (·.1) = List.range (len m) ∧
    (intoIter m).map (·.2) = values m := by
  rw [intoIter_eq_zip]
  refine ⟨by simp [len], fun k => ?_, List.map_fst_zip (by simp), List.map_snd_zip (by simp)⟩
  by_cases h : k < m.length <;> simp [DNM.get, h]

/-- collecting the pairs of `into_iter()` — in ANY order — gives the map back (`FromIterator<(K, V)>`) -/
theorem C20_dnx_collect_into_iter {V} (m : List V) (ps : List (Nat × V)) (h : ps.Perm (intoIter m)) :
    fromPairs ps = some m := by
  rw [fromPairs_perm ps _ h, intoIter_eq_zip, fromPairs_eq_some_iff]
  exact ⟨by rw [List.map_fst_zip (by simp)]; simp, by simp, fun p hp => mem_zip_range hp⟩

/-- `default()` / `new()` is the empty map; `From<Vec<V>>` maps key `k` to `vs[k]` -/
theorem C20_dnx_default_from_vec {V} :
    (len (DNM.default : List V) = 0 ∧ ∀ k, DNM.get (DNM.default : List V) k = none) ∧
    (∀ (vs : List V), len (fromVec vs) = vs.length ∧ values (fromVec vs) = vs ∧ ∀ k, DNM.get (fromVec vs) k = vs[k]?) :=
  ⟨⟨rfl, fun k => by simp [DNM.default, DNM.get]⟩, fun _ => ⟨rfl, rfl, fun _ => rfl⟩⟩

/-- the command language of the driver: `m[k] = v` then `m[k]` then `len` on a valid key -/
theorem C20_dnx_run_set_idx (m : List Nat) (k v : Nat) (h : k < len m) :
    run m [.set k v, .idx k, .len] = ([.unit, .val v, .n (len m)], some (m.set k v)) := by
  unfold len at h
  have h' : k < (m.set k v).length := by simpa using h
  simp [run, step, indexMut, index, h, len]

/-- `RewritePlan::from(dense map)` (owned or borrowed) is `from_values_to_sort` of its values, and such a plan rewrites
`Id(k)` to its state's value at `k` (panic = `none` outside the state). -/
theorem C10_plan_from_dnm {V : Type} (le : V → V → Bool) (vs : List V) :
    planFromDNM le (fromVec vs) = planOf le vs ∧
    ∀ k, planRewrite (planFromDNM le (fromVec vs)) k = DNM.get (planOf le vs) k :=
  ⟨rfl, fun _ => rfl⟩

theorem C10_plan_from_dnm_perm {V : Type} (le : V → V → Bool) (m : List V) :
    (planFromDNM le m).Perm (List.range (len m)) ∧ len (planFromDNM le m) = len m :=
  ⟨planOf_perm le m, planOf_length le m⟩

theorem C10_plan_of_perm (π : List Nat) (h : π.Perm (List.range π.length)) : planOf natLe π = π := by
  apply List.ext_getElem?
  intro i
  by_cases hi : i < π.length
  · obtain ⟨k, hk, e1, e2⟩ := planOf_spec natLe π i hi
    -- the first sort is by value, and the values are `0..n-1`: position `k` holds value `k`
    have : ((sortedIdx natLe π)[k]).2 = k :=
      sort_key_at Prod.snd ((List.range π.length).zip π) (zip_range_keys id π (by simpa using h)) k hk
    rw [e2] at this
    rw [e1, List.getElem?_eq_getElem hi, ← this]
  · rw [List.getElem?_eq_none (by rw [planOf_length]; omega), List.getElem?_eq_none (by omega)]

/-- `from_values_to_sort(vs)` and `RewritePlan::from` of that plan's OWN state (a `DenseNatMap<R, R>`, ids ordered
by their number) are the same plan. -/
theorem C10_plan_from_own_state {V : Type} (le : V → V → Bool) (vs : List V) :
    planFromDNM natLe (planOf le vs) = planOf le vs :=
  C10_plan_of_perm _ (planOf_perm_range le vs)

/-- `reindex` with the plan of a dense map obeys the law of `C10_reindex`; it panics (`none`) iff the collection is shorter
than the map or an element's rewrite panics. -/
theorem C10_reindex_from_dnm {V : Type} {α} (le : V → V → Bool) (m : List V) (rw : α → Option α) (xs ys : List α) :
    reindexO (planFromDNM le m) rw xs = some ys ↔
      ys.length = len m ∧
      ∀ i (hi : i < (planFromDNM le m).length), (xs[i]?).bind rw = ys[(planFromDNM le m)[i]]? :=
  (reindexO_some_iff (planOf_perm_range le m) rw xs ys).trans (and_congr (by rw [planOf_length]; rfl) Iff.rfl)

/-- the stream `calculate_hash` digests is the flat byte stream of the collection's `Hash` impl (C04's `setToks`) -/
theorem C04_hkey_stream (h : List Tok → UInt64) (ss : List (List Tok)) :
    HOrd.stream (ss.map fun s => (h s).toNat) = flat (setToks h ss) := by
  rw [flat_setToks]
  simp [HOrd.stream]

/-- insertion-order / iteration-order independence: the key (and so `cmp`) depends only on the MULTISET of the
elements' inner hashes -/
theorem C04_hcmp_perm (a a' b b' : List Nat) (ha : a.Perm a') (hb : b.Perm b') :
    HOrd.key a = HOrd.key a' ∧ HOrd.cmp a b = HOrd.cmp a' b' := by
  have hk : ∀ {x y : List Nat}, x.Perm y → HOrd.key x = HOrd.key y := by
    intro x y hxy
    unfold HOrd.key HOrd.stream
    rw [sort_eq_iff_perm.2 hxy, hxy.length_eq]
  unfold HOrd.cmp
  rw [hk ha, hk hb]
  exact ⟨rfl, rfl⟩

/-- `a == b ⇒ cmp(a, b) = Equal` (equal collections have the same elements, hence the same inner hashes up to order) -/
theorem C04_hcmp_equal (a b : List Nat) (h : a.Perm b) : HOrd.cmp a b = .eq := by
  have := (C04_hcmp_perm a b b b h (List.Perm.refl b)).2
  rw [this]
  unfold HOrd.cmp
  exact Nat.compare_eq_eq.2 rfl

theorem C04_hcmp_total_preorder (a b c : List Nat) :
    HOrd.cmp a a = .eq ∧
    HOrd.cmp b a = (HOrd.cmp a b).swap ∧
    (HOrd.cmp a b ≠ .gt → HOrd.cmp b c ≠ .gt → HOrd.cmp a c ≠ .gt) ∧
    HOrd.partialCmp a b = some (HOrd.cmp a b) := by
  unfold HOrd.cmp HOrd.partialCmp
  refine ⟨Nat.compare_eq_eq.2 rfl, (Nat.compare_swap _ _).symm, ?_, rfl⟩
  intro h1 h2
  rw [Ne, Nat.compare_eq_gt] at *
  omega

/-- antisymmetry only up to collisions of the 64-bit keys -/
theorem C04_hcmp_eq_iff (a b : List Nat) : HOrd.cmp a b = .eq ↔ HOrd.key a = HOrd.key b := by
  unfold HOrd.cmp
  exact Nat.compare_eq_eq

example : [2, 0, 1].Perm (List.range [2, 0, 1].length) := by decide
/-- `DefaultHasher::new().finish()` (SipHash-1-3, keys 0 0, empty input); the number is the one std returns -/
example : Sip.defaultHash [] = 15130871412783076140 := by decide
example : index [10, 20, 30] 1 = .ok 20 ∧ index [10, 20, 30] 3 = .panic := by decide
example : indexMut [10, 20, 30] 1 99 = some [10, 99, 30] ∧ indexMut [10, 20, 30] 3 99 = none := by decide
example : intoIter [10, 20, 30] = [(0, 10), (1, 20), (2, 30)] := by decide
example : run [1, 2] [.ins 2 7, .set 0 9, .idx 1, .get 5, .len, .idx 9, .len] =
    ([.prev none, .unit, .val 2, .opt none, .n 3], none) := by decide

end SR.CUtilExtras
