import SR.Props.C01
import SR.Props.C02
import SR.Proofs.Checker.Termination
import SR.Proofs.Checker.SchedTerm
/-!
# C05 (checker-machine part) — parallel checking is schedule-independent and terminates

Two arbitrary schedules `cs`, `cs'` — any thread counts, any interleavings of the workers' atomic sections, any queue
disciplines — that both complete without early exit evaluate the same set of states, generate the same set of keys and
reach the same always/sometimes verdicts.  On a model with finitely many reachable states no schedule makes more than
`mu init` state-changing steps and the single-threaded worker loop returns by itself; on any model a state that no step
changes is quiescent.
-/
namespace SR.C05M
open SR SR.Checker

variable {σ κ α : Type} [DecidableEq κ] (P : Params σ κ α)

theorem C05_schedule_independent_states
    (hinj : ∀ a b, P.M.Reach a → P.M.Reach b → P.key a = P.key b → a = b)
    (cs cs' : List Choice) (hq : Quiescent (run P cs)) (hq' : Quiescent (run P cs'))
    (he : (run P cs).early = false) (he' : (run P cs').early = false) :
    (∀ t, t ∈ visitedStates (run P cs) ↔ t ∈ visitedStates (run P cs')) ∧
    (∀ k, k ∈ (run P cs).gen ↔ k ∈ (run P cs').gen) ∧
    (run P cs).gen.length = (run P cs').gen.length := by
  obtain ⟨h1, hnd, h2⟩ := C01.C01_exact P hinj cs hq he
  obtain ⟨h1', hnd', h2'⟩ := C01.C01_exact P hinj cs' hq' he'
  refine ⟨fun t => (h1 t).symm.trans (h1' t), fun k => (h2 k).trans (h2' k).symm, ?_⟩
  have hp : (run P cs).gen.Perm (run P cs').gen :=
    (List.perm_ext_iff_of_nodup hnd hnd').2 (fun k => (h2 k).trans (h2' k).symm)
  exact hp.length_eq

theorem C05_schedule_independent_verdicts
    (hinj : ∀ a b, P.M.Reach a → P.M.Reach b → P.key a = P.key b → a = b)
    (cs cs' : List Choice) (hc : C02.Completed P (run P cs)) (hc' : C02.Completed P (run P cs'))
    (i : Nat) (pr : Prop' σ) (hpr : P.props[i]? = some pr) (hexp : pr.exp ≠ .eventually) :
    hasDisc (run P cs).disc i = hasDisc (run P cs').disc i := by
  have hR := fun (cs : List Choice) (hc : C02.Completed P (run P cs)) =>
    verdict_exact hinj cs hc.1 hc.2 i pr hpr hexp
  exact Bool.eq_iff_iff.2 ((hR cs hc).trans (hR cs' hc').symm)

/-! ### Termination of the checking logic under every schedule

`Fin P R D`: the model has finitely many reachable states (all listed in `R`) with at most `D` in-boundary successors
each.  `mu` is an explicit numeric measure of a machine state (states of `R` whose key is not generated × `Ac` + pending
jobs × `Bc` + remaining steps of the active workers + 1 while nobody has stopped; `Proofs/Checker/Termination.lean`). -/

/-- **no schedule can keep the checkers busy forever**: whatever the choice list (thread count, interleaving,
    queue discipline, stale reads, stops), the number of steps that change the state is bounded by `mu` of the
    initial state. -/
theorem C05_bounded_work {R : List σ} {D : Nat} (hfin : Fin P R D) (cs : List Choice) :
    effCount (P := P) (init P.M P.props P.key) cs ≤ mu P R D (init P.M P.props P.key) :=
  Nat.le_trans (Nat.le_add_right _ _) (effCount_bound (P := P) hfin (init P.M P.props P.key) sinv_init cs)

theorem C05_measure_decreases {R : List σ} {D : Nat} (hfin : Fin P R D) (cs : List Choice) (c : Choice)
    (hne : step P c (run P cs) ≠ run P cs) : mu P R D (step P c (run P cs)) < mu P R D (run P cs) :=
  mu_step_lt hfin c (sinv_run (P := P) cs) hne

/-- **no deadlock in the checking logic**: as long as something is pending or a worker is busy, some worker has a
    step that changes the state; equivalently, a state in which no step changes anything is quiescent (`join`
    has nothing left to wait for). -/
theorem C05_progress (s : St σ κ) (hstuck : ∀ c, step P c s = s) : Quiescent s :=
  Classical.byContradiction fun hnq => (progress (P := P) s hnq).elim fun c hc => hc (hstuck c)

/-- **The single-threaded executables terminate.**  `runSingle` (the one-thread worker loop of bfs.rs / dfs.rs / on_demand.rs
    as a scheduler over the machine) takes a `fuel` argument; on a model with finitely many reachable states
    `3 * mu + 2` iterations of the loop always suffice: the loop has then returned by itself and the state is quiescent. -/
theorem C05_single_thread_terminates {R : List σ} {D : Nat} (hfin : Fin P R D) (d : Discipline) (fuel : Nat)
    (hfuel : 3 * mu P R D (init P.M P.props P.key) + 2 ≤ fuel) : Quiescent (runSingle P d fuel) :=
  (runSingle_enough P hfin d fuel hfuel).1

/-- C01 for the single-threaded executables WITHOUT a termination hypothesis: finite model, enough fuel, no early exit,
    no fingerprint collision ⇒ the evaluated states are exactly the reachable ones. -/
theorem C05_single_thread_exact {R : List σ} {D : Nat} (hfin : Fin P R D)
    (hinj : ∀ a b, P.M.Reach a → P.M.Reach b → P.key a = P.key b → a = b)
    (d : Discipline) (fuel : Nat) (hfuel : 3 * mu P R D (init P.M P.props P.key) + 2 ≤ fuel)
    (he : (runSingle P d fuel).early = false) :
    ∀ t, P.M.Reach t ↔ t ∈ visitedStates (runSingle P d fuel) :=
  C01.C01_exact_single P d fuel hinj (C05_single_thread_terminates P hfin d fuel hfuel) he

/-! ### Non-vacuity: the 5-state graph of `Props/C01.lean` is finite in the sense of `Fin` (states 0..4, out-degree ≤ 2), so the
termination theorems apply to it with the explicit bound. -/

example (fuel : Nat) (h : 3 * mu C01.exParams (List.range 5) 2 (init C01.exParams.M C01.exParams.props C01.exParams.key) + 2 ≤ fuel) :
    Quiescent (runSingle C01.exParams .bfs fuel) :=
  C05_single_thread_terminates C01.exParams (Graph.fin (g := C01.exGraph) (by decide) _ rfl) .bfs fuel h

end SR.C05M
