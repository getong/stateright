import SR.Proofs.PathApi
/-!
# C19 — the Explorer and the Path API agree with the model

Model: `SR/Checker/PathApi.lean` (src/checker/path.rs, the `states` /
`status` / `get_properties` handlers of src/checker/explorer.rs, `reconstruct_path`), over an
arbitrary `Sys σ α` (= any `Model`) and a fingerprint function `key`; the fingerprint is assumed
injective exactly where the statement needs it (`inj`) — on ALL states, not only on the reachable
ones as for the checker machine: path.rs never consults the boundary, so the successors it
searches by fingerprint need not be reachable in the sense of `Reach`.

Not modelled: `ui/app.js`, the 4-second `recent_path` snapshot, the `svg` field.
-/
namespace SR.C19
open SR SR.PathApi

variable {σ α : Type}

/-- fingerprints → path: the encoded form of a real execution decodes (no panic) to an execution
through the same states, every step of which is a model step (the action may be another action
with the same successor), and which encodes to the same fingerprints. -/
theorem C19_fp_roundtrip (M : Sys σ α) (key : σ → Nat) (inj : ∀ x y, key x = key y → x = y)
    (p : Path σ α) (h : IsExec M p) :
    ∃ p', fromFingerprints M key (encode key p) = some p' ∧ intoStates p' = intoStates p ∧
      IsExec M p' ∧ encode key p' = encode key p :=
  fp_roundtrip M key inj p h

/-- decode then encode is the identity, and whatever `from_fingerprints` returns is an execution -/
theorem C19_encode_roundtrip (M : Sys σ α) (key : σ → Nat) (fps : List Nat) (p : Path σ α)
    (h : fromFingerprints M key fps = some p) : IsExec M p ∧ encode key p = fps :=
  fromFingerprints_sound M key fps p h

/-- actions → path: the action list of an execution, replayed from its first state, rebuilds
exactly that execution (actions determine successors); a first state that is not initial gives `None`. -/
theorem C19_actions_roundtrip [DecidableEq σ] [DecidableEq α] (M : Sys σ α) (p : Path σ α) (s : σ)
    (hs : s ∈ M.init) (h : ExecFrom M s p) :
    fromActions M s (intoActions p) = some p ∧ (∀ s' acts, s' ∉ M.init → fromActions M s' acts = none) := by
  constructor
  · simp only [fromActions, hs, if_true]
    exact fromActionsAux_exec h
  · intro s' acts hn
    simp [fromActions, hn]

/-- `final_state` is the last state of `from_fingerprints` (`None` where that panics), and it is
`None` exactly for fingerprint sequences that denote no execution. -/
theorem C19_final_state (M : Sys σ α) (key : σ → Nat) (fps : List Nat) :
    finalState M key fps = (fromFingerprints M key fps).bind lastState ∧
    ((∀ x y, key x = key y → x = y) →
      (finalState M key fps = none ↔ ¬ ∃ p, IsExec M p ∧ encode key p = fps)) := by
  refine ⟨finalState_eq M key fps, fun inj => ?_⟩
  rw [finalState_eq]
  constructor
  · intro hnone ⟨p, hp, hk⟩
    obtain ⟨p', hp', _, ⟨s, _, he'⟩, _⟩ := C19_fp_roundtrip M key inj p hp
    rw [hk] at hp'
    rw [hp'] at hnone
    obtain ⟨t, ht⟩ := lastState_execFrom he'
    simp [ht] at hnone
  · intro hno
    cases hf : fromFingerprints M key fps with
    | none => rfl
    | some p => exact absurd ⟨p, fromFingerprints_sound M key fps p hf⟩ hno

/-- `GET /.states<path>`: for a path that parses to the fingerprints of a real execution the answer
lists exactly the enabled actions of its final state, in order, each with its successor (ignored
actions kept, marked by `none`); the empty sequence lists the initial states; and the answer is
`Err` (HTTP 404) exactly when the path does not parse or denotes no execution. -/
theorem C19_states_view (M : Sys σ α) (key : σ → Nat) (inj : ∀ x y, key x = key y → x = y)
    (path : String) :
    (∀ fps p, parseFps path = some fps → fps ≠ [] → IsExec M p → encode key p = fps →
        ∃ s, lastState p = some s ∧ statesView M key path = some (rowsAt M s)) ∧
    (parseFps path = some [] → statesView M key path = some (M.init.map Row.init)) ∧
    (statesView M key path = none ↔
        parseFps path = none ∨
        ∃ fps, parseFps path = some fps ∧ fps ≠ [] ∧ ¬ ∃ p, IsExec M p ∧ encode key p = fps) := by
  refine ⟨?_, statesView_of_nil, ?_⟩
  · intro fps p hparse hne hp hk
    obtain ⟨p', hp', hst, _, _⟩ := C19_fp_roundtrip M key inj p hp
    rw [hk] at hp'
    obtain ⟨s0, _, he⟩ := hp
    obtain ⟨t, ht⟩ := lastState_execFrom he
    have hfin : finalState M key fps = some t := by
      rw [finalState_eq, hp', Option.bind_some, lastState_eq_of_states hst, ht]
    cases fps with
    | nil => exact absurd rfl hne
    | cons f r => exact ⟨t, ht, by rw [statesView_of_cons hparse, hfin]; rfl⟩
  · -- both sides are decided by the shape of `parseFps path`
    cases hparse : parseFps path with
    | none => simp [statesView_of_none hparse]
    | some fps =>
      cases fps with
      | nil => simp [statesView_of_nil hparse]
      | cons f r =>
        rw [statesView_of_cons hparse, Option.map_eq_none_iff, (C19_final_state M key (f :: r)).2 inj]
        simp

/-- `GET /.status`: the four counters are the checker's; there is one triple per property, in
order, carrying the model's expectation; and every reported discovery path is the fingerprint
sequence of a real execution of the model that ends in the state the checker recorded for that
property (when that fingerprint is in `generated`). That this state violates / satisfies the
property — i.e. that the path is a C03 witness — is the checker machine's invariant (C03). -/
theorem C19_status (M : Sys σ α) (key : σ → Nat) (exps : List Expect) (snap : Snapshot) :
    let v := statusView M key exps snap
    (v.done = snap.done ∧ v.stateCount = snap.stateCount ∧ v.unique = snap.unique ∧ v.maxDepth = snap.maxDepth) ∧
    v.props.map (fun t => (t.1, t.2.1)) = exps.zipIdx ∧
    (∀ e i fps, (e, i, some fps) ∈ v.props → fps ≠ [] →
      ∃ fp p, (i, fp) ∈ snap.disc ∧ IsExec M p ∧ encode key p = fps ∧
        ((snap.gen.get fp).isSome → ∃ s, lastState p = some s ∧ key s = fp)) := by
  refine ⟨⟨rfl, rfl, rfl, rfl⟩, List.map_map.trans (List.map_id'' (fun _ => rfl) _), ?_⟩
  intro e i fps hm hne
  obtain ⟨⟨e', i'⟩, _, heq⟩ := List.mem_map.1 hm
  injection heq with h1 h2
  injection h2 with h2 h3
  subst h1 h2
  -- from here `fps` stands as the `match reconstructPath …` of `propsView`
  obtain ⟨d, hf, rfl⟩ := Option.map_eq_some_iff.1 h3
  have hd : d.1 = i' := by simpa using List.find?_some hf
  cases hr : reconstructPath M key snap.gen d.2 with
  | none => exact absurd (by rw [hr]) hne
  | some p =>
    obtain ⟨hex, hk⟩ := fromFingerprints_sound M key _ p hr
    refine ⟨d.2, p, hd ▸ List.mem_of_find?_eq_some hf, hex, rfl, fun hg => ?_⟩
    have hl := walkBack_last snap.gen snap.gen.length d.2 hg
    rw [← hk, encode_getLast] at hl
    exact Option.map_eq_some_iff.1 hl

/-- `reconstruct_path` (what `discoveries()` and the visitor use) on a `generated` map built as the
checkers build it (`GenOK`) never panics and returns an execution through exactly the states of the
entry's parent chain; so the discovery path shown by `/.status` for a recorded fingerprint IS the
path along which the checker generated that state. -/
theorem C19_reconstruct (M : Sys σ α) (key : σ → Nat) (inj : ∀ x y, key x = key y → x = y)
    (gp : List ((Nat × Option Nat) × List σ)) (h : GenOK M key gp)
    (fp : Nat) (par : Option Nat) (path : List σ) (hm : ((fp, par), path) ∈ gp) :
    ∃ p, reconstructPath M key (gp.map (·.1)) fp = some p ∧ intoStates p = path ∧ IsExec M p ∧
      encode key p = path.map key ∧ ∃ s, lastState p = some s ∧ key s = fp := by
  obtain ⟨p, h1, h2, h3, h4⟩ := genOK_reconstruct inj h (genOK_get h) (by simp) hm
  obtain ⟨_, _, _, s, hs, hk⟩ := genOK_exec h _ hm
  exact ⟨p, h1, h2, h3, h4, s, by rw [lastState_eq_getLast, h2]; exact hs, hk⟩

/-- encoded form → url → fingerprints: the string `Path::encode` produces (decimal fingerprints joined
by `/`), appended to `/.states/`, is parsed by the Explorer back into exactly the path's fingerprint
sequence — for fingerprints in the range of `NonZeroU64` — so the three forms of a path (action list,
fingerprint list, encoded string) denote the same execution (`C19_fp_roundtrip`, `C19_actions_roundtrip`). -/
theorem C19_url_roundtrip (M : Sys σ α) (key : σ → Nat) (inj : ∀ x y, key x = key y → x = y)
    (hkey : ∀ s, 0 < key s ∧ key s < 18446744073709551616) (p : Path σ α) (h : IsExec M p) :
    parseFps ("/" ++ encodeStr key p) = some (encode key p) ∧
    ∃ s, lastState p = some s ∧ statesView M key ("/" ++ encodeStr key p) = some (rowsAt M s) := by
  obtain ⟨s0, hs0, he⟩ := h
  obtain ⟨x, rest, hp⟩ := execFrom_ne_nil he
  have hne : p ≠ [] := by rw [hp]; simp
  have hparse := parseFps_encodeStr key p hne (by
    intro f hf
    simp only [encode, List.mem_map] at hf
    obtain ⟨e, _, rfl⟩ := hf
    exact hkey e.1)
  refine ⟨hparse, ?_⟩
  exact (C19_states_view M key inj _).1 _ p hparse (by rw [hp]; simp [encode]) ⟨s0, hs0, he⟩ rfl

-- The on-demand scheduler clauses (`C19_on_demand_targeted`, `C19_on_demand_complete`) are theorems about the checker
-- machine, in `Props/C19Machine.lean`; the harness of this property observes them on the real on-demand checker.

/-! ### the hypotheses are satisfiable: a 4-state model with an ignored action, a join and a cycle -/

def exM : Sys Nat Nat where
  init := [0]
  acts s := if s = 0 then [0, 1, 2] else [0]
  next s a := match s, a with
    | 0, 0 => some 1 | 0, 1 => some 2 | 1, 0 => some 3 | 2, 0 => some 3 | 3, 0 => some 0 | _, _ => none
  inB _ := true

def exKey (s : Nat) : Nat := 100 + s

def exPath : Path Nat Nat := [(0, some 1), (2, some 0), (3, none)]

example : IsExec exM exPath :=
  ⟨0, by simp [exM], .step (by simp [exM]) rfl (.step (by simp [exM]) rfl (.last 3))⟩
example : fromFingerprints exM exKey (encode exKey exPath) = some exPath := by decide
example : fromActions exM 0 (intoActions exPath) = some exPath := by decide
example : finalState exM exKey [100, 102, 103] = some 3 := by decide
example : finalState exM exKey [100, 103] = none := by decide
example : statesView exM exKey "/100" =
    some [.step 0 (some 1), .step 1 (some 2), .step 2 none] := by decide
example : statesView exM exKey "/100/103/" = none := by decide
example : statesView exM exKey "/100/abc" = none := by decide
example : encodeStr exKey exPath = "100/102/103" := by decide
example : GenOK exM exKey [((103, some 102), [0, 2, 3]), ((102, some 100), [0, 2]), ((100, none), [0])] := by
  have h0 : GenOK exM exKey [((exKey 0, none), [0])] := GenOK.root GenOK.nil (by simp [exM]) rfl
  have h1 : GenOK exM exKey [((exKey 2, some (exKey 0)), [0] ++ [2]), ((exKey 0, none), [0])] :=
    GenOK.child (par := none) (path := [0]) (s := 0) (t := 2) h0 (by simp) rfl (by decide) rfl
  exact GenOK.child (par := some (exKey 0)) (path := [0, 2]) (s := 2) (t := 3) h1 (by simp [exKey]) rfl (by decide) rfl
example : statesView exM exKey ("/" ++ encodeStr exKey exPath) = some [.step 0 (some 0)] := by decide
example : (statusView exM exKey [.always] ⟨true, 5, 4, 3, [(103, some 102), (102, some 100), (100, none)], [(0, 103)]⟩).props
    = [(.always, 0, some [100, 102, 103])] := by decide

end SR.C19
