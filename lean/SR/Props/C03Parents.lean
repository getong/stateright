import SR.Proofs.Checker.Once
import SR.Proofs.Checker.Parents
import SR.Checker.Graph
/-!
# C03 (parent-map part) — what `discoveries()` / the visitor rebuild IS the path the machine carries

bfs.rs / on_demand.rs keep `generated : fingerprint ↦ Option<parent fingerprint>` (written only by insert-if-vacant)
and `discoveries : name ↦ fingerprint of the last state`; a path exists only when `reconstruct_path` walks the
parent pointers back and `Path::from_fingerprints` replays them.  The checker machine abstracts this by letting every
job carry its path.  `SR/Checker/Parents.lean` runs the real parent map in lock-step with the machine (`runP`);
for EVERY choice list (every schedule, thread count, stop) `reconstructPath` of the last fingerprint of every path the
machine carries returns that very path — so C01_sound, C03_* (stated about the carried paths) are statements about
what the code returns.
-/
namespace SR.C03
open SR SR.Checker SR.PathApi

variable {σ α : Type} (P : Params σ Nat α)

/-- conservative extension: the machine component of the lock-step run is the machine's run, untouched -/
theorem C03_parents_project (cs : List Choice) : (runP P cs).1 = run P cs := runP_fst cs

/-- the key set of the parent map is `generated`, in insertion order -/
theorem C03_parents_keys (cs : List Choice) : (runP P cs).2.map (·.1) = (run P cs).gen := by
  rw [← C03_parents_project]
  exact keys_run cs

/-- hence `unique_state_count()` (= `generated.len()`) is the size of the machine's `gen` -/
theorem C03_parents_unique_count (cs : List Choice) : (runP P cs).2.length = (run P cs).gen.length := by
  rw [← C03_parents_keys, List.length_map]

/-- insert-if-vacant: no fingerprint is ever written twice -/
theorem C03_parents_no_overwrite (cs : List Choice) : ((runP P cs).2.map (·.1)).Nodup := by
  rw [C03_parents_keys]
  exact (ninv_run (P := P) cs).genNodup

/-- the map only grows at its end -/
theorem C03_parents_append_only (cs cs' : List Choice) :
    ∃ ext, (runP P (cs ++ cs')).2 = (runP P cs).2 ++ ext := by
  rw [runP_append]
  exact runPFrom_append _ cs'

/-- **Reconstruction.**  With an injective fingerprint, at any moment of any run, for every path `p` that is
    (a) the path of a pending job, (b) the path of the job a worker holds, (c) a path shown to the visitor, or
    (d) a recorded discovery: `reconstruct_path` applied to the fingerprint of `p`'s last state (what bfs.rs /
    on_demand.rs store in the job / in `discoveries`) does not panic and returns an execution of the model whose
    state sequence is `p`. -/
theorem C03_parents_reconstruct (inj : ∀ x y, P.key x = P.key y → x = y) (cs : List Choice) (p : List σ)
    (hp : (∃ j ∈ (run P cs).frontier, j.path = p) ∨ (∃ a ∈ (run P cs).active, a.job.path = p) ∨
          p ∈ (run P cs).visits ∨ (∃ e ∈ (run P cs).disc, e.2 = p)) :
    ∃ q s, p.getLast? = some s ∧ reconstructPath P.M P.key (runP P cs).2 (P.key s) = some q ∧
      intoStates q = p ∧ IsExec P.M q := by
  have h := (reconstruct_later inj cs []).of hp
  rwa [List.append_nil] at h

/-- the same at every LATER moment (the Explorer / `discoveries()` may ask long after the path was recorded or
    visited, even if the discovery was replaced meanwhile): later inserts never change the answer -/
theorem C03_parents_reconstruct_later (inj : ∀ x y, P.key x = P.key y → x = y) (cs cs' : List Choice) (p : List σ)
    (hp : (∃ j ∈ (run P cs).frontier, j.path = p) ∨ (∃ a ∈ (run P cs).active, a.job.path = p) ∨
          p ∈ (run P cs).visits ∨ (∃ e ∈ (run P cs).disc, e.2 = p)) :
    ∃ q s, p.getLast? = some s ∧ reconstructPath P.M P.key (runP P (cs ++ cs')).2 (P.key s) = some q ∧
      intoStates q = p ∧ IsExec P.M q :=
  (reconstruct_later inj cs cs').of hp

/-- clause (d) spelled out for `discoveries()` -/
theorem C03_parents_discovery (inj : ∀ x y, P.key x = P.key y → x = y) (cs : List Choice) :
    ∀ e ∈ (run P cs).disc, ∃ q s, e.2.getLast? = some s ∧
      reconstructPath P.M P.key (runP P cs).2 (P.key s) = some q ∧ intoStates q = e.2 ∧ IsExec P.M q :=
  fun e he => C03_parents_reconstruct P inj cs e.2 (Or.inr (Or.inr (Or.inr ⟨e, he, rfl⟩)))

/-- clause (c) spelled out for the visitor -/
theorem C03_parents_visit (inj : ∀ x y, P.key x = P.key y → x = y) (cs : List Choice) :
    ∀ p ∈ (run P cs).visits, ∃ q s, p.getLast? = some s ∧
      reconstructPath P.M P.key (runP P cs).2 (P.key s) = some q ∧ intoStates q = p ∧ IsExec P.M q :=
  fun p hp => C03_parents_reconstruct P inj cs p (Or.inr (Or.inr (Or.inl hp)))

/-! ### Non-vacuity and why insert-if-vacant matters: the diamond `0→1, 0→2, 1→3, 2→3` -/

def diamond : Graph :=
  { n := 4, init := [0], adj := [[some 1, some 2], [some 3], [some 3], []], bnd := [true, true, true, true] }

def diamondParams : Params Nat Nat Nat :=
  { M := diamond.toSys, props := [{ exp := .always, cond := fun s => s != 3 }], key := id, cfg := {},
    finishMatches := fun _ => false }

/-- one worker evaluates and expands state 0 (level 1) -/
def csLevel1 : List Choice :=
  [.take 0, .evalProp 0 false, .finishProps 0, .expand 0 false, .expand 0 false, .expand 0 false]

/-- … then state 1 (it generates 3), then state 2 up to the point where it meets 3 again -/
def csSeq : List Choice :=
  csLevel1 ++ [.take 0, .evalProp 0 false, .finishProps 0, .expand 0 false, .expand 0 false,
               .take 0, .evalProp 0 false, .finishProps 0, .expand 0 false]

/-- two workers hold 1 and 2 at the same time; the worker on 2 wins the race for 3; then 3 is evaluated and the
    discovery of `always (≠ 3)` is recorded -/
def csRace : List Choice :=
  csLevel1 ++ [.take 0, .take 0, .evalProp 0 false, .evalProp 1 false, .finishProps 0, .finishProps 1,
               .expand 1 false, .expand 0 false, .take 0, .evalProp 2 false]

/-- the hypothesis of `C03_parents_reconstruct` holds here -/
example : ∀ x y, diamondParams.key x = diamondParams.key y → x = y := fun _ _ h => h

/-- two levels deep: `reconstruct_path 3` is the path that the pending job of 3 carries -/
example :
    (run diamondParams csSeq).frontier.map (·.path) = [[0, 1, 3]] ∧
    (runP diamondParams csSeq).2 = [(0, none), (1, some 0), (2, some 0), (3, some 1)] ∧
    (reconstructPath diamondParams.M diamondParams.key (runP diamondParams csSeq).2 3).map intoStates
      = some [0, 1, 3] := by decide

/-- another schedule (two workers, the other one wins): now the job, the visit and the recorded discovery are
    `[0, 2, 3]`, and so is the reconstructed path -/
example :
    (run diamondParams csRace).disc = [(0, [0, 2, 3])] ∧
    (run diamondParams csRace).visits.head? = some [0, 2, 3] ∧
    (runP diamondParams csRace).2 = [(0, none), (1, some 0), (2, some 0), (3, some 2)] ∧
    (reconstructPath diamondParams.M diamondParams.key (runP diamondParams csRace).2 3).map intoStates
      = some [0, 2, 3] := by decide

/-- **Why insert-if-vacant matters.**  If `check_block` wrote `generated.insert(fp, Some(parent))` unconditionally
    (`runPOverwrite`: the second parent wins), then on the diamond, after the sequential schedule `csSeq`, the
    pending job of state 3 — created by the FIRST parent — carries `[0, 1, 3]`, but `reconstruct_path` of its
    fingerprint returns `[0, 2, 3]`: the reconstructed path is no longer the one the job was created along (depth,
    ebits and the theorems about `job.path` would speak about a different path than the one reported). -/
theorem C03_parents_overwrite_breaks :
    (runPOverwrite diamondParams csSeq).1.frontier.map (fun j => (j.st, j.path)) = [(3, [0, 1, 3])] ∧
    (reconstructPath diamondParams.M diamondParams.key (runPOverwrite diamondParams csSeq).2 3).map intoStates
      = some [0, 2, 3] ∧
    (reconstructPath diamondParams.M diamondParams.key (runP diamondParams csSeq).2 3).map intoStates
      = some [0, 1, 3] := by decide

end SR.C03
