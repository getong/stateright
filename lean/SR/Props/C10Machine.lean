import SR.Props.C01
import SR.Props.C02
import SR.Props.C03
/-!
# C10 (c) — symmetry reduction in the DFS checker preserves verdicts

dfs.rs with `.symmetry()` is the checker machine with `key = fingerprint ∘ representative`; the jobs keep the ORIGINAL states.
Hypotheses on the user's model (exactly the property's "invariant under permutations of process identities"):
`R` (the symmetry relation) is transitive, a simulation of the in-boundary successor relation, and two reachable
states with the same key are `R`-related (`representative s` is in the orbit of `s` and fingerprints of
representatives do not collide).  Conditions of the properties are `R`-invariant.
-/
namespace SR.C10M
open SR SR.Checker

variable {σ κ α : Type} [DecidableEq κ] (P : Params σ κ α)
variable (R : σ → σ → Prop)

/-- same always/sometimes verdicts as the declarative ones (hence as the unreduced check, `C02_always`/`C02_sometimes`) -/
theorem C10_verdicts
    (hkey : ∀ a b, P.M.Reach a → P.M.Reach b → P.key a = P.key b → R a b)
    (htrans : ∀ a b c, R a b → R b c → R a c)
    (hsim : ∀ a b, R a b → ∀ a' ∈ P.M.succB a, ∃ b' ∈ P.M.succB b, R a' b')
    (cs : List Choice) (hc : C02.Completed P (run P cs))
    (i : Nat) (pr : Prop' σ) (hpr : P.props[i]? = some pr) (hinv : ∀ a b, R a b → pr.cond a = pr.cond b)
    (hexp : pr.exp ≠ .eventually) :
    hasDisc (run P cs).disc i = true ↔ ∃ t, P.M.Reach t ∧ Wit pr t :=
  C02.C02_verdict_modulo P R hkey htrans hsim cs hc i pr hpr hinv hexp

theorem C10_one_per_class
    (hkey : ∀ a b, P.M.Reach a → P.M.Reach b → P.key a = P.key b → R a b)
    (htrans : ∀ a b c, R a b → R b c → R a c)
    (hsim : ∀ a b, R a b → ∀ a' ∈ P.M.succB a, ∃ b' ∈ P.M.succB b, R a' b')
    (cs : List Choice) (hq : Quiescent (run P cs)) (he : (run P cs).early = false) :
    ∀ t, P.M.Reach t → ∃ u ∈ visitedStates (run P cs), R t u :=
  C01.C01_exact_modulo P R hkey htrans hsim cs hq he

/-- never more states than the unreduced check: evaluated states are reachable and pairwise of distinct keys -/
theorem C10_never_more (hnd : (P.M.initB.map P.key).Nodup) (cs : List Choice) :
    (∀ u ∈ visitedStates (run P cs), P.M.Reach u) ∧ ((visitedStates (run P cs)).map P.key).Nodup :=
  ⟨fun u hu => (C01.C01_evaluated_reachable P cs u hu).choose_spec.2.2.2, (C01.C01_once P hnd cs).1⟩

theorem C10_paths_real (cs : List Choice) :
    (∀ p ∈ (run P cs).visits, P.M.IsPath p) ∧ (∀ e ∈ (run P cs).disc, P.M.IsPath e.2) :=
  ⟨C01.C01_sound P cs, C03.C03_path P cs⟩

end SR.C10M
