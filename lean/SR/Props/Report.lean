import SR.Checker.Report
import SR.Proofs.PathApi
import SR.Proofs.ListAux
/-!
# The text of `Checker::report` / `Checker::join_and_report` with `WriteReporter` (C02, C03, C19)

Model: `SR/Checker/Report.lean` (src/checker.rs `report`, `join_and_report`; src/report.rs `WriteReporter`).  The report
is what a user reads after a check, so the verdicts (C02), the witnesses (C03) and the `Path` text / encoding (C19) are
observed through it.
-/
namespace SR.CReport
open SR SR.PathApi SR.Checker.Assert SR.Checker.Report

variable {σ : Type}

def Ascending (es : List (Entry σ)) : Prop := es.Pairwise fun a b => a.name < b.name

theorem C03_string_lt_of_ne_of_not_lt {a b : String} (hne : a ≠ b) (h : ¬ a < b) : b < a :=
  Std.lt_of_le_of_ne (String.not_lt.1 h) hne.symm

theorem C03_btInsert_mem (e : Entry σ) (es : List (Entry σ)) (x : Entry σ) :
    x ∈ btInsert e es → x = e ∨ x ∈ es := by
  -- the cases of `btInsert`: the empty list; `e` before the head; `e` in place of the head; `e` further down
  fun_induction btInsert e es <;> simp only [List.mem_cons, List.not_mem_nil, or_false]
  · exact id
  · exact id
  · exact fun h => h.imp_right .inr
  case case4 ih => exact fun h => h.elim (.inr ∘ .inl) fun h => (ih h).imp_right .inr

theorem C03_btInsert_ascending (e : Entry σ) (es : List (Entry σ)) (h : Ascending es) : Ascending (btInsert e es) := by
  fun_induction btInsert e es
  · simp [Ascending]
  case case2 y ys hlt =>
    exact List.pairwise_cons.2
      ⟨List.forall_mem_cons.2 ⟨hlt, fun a ha => String.lt_trans hlt ((List.pairwise_cons.1 h).1 a ha)⟩, h⟩
  case case3 y ys _ heq =>
    exact List.pairwise_cons.2 ⟨fun a ha => heq ▸ (List.pairwise_cons.1 h).1 a ha, (List.pairwise_cons.1 h).2⟩
  case case4 y ys hnlt hne ih =>
    have hy := List.pairwise_cons.1 h
    refine List.pairwise_cons.2 ⟨fun a ha => ?_, ih hy.2⟩
    rcases C03_btInsert_mem e ys a ha with rfl | ha
    · exact C03_string_lt_of_ne_of_not_lt hne hnlt
    · exact hy.1 a ha

theorem C03_btInsert_perm (e : Entry σ) (es : List (Entry σ)) (hnew : ∀ x ∈ es, x.name ≠ e.name) :
    (btInsert e es).Perm (e :: es) := by
  fun_induction btInsert e es
  · exact .refl _
  · exact .refl _
  case case3 y ys _ heq => exact absurd heq.symm (hnew y List.mem_cons_self)
  case case4 y ys _ _ ih =>
    exact ((ih fun x hx => hnew x (List.mem_cons_of_mem _ hx)).cons y).trans (List.Perm.swap e y ys)

theorem C03_ascending_perm_eq {es es' : List (Entry σ)} (h : Ascending es) (h' : Ascending es') (hp : es.Perm es') :
    es = es' :=
  hp.eq_of_pairwise (fun _ _ _ _ h1 h2 => absurd h1 (String.lt_asymm h2)) h h'

theorem C03_entries_fold (names : List String) (props : List (Prop' σ)) :
    ∀ (disc : List (Nat × Path σ Nat)) (l : List (Entry σ)) (acc : List (Entry σ)),
      disc.map (entryOf names props) = l.map some →
      (l.map (·.name)).Nodup → (∀ x ∈ acc, ∀ e ∈ l, x.name ≠ e.name) → Ascending acc →
      ∃ es, disc.foldlM (addDiscovery names props) acc = some es ∧ Ascending es ∧ es.Perm (l.reverse ++ acc) := by
  intro disc l
  induction l generalizing disc with
  | nil =>
    intro acc hl _ _ hacc
    cases List.map_eq_nil_iff.1 hl
    exact ⟨acc, rfl, hacc, .refl _⟩
  | cons e l' ih =>
    intro acc hl hnd hnew hacc
    obtain ⟨d, ds, rfl, hd, hds⟩ := List.map_eq_cons_iff.1 hl
    simp only [List.map_cons, List.nodup_cons] at hnd
    have hnew' : ∀ x ∈ btInsert e acc, ∀ e' ∈ l', x.name ≠ e'.name := by
      intro x hx e' he'
      rcases C03_btInsert_mem e acc x hx with rfl | hx
      · intro heq
        exact hnd.1 (heq ▸ List.mem_map_of_mem he')
      · exact hnew x hx e' (List.mem_cons_of_mem _ he')
    obtain ⟨es, hes, hasc, hperm⟩ := ih ds (btInsert e acc) hds hnd.2 hnew' (C03_btInsert_ascending e acc hacc)
    refine ⟨es, ?_, hasc, ?_⟩
    · rw [List.foldlM_cons, addDiscovery, hd]
      exact hes
    · refine hperm.trans ?_
      have hp := C03_btInsert_perm e acc (fun x hx => hnew x hx e (List.mem_cons_self))
      simp only [List.reverse_cons, List.append_assoc, List.singleton_append]
      exact List.Perm.append_left _ hp

/-- what `report` needs of the discoveries: distinct property names, one path per property (`discoveries()` is a map),
    every discovery belongs to a property -/
structure WellFormed (names : List String) (props : List (Prop' σ)) (disc : List (Nat × Path σ Nat)) : Prop where
  namesNodup : names.Nodup
  lengths : names.length = props.length
  discNodup : (disc.map (·.1)).Nodup
  inRange : ∀ d ∈ disc, d.1 < props.length

/-- each entry is its discovery: the property's name, the discovery's own path, the classification of
    `discovery_classification` -/
theorem C03_report_entry (names : List String) (props : List (Prop' σ)) (d : Nat × Path σ Nat) (e : Entry σ)
    (h : entryOf names props d = some e) :
    names[d.1]? = some e.name ∧ e.path = d.2 ∧ classification props d.1 = some e.cls := by
  unfold entryOf at h
  split at h
  · rename_i n c hn hc
    simp only [Option.some.injEq] at h
    subst h
    exact ⟨hn, rfl, hc⟩
  · cases h

theorem C03_entryOf_total (names : List String) (props : List (Prop' σ)) (disc : List (Nat × Path σ Nat))
    (wf : WellFormed names props disc) :
    ∃ l : List (Entry σ), disc.map (entryOf names props) = l.map some ∧ (l.map (·.name)).Nodup := by
  obtain ⟨hn, hlen, hd, hr⟩ := wf
  induction disc with
  | nil => exact ⟨[], rfl, by simp⟩
  | cons d ds ih =>
    simp only [List.map_cons, List.nodup_cons] at hd
    obtain ⟨l, hl, hnd⟩ := ih hd.2 (fun x hx => hr x (List.mem_cons_of_mem _ hx))
    have hlt : d.1 < props.length := hr d (List.mem_cons_self)
    have hlt' : d.1 < names.length := hlen ▸ hlt
    obtain ⟨c, hc⟩ : ∃ c, classification props d.1 = some c := by
      cases hx : props[d.1].exp <;> simp [classification, List.getElem?_eq_getElem hlt, hx]
    refine ⟨{ name := names[d.1], cls := c, path := d.2 } :: l, ?_, ?_⟩
    · simp [entryOf, List.getElem?_eq_getElem hlt', hc, hl]
    · simp only [List.map_cons, List.nodup_cons]
      refine ⟨?_, hnd⟩
      intro hmem
      obtain ⟨e, he, hname⟩ := List.mem_map.1 hmem
      -- `e` is the entry of some later discovery `d'`, whose name is `names[d'.1]`
      have : some e ∈ ds.map (entryOf names props) := by rw [hl]; exact List.mem_map_of_mem he
      obtain ⟨d', hd', hent⟩ := List.mem_map.1 this
      obtain ⟨_, hname'⟩ := List.getElem?_eq_some_iff.1 (C03_report_entry names props d' e hent).1
      exact hd.1 ((List.getElem_inj hn).mp (hname'.trans hname) ▸ List.mem_map_of_mem hd')

/-- **every discovery is listed exactly once, in strictly ascending name order**: the summary handed to
    `report_discoveries` exists (no panic), its names ascend strictly, and its entries are — up to order — exactly the
    entries of the discoveries (`es.map some` is a permutation of `disc.map entryOf`: no discovery is dropped, none is
    listed twice, nothing else is listed). -/
theorem C03_report_lists_every_discovery_once (names : List String) (props : List (Prop' σ))
    (disc : List (Nat × Path σ Nat)) (wf : WellFormed names props disc) :
    ∃ es, entries names props disc = some es ∧ Ascending es ∧
      (es.map some).Perm (disc.map (entryOf names props)) := by
  obtain ⟨l, hl, hnd⟩ := C03_entryOf_total names props disc wf
  obtain ⟨es, hes, hasc, hperm⟩ :=
    C03_entries_fold names props disc l [] hl hnd (by simp) (by simp [Ascending])
  refine ⟨es, hes, hasc, ?_⟩
  rw [hl]
  simp only [List.append_nil] at hperm
  exact (hperm.trans (List.reverse_perm l)).map some

/-- **the iteration order of `discoveries()` (a hash map) does not matter** -/
theorem C03_report_order_independent (names : List String) (props : List (Prop' σ))
    (disc disc' : List (Nat × Path σ Nat)) (wf : WellFormed names props disc) (hp : disc.Perm disc') :
    entries names props disc = entries names props disc' := by
  have wf' : WellFormed names props disc' :=
    ⟨wf.namesNodup, wf.lengths, (hp.map _).nodup_iff.1 wf.discNodup, fun d hd => wf.inRange d (hp.mem_iff.2 hd)⟩
  obtain ⟨es, hes, hasc, hperm⟩ := C03_report_lists_every_discovery_once names props disc wf
  obtain ⟨es', hes', hasc', hperm'⟩ := C03_report_lists_every_discovery_once names props disc' wf'
  have h1 : (es.map some).Perm (es'.map some) := hperm.trans ((hp.map _).trans hperm'.symm)
  have h2 := h1.filterMap id
  simp only [List.filterMap_map, Function.comp_def, id, List.filterMap_some] at h2
  rw [hes, hes', C03_ascending_perm_eq hasc hasc' h2]

/-- **a `sometimes` property is never reported as a counterexample, an `always` / `eventually` property never as an
    example** — in the entry and in the text: the block of the entry starts with `Discovered "<name>" example …`
    exactly for `sometimes` properties. -/
theorem C02_report_sometimes_never_counterexample (names : List String) (props : List (Prop' σ))
    (d : Nat × Path σ Nat) (e : Entry σ) (h : entryOf names props d = some e) (key : σ → Nat) :
    ∃ pr, props[d.1]? = some pr ∧
      (pr.exp = .sometimes → e.cls = .example ∧
        (entryLines key e).head? = some s!"Discovered \"{e.name}\" example Path[{d.2.length - 1}]:") ∧
      (pr.exp ≠ .sometimes → e.cls = .counterexample ∧
        (entryLines key e).head? = some s!"Discovered \"{e.name}\" counterexample Path[{d.2.length - 1}]:") := by
  obtain ⟨_, hpath, hcls⟩ := C03_report_entry names props d e h
  unfold classification at hcls
  cases hp : props[d.1]? with
  | none => simp [hp] at hcls
  | some pr =>
    refine ⟨pr, rfl, ?_, ?_⟩
    · intro hx
      simp only [hp, hx, Option.some.injEq] at hcls
      refine ⟨hcls.symm, ?_⟩
      simp only [entryLines, List.head?_cons, ← hcls, clsStr, hpath, toString, String.append_assoc]
      congr 3
    · intro hx
      have : e.cls = .counterexample := by
        cases hexp : pr.exp <;> simp only [hp, hexp, Option.some.injEq] at hcls
        · exact hcls.symm
        · exact hcls.symm
        · exact absurd hexp hx
      refine ⟨this, ?_⟩
      simp only [entryLines, List.head?_cons, this, clsStr, hpath, toString, String.append_assoc]
      congr 3

theorem C19_exec_actions_length {M : Sys σ Nat} {s : σ} {p : Path σ Nat} (h : ExecFrom M s p) :
    (intoActions p).length + 1 = p.length := by
  induction h with
  | last s => simp [intoActions]
  | step _ _ _ ih =>
    simp only [intoActions, List.filterMap_cons, List.length_cons] at ih ⊢
    omega

/-- **shape of one block**: for a path that is an execution, the header says `Path[k]:` with `k` = the number of
    `- action` lines that follow, the `Fingerprint path:` line encodes `k + 1` fingerprints, and the block has `k + 2`
    lines. -/
theorem C19_report_path_shape {M : Sys σ Nat} (key : σ → Nat) {s : σ} (e : Entry σ) (h : ExecFrom M s e.path) :
    (actionLines e.path).length = e.path.length - 1 ∧ (encode key e.path).length = (e.path.length - 1) + 1 ∧
    (entryLines key e).length = (e.path.length - 1) + 2 := by
  have := C19_exec_actions_length h
  simp only [actionLines, entryLines, encode, List.length_map, List.length_cons, List.length_append, List.length_nil]
  omega

/-- **the paths of a real report**: `discoveries()` rebuilds every stored fingerprint path; if that succeeds (no panic)
    the rebuilt discoveries are, in the same order and for the same properties, executions of the model whose
    `Fingerprint path:` line (`encode`) is exactly the stored fingerprint path. -/
theorem C19_report_fingerprint_line (M : Sys σ Nat) (key : σ → Nat) (stored : List (Nat × List Nat))
    (disc : List (Nat × Path σ Nat)) (h : rebuild M key stored = some disc) :
    stored = disc.map (fun d => (d.1, encode key d.2)) ∧ ∀ d ∈ disc, IsExec M d.2 := by
  rw [rebuild, mapM_eq_some_iff_map] at h
  induction disc generalizing stored with
  | nil => exact ⟨List.map_eq_nil_iff.1 h, nofun⟩
  | cons d ds ih =>
    obtain ⟨s, ss, rfl, hs, hss⟩ := List.map_eq_cons_iff.1 h
    obtain ⟨p, hf, rfl⟩ := Option.map_eq_some_iff.1 hs
    obtain ⟨he, hk⟩ := fromFingerprints_sound M key s.2 p hf
    obtain ⟨h1, h2⟩ := ih ss hss
    exact ⟨by simp only [List.map_cons, hk, ← h1], List.forall_mem_cons.2 ⟨he, h2⟩⟩

/-! ### the hypotheses are satisfiable, and the text on a concrete instance -/

def exProps : List (Prop' Nat) :=
  [{ exp := .always, cond := fun s => s != 2 }, { exp := .sometimes, cond := fun s => s == 1 },
   { exp := .eventually, cond := fun _ => false }]
def exNames : List String := ["p2", "p10", "Zed"]
def exDisc : List (Nat × Path Nat Nat) :=
  [(0, [(0, some 1), (2, none)]), (1, [(0, some 0), (1, none)]), (2, [(0, some 0), (1, some 0), (3, none)])]

example : WellFormed exNames exProps exDisc :=
  ⟨by decide, rfl, by decide, by decide⟩

/-- name order (`Zed` < `p10` < `p2`) is neither the index order nor the numeric order -/
example : reportText id exNames exProps { states := 7, unique := 4, depth := 3 } exDisc =
    "Done. states=7, unique=4, depth=3, sec=_|Discovered \"Zed\" counterexample Path[2]:|- 0|- 0|Fingerprint path: 0/1/3|Discovered \"p10\" example Path[1]:|- 0|Fingerprint path: 0/1|Discovered \"p2\" counterexample Path[1]:|- 1|Fingerprint path: 0/2" := by
  have h1 : entries exNames exProps exDisc =
      some [⟨"Zed", .counterexample, [(0, some 0), (1, some 0), (3, none)]⟩, ⟨"p10", .example, [(0, some 0), (1, none)]⟩,
            ⟨"p2", .counterexample, [(0, some 1), (2, none)]⟩] := by rfl
  -- As a `String` the text is evaluated by appending byte arrays, which is slow to check; as a list of characters it
  -- is not.  So `toList` is pushed down to the string literals and the numbers by the lemmas that say how it commutes
  -- with the string operations, and only the two lists of characters are compared by evaluation.
  refine String.ofList_toList.symm.trans ?_
  unfold reportText reportLines
  rw [h1]
  simp only [Option.map_some, List.flatMap_cons, List.flatMap_nil, List.append_nil]
  unfold doneLine entryLines actionLines
  simp only [String.toList_intercalate, List.map_cons, List.map_append, List.map_map, List.map_nil, Function.comp_def,
    String.toList_append, toString, Nat.repr, encodeStr, String.toList_ofList, clsStr]
  -- a literal is `String.ofList` of its characters
  repeat rw [String.toList_ofList]
  set_option maxRecDepth 2048 in rfl

end SR.CReport
