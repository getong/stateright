import SR.Proofs.MirrorOracle
import SR.Props.C18
/-!
# C18 oracle `o-c18` — adequacy of `mirrorClient` / `oracleMirror` (SR/Drv/C18.lean)

`cev`/`lev`: the oracle's events `LogEv` and the model's `CEv` are the same data.

`oracleMirror` compares the tester content with the mirror by `sxEqv` (SR/SExpEq.lean, the decidable equality
`sxDecEq`), because nothing is provable of the `==` that `SExp` derives (for this nested inductive it is an opaque
constant, `#print SR.instBEqSExp.beq`), and refuses a `content` that lists a thread twice.
-/
namespace SR.C18Oracle
open SR SR.Sem SR.Sem.RC SR.Sem.AMap SR.Drv.Sem SR.Drv.C18

section generic
variable {H Op Ret : Type} {I : Iface H Op Ret} {wo : Bool}

/-! ## on a protocol-conforming log `mirrorClient` yields the rendering of `RC.mirror`, and only there -/
theorem C18_oracle_mirror_agrees (R : Render I wo) (c : Nat) (log : List LogEv) (r : List SExp × Option SExp) :
    mirrorClient wo (clog c log) [] none = .ok r ↔
      Alt wo none (clog c log) ∧ r = R.content (mirror I wo c (log.map cev)) := by
  constructor
  · intro h
    have ha := (mc_ok_iff wo (clog c log) none pendOk_none []).1 ⟨r, h⟩
    rw [mc_agrees R c log ha] at h
    cases h
    exact ⟨ha, rfl⟩
  · rintro ⟨ha, rfl⟩
    exact mc_agrees R c log ha

end generic

/-- the same, spelled out for the two register kinds (both testers each): `Register` with `wo = false`
    and the wire format of `regCodec`, `WORegister` with `wo = true` and the wire format of `woCodec` -/
theorem C18_oracle_mirror_agrees_kinds (c : Nat) (log : List LogEv) :
    (Alt false none (clog c log) →
      mirrorClient false (clog c log) [] none =
        .ok ((mirror regLin false c (log.map cev)).1.map (fun x =>
              SExp.list [(regCodec charShow 63).opSx x.1, (regCodec charShow 63).retSx x.2]),
             (mirror regLin false c (log.map cev)).2.map (regCodec charShow 63).opSx) ∧
      mirrorClient false (clog c log) [] none =
        .ok ((mirror regSC false c (log.map cev)).1.map (fun x =>
              SExp.list [(regCodec charShow 63).opSx x.1, (regCodec charShow 63).retSx x.2]),
             (mirror regSC false c (log.map cev)).2.map (regCodec charShow 63).opSx)) ∧
    (Alt true none (clog c log) →
      mirrorClient true (clog c log) [] none =
        .ok ((mirror woLin true c (log.map cev)).1.map (fun x =>
              SExp.list [(woCodec charShow none).opSx x.1, (woCodec charShow none).retSx x.2]),
             (mirror woLin true c (log.map cev)).2.map (woCodec charShow none).opSx) ∧
      mirrorClient true (clog c log) [] none =
        .ok ((mirror woSC true c (log.map cev)).1.map (fun x =>
              SExp.list [(woCodec charShow none).opSx x.1, (woCodec charShow none).retSx x.2]),
             (mirror woSC true c (log.map cev)).2.map (woCodec charShow none).opSx)) :=
  ⟨fun h => ⟨mc_agrees renderRegLin c log h, mc_agrees renderRegSC c log h⟩,
   fun h => ⟨mc_agrees renderWoLin c log h, mc_agrees renderWoSC c log h⟩⟩

/-- the protocol, declaratively: complete rounds (request sent, reply of the flavour with the same request
    id accepted) followed by at most one unanswered request -/
theorem C18_oracle_protocol_rounds (wo : Bool) (evs : List LogEv) :
    Alt wo none evs ↔
      ∃ (rounds : List ((Nat × RMsg) × (Nat × RMsg))) (last : Option (Nat × RMsg)),
        evs = rounds.flatMap (fun x => [LogEv.send x.1.1 x.1.2, LogEv.acc x.2.1 x.2.2]) ++
                last.toList.map (fun x => LogEv.send x.1 x.2) ∧
        (∀ x ∈ rounds, IsRequest x.1.2 ∧ IsReply wo x.2.2 ∧ RC.ridOf x.1.2 = RC.ridOf x.2.2) ∧
        (∀ x, last = some x → IsRequest x.2) :=
  ⟨rounds_of_alt, fun ⟨_, _, e, hok⟩ => e ▸ alt_roundsLog hok⟩

/-! ## `mirrorClient` rejects exactly the logs that violate the protocol, naming the first violation -/
theorem C18_oracle_mirror_rejects (wo : Bool) (evs : List LogEv) :
    (∃ err, mirrorClient wo evs [] none = .error err) ↔ ¬ Alt wo none evs := by
  rw [← mc_ok_iff wo evs none pendOk_none []]
  cases mirrorClient wo evs [] none <;> simp

/-- which violation: `pendOf pre` is the request outstanding after the conforming prefix `pre` (its last event if that
    is a send), `Viol` the five cases that `C18_oracle_violations` spells out -/
theorem C18_oracle_mirror_rejects_which (wo : Bool) (evs : List LogEv) (err : String) :
    mirrorClient wo evs [] none = .error err ↔
      ∃ pre e post, evs = pre ++ e :: post ∧ Alt wo none pre ∧ Viol wo (pendOf pre) e err := by
  rw [mc_error_iff wo evs none pendOk_none [] err]
  simp only [pendAfter_none_eq]

/-- the five error texts and their conditions, literally -/
theorem C18_oracle_violations (wo : Bool) (pend : Option RMsg) (e : LogEv) (err : String) :
    Viol wo pend e err ↔
      (∃ c m p, pend = some p ∧ e = .send c m ∧ err = "second-request-while-one-outstanding") ∨
      (∃ c m, pend = none ∧ e = .send c m ∧ ¬ IsRequest m ∧ err = "client-sent-non-request") ∨
      (∃ c m, pend = none ∧ e = .acc c m ∧ err = "reply-accepted-without-outstanding-request") ∨
      (∃ c m p, pend = some p ∧ e = .acc c m ∧ (m = .internal ∨ RC.ridOf p ≠ RC.ridOf m) ∧
        err = "accepted-reply-for-other-request-id") ∨
      (∃ c m p, pend = some p ∧ e = .acc c m ∧ m ≠ .internal ∧ RC.ridOf p = RC.ridOf m ∧ ¬ IsReply wo m ∧
        err = "accepted-non-reply") := by
  constructor
  · intro h
    cases h with
    | second => exact Or.inl ⟨_, _, _, rfl, rfl, rfl⟩
    | nonRequest h => exact Or.inr (Or.inl ⟨_, _, rfl, rfl, h, rfl⟩)
    | noOutstanding => exact Or.inr (Or.inr (Or.inl ⟨_, _, rfl, rfl, rfl⟩))
    | otherId h => exact Or.inr (Or.inr (Or.inr (Or.inl ⟨_, _, _, rfl, rfl, h, rfl⟩)))
    | nonReply h1 h2 h3 => exact Or.inr (Or.inr (Or.inr (Or.inr ⟨_, _, _, rfl, rfl, h1, h2, h3, rfl⟩)))
  · rintro (⟨c, m, p, rfl, rfl, rfl⟩ | ⟨c, m, rfl, rfl, h, rfl⟩ | ⟨c, m, rfl, rfl, rfl⟩ | ⟨c, m, p, rfl, rfl, h, rfl⟩ |
      ⟨c, m, p, rfl, rfl, h1, h2, h3, rfl⟩)
    · exact Viol.second
    · exact Viol.nonRequest h
    · exact Viol.noOutstanding
    · exact Viol.otherId h
    · exact Viol.nonReply h1 h2 h3

theorem C18_oracle_clients (log : List LogEv) (c : Nat) : c ∈ clientsOf log ↔ ∃ e ∈ log, e.client = c :=
  mem_clientsOf

/-- the driver's `oracleMirror` is `oracleMirrorD`: `oracleMirrorG`, the oracle written as the error list `errsG`, with the
    driver's comparison `sxEqv` -/
theorem C18_oracle_verdict_driver (wo : Bool) (log : List LogEv) (valid : Bool)
    (content : List (Nat × List SExp × Option SExp)) :
    oracleMirror wo log valid content = oracleMirrorD wo log valid content := rfl

/-- the verdict in terms of `mirrorClient` -/
theorem C18_oracle_verdict_literal (wo : Bool) (log : List LogEv) (valid : Bool)
    (content : List (Nat × List SExp × Option SExp)) :
    oracleMirror wo log valid content = "ok" ↔
      valid = true ∧
      (∀ c ∈ clientsOf log,
        (sendRids (clog c log)).Nodup ∧
        ∃ done pend, mirrorClient wo (clog c log) [] none = .ok (done, pend) ∧
          content.find? (fun e => e.1 == c) = some (c, done, pend)) ∧
      (content.map (·.1)).Nodup ∧
      (∀ e ∈ content, e.1 ∉ clientsOf log → e.2.1 = [] ∧ e.2.2 = none) := by
  rw [oracleMirror_eq_G, oracleMirrorG_ok_iff, errsG_nil_iff]
  simp only [clientErrs_nil_iff sxEqv_iff, strayErrs_nil_iff]

section generic
variable {H Op Ret : Type} {I : Iface H Op Ret} {wo : Bool}

/-- the verdict in terms of the model (`Alt`, `ridsOf`, `RC.mirror`), on any log -/
theorem C18_oracle_verdict (R : Render I wo) (log : List LogEv) (valid : Bool)
    (content : List (Nat × List SExp × Option SExp)) :
    oracleMirror wo log valid content = "ok" ↔
      valid = true ∧
      (∀ c ∈ clientsOf log,
        Alt wo none (clog c log) ∧ (ridsOf c (log.map cev)).Nodup ∧
        content.find? (fun e => e.1 == c) = some (c, R.content (mirror I wo c (log.map cev)))) ∧
      (content.map (·.1)).Nodup ∧
      (∀ e ∈ content, e.1 ∉ clientsOf log → e.2.1 = [] ∧ e.2.2 = none) := by
  rw [C18_oracle_verdict_literal]
  refine and_congr_right fun _ => and_congr ?_ Iff.rfl
  refine forall_congr' fun c => imp_congr_right fun _ => ?_
  constructor
  · rintro ⟨hnd, done, pend, hm, hf⟩
    obtain ⟨ha, hr⟩ := (C18_oracle_mirror_agrees R c log (done, pend)).1 hm
    rw [alt_sendRids ha] at hnd
    exact ⟨ha, hnd, by rw [hf, hr]⟩
  · rintro ⟨ha, hnd, hf⟩
    rw [← alt_sendRids ha] at hnd
    exact ⟨hnd, _, _, mc_agrees R c log ha, hf⟩

end generic

section reachable
variable {H Op Ret : Type} {cfg : Cfg} {I : Iface H Op Ret} (V : HistView I) {h0 : H}
open SR.C18

/-- every client follows the protocol on every reachable log (the hypothesis of `C18_oracle_mirror_agrees`
    is what the system of the C18 theorems guarantees), and the awaited request id is that of the last,
    unanswered request -/
theorem C18_oracle_protocol_reachable (hcfg : cfg.Ok) (hf : Fresh V h0) {s : HSt H} (hr : Reach cfg I h0 s) (c : Nat) :
    Alt cfg.wo none (clog c (s.log.map lev)) ∧
    (∀ st, find? c s.sys.clients = some st →
      st.awaiting = (pendOf (clog c (s.log.map lev))).map RC.ridOf) ∧
    (find? c s.sys.clients = none → clog c (s.log.map lev) = []) := by
  have hP := reach_proto hcfg V hf hr c
  refine ⟨hP.alt, ?_, hP.idle⟩
  intro st hst
  rw [← pendAfter_none_eq]
  exact hP.await st hst

/-- on a reachable log the oracle answers `ok` exactly when the implementation's validity flag and tester content
    (rendered; every client with an event listed, no thread twice) are the model's: no false alarm when the
    implementation agrees with the model, an alarm otherwise -/
theorem C18_oracle_verdict_reachable (R : Render I cfg.wo) (hcfg : cfg.Ok) (hf : Fresh V h0) {s : HSt H}
    (hr : Reach cfg I h0 s) (valid : Bool) (content : List (Nat × List SExp × Option SExp)) :
    oracleMirror cfg.wo (s.log.map lev) valid content = "ok" ↔
      valid = V.valid s.sys.hist ∧
      (∀ c ∈ clientsOf (s.log.map lev),
        content.find? (fun e => e.1 == c) = some (c, R.content (V.done s.sys.hist c, V.inflight s.sys.hist c))) ∧
      (content.map (·.1)).Nodup ∧
      (∀ e ∈ content, e.1 ∉ clientsOf (s.log.map lev) →
        (e.2.1, e.2.2) = R.content (V.done s.sys.hist e.1, V.inflight s.sys.hist e.1)) := by
  rw [C18_oracle_verdict R, C18_wellformed V hcfg hf hr, map_cev_map_lev]
  refine and_congr_right fun _ => and_congr ?_ (and_congr_right fun _ => ?_)
  · refine forall_congr' fun c => imp_congr_right fun _ => ?_
    rw [(C18_mirror V hcfg hf hr c).1]
    constructor
    · exact fun h => h.2.2
    · intro h
      exact ⟨(C18_oracle_protocol_reachable V hcfg hf hr c).1,
        (reach_inv V hcfg hf hr).nodup_rids hcfg c, h⟩
  · refine forall_congr' fun e => imp_congr_right fun _ => imp_congr_right fun hn => ?_
    have hm := mirror_of_not_client I cfg.wo hn
    rw [map_cev_map_lev] at hm
    rw [(C18_mirror V hcfg hf hr e.1).1, hm]
    simp [Render.content]

end reachable

/-! ## non-vacuity -/
section examples
open SR.C18

/-- two clients, interleaved: client 1 completes a `Put` and a `Get`, client 2 a `Put` and has a `Get` outstanding
    (values are `char` codes: 65 = `'A'`, 66 = `'B'`) -/
def exLog : List LogEv :=
  [.send 1 (.put 1 65), .send 2 (.put 2 66), .acc 1 (.putOk 1), .send 1 (.get 2), .acc 2 (.putOk 2),
   .send 2 (.get 4), .acc 1 (.getOk 2 66)]

def exContent : List (Nat × List SExp × Option SExp) :=
  [(1, [.list [.list [.atom "w", .ofNat 65], .atom "wok"], .list [.atom "r", .list [.atom "rok", .ofNat 66]]], none),
   (2, [.list [.list [.atom "w", .ofNat 66], .atom "wok"]], some (.atom "r"))]

example : Alt false none (clog 1 exLog) ∧ Alt false none (clog 2 exLog) ∧ clientsOf exLog = [1, 2] := by decide
example : mirrorClient false (clog 2 exLog) [] none =
    .ok ([.list [.list [.atom "w", .ofNat 66], .atom "wok"]], some (.atom "r")) := rfl
example : oracleMirror false exLog true exContent = "ok" := rfl
example : oracleMirror false exLog true (exContent.take 1) = "tester-has-no-thread-2" := rfl
example : oracleMirror false exLog false exContent ≠ "ok" := by decide
/-- write-once flavour: `PutFail` is a reply, the value read is rendered as an option -/
example : mirrorClient true [.send 3 (.put 3 65), .acc 3 (.putFail 3), .send 3 (.get 6), .acc 3 (.getOk 6 66)] [] none =
    .ok ([.list [.list [.atom "w", .ofNat 65], .atom "wfail"],
          .list [.atom "r", .list [.atom "rok", SExp.ofOpt SExp.ofNat (some 66)]]], none) := rfl
/-- the five violations -/
example : mirrorClient false [.send 1 (.put 1 65), .send 1 (.get 2)] [] none =
    .error "second-request-while-one-outstanding" := rfl
example : mirrorClient false [.send 1 (.putOk 1)] [] none = .error "client-sent-non-request" := rfl
example : mirrorClient false [.send 1 (.put 1 65), .acc 1 (.putOk 1), .acc 1 (.putOk 1)] [] none =
    .error "reply-accepted-without-outstanding-request" := rfl
example : mirrorClient false [.send 1 (.put 1 65), .acc 1 (.putOk 2)] [] none =
    .error "accepted-reply-for-other-request-id" := rfl
example : mirrorClient false [.send 1 (.put 1 65), .acc 1 (.putFail 1)] [] none = .error "accepted-non-reply" := rfl
example : Alt false none [.send 1 (.put 1 65)] ∧ pendOf [.send 1 (.put 1 65)] = some (.put 1 65) ∧
    Viol false (some (.put 1 65)) (.acc 1 (.putFail 1)) "accepted-non-reply" :=
  ⟨by decide, rfl, Viol.nonReply (by decide) rfl (by decide)⟩
/-- a request id used twice passes `mirrorClient` and is caught by the id test of `oracleMirror` -/
example : oracleMirror false [.send 1 (.put 1 65), .acc 1 (.putOk 1), .send 1 (.get 1)] true
    [(1, [.list [.list [.atom "w", .ofNat 65], .atom "wok"]], some (.atom "r"))] = "request-id-reused-by-1" := rfl
/-- a `content` that lists a thread twice is refused (only the first entry would be compared) -/
example : oracleMirror false [.send 1 (.put 1 65)] true
    [(1, [], some (.list [.atom "w", .ofNat 65])), (1, [.atom "garbage"], none)] =
    "tester-content-lists-a-thread-twice" := rfl
/-- a reachable state of the harness (configuration `cfg1` of Props/C18: one server, one client) -/
example : ∃ s, Reach cfg1 regLin (Tester.new 63) s ∧ s.log.map lev = [LogEv.send 1 (.put 1 65)] :=
  ⟨_, Reach.step Reach.init (Step.start (c := ⟨1, 1⟩) (st := _) (outs := _) rfl rfl), rfl⟩

end examples

end SR.C18Oracle
