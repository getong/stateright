import SR.Props.C01CompleteRun
import SR.Props.C10Machine
import SR.Proofs.OracleRest
/-!
C07 `o-net` (Drv/C07.lean), `o-chk c11` (`oracleC11` of Drv/Chk.lean) and `o-chk-sym`, each with examples that show the
theorems non-vacuous.  In the `o-net` theorems `h` is the oracle's history, the initial envelopes included as sends
(`C07_oracle_initial`), and `n` the model network after a valid run over `h`.
-/
namespace SR.COracleRest

section C07
open SR SR.Actor SR.Actor.Codec SR.Drv.C07 SR.C07

theorem C07_oracle_isPerm (a b : List Env) : isPerm a b = true ↔ a.Perm b := isPerm_iff a b

/-- the offered-actions comparison of `checkObs` (`sortActions … != sortActions …`) -/
theorem C07_oracle_sortActions (a b : List Action) : sortActions a = sortActions b ↔ a.Perm b := sortActions_eq_iff a b

/-- the initial envelopes of an `o-net` / `net-run` request: `mkNet kind envs last` is the empty network after the sends
    `envs.map send` the oracle puts in front of its history -/
theorem C07_oracle_initial (kind : String) (envs : List Env) (last : Option Env) (n₀ : Net)
    (hm : mkNet kind envs last = some n₀) (ops : List NetOp) :
    Net.run (emptyNet kind last) (envs.map NetOp.send ++ ops) = Net.run n₀ ops := by
  rw [mkNet_eq hm]
  exact run_initial _ _ _

/-- **contents**: `refContents` against the model network's; order-sensitive for the ordered kind (every kind word other than
    `"d"`, `"n"`) -/
theorem C07_oracle_contents (kind : String) (last : Option Env) (h : List NetOp) (n : Net)
    (hr : Net.run (emptyNet kind last) h = some n) :
    ∃ ref, refContents kind h = some ref ∧ ref.Perm n.contents ∧ (kind ≠ "d" → kind ≠ "n" → ref = n.contents) :=
  contents_any hr

/-- the ordered model network keeps its flows sorted by key (the fact behind the order-sensitive comparison) -/
theorem C07_oracle_sorted (n₀ n : Net) (ops : List NetOp) (hs : Net.Sorted n₀) (hr : Net.run n₀ ops = some n) :
    Net.Sorted n := sorted_run hs hr

/-- **deliverable**: `refDeliverable` is a duplicate-free list of exactly the deliverable envelopes of the model network (a
    permutation of `iter_deliverable`), hence — `C07_actions` — of exactly the envelopes for which the actor model offers
    Deliver (if the recipient exists) and Drop (if lossy) in any state carrying this network -/
theorem C07_oracle_deliverable (kind : String) (last : Option Env) (h : List NetOp) (n : Net)
    (hr : Net.run (emptyNet kind last) h = some n) :
    (refDeliverable kind h).Perm n.iterDeliverable ∧ (refDeliverable kind h).Nodup ∧
    (∀ e, e ∈ refDeliverable kind h ↔ n.isHead e) ∧
    (∀ {σ η : Type} (sys : ActorSys σ η) (st : St σ η), st.NetOk sys → st.net = n → ∀ e,
      (Action.deliver e ∈ actions sys st ↔ e ∈ refDeliverable kind h ∧ e.dst < sys.n) ∧
      (Action.drop e ∈ actions sys st ↔ sys.lossy = true ∧ e ∈ refDeliverable kind h)) := by
  have hc : n.Canon := canon_run (emptyNet_canon kind last) hr
  have hp := deliverable_any hr
  have hm : ∀ e, e ∈ refDeliverable kind h ↔ n.isHead e := fun e => by rw [hp.mem_iff, mem_iterDeliverable hc]
  refine ⟨hp, hp.nodup_iff.2 (C07_views n hc).2.2.2.2, hm, ?_⟩
  intro σ η sys st hn hst e
  subst hst
  rw [hm e]
  exact C07_actions sys st hn e

/-- **`checkOp`**: an operation of a group is accepted iff the model allows it on the network reached so far -/
theorem C07_oracle_checkOp (kind : String) (last : Option Env) (h : List NetOp) (n : Net)
    (hr : Net.run (emptyNet kind last) h = some n) (op : NetOp) :
    checkOp kind h op = none ↔ n.valid op = true := checkOp_iff hr op

/-- **`checkObs`**: an observation is accepted iff it is canonical (`C07_canonical`), its contents / `len` / `iter_all` /
    `iter_deliverable` are those of the model network (`C07_views`; order-sensitive for the ordered kind), its `last_msg` is the
    model's (`C07_dup_last`), and the offered network actions are, up to order, one Deliver per deliverable envelope with an
    existing recipient and one Drop per deliverable envelope if lossy (`C07_actions`, see `C07_oracle_expActs`) -/
theorem C07_oracle_checkObs (kind : String) (nActors : Nat) (lossy : Bool) (last0 : Option Env) (h : List NetOp) (n : Net)
    (hr : Net.run (emptyNet kind last0) h = some n) (o : Obs) :
    checkObs kind nActors lossy last0 h o = none ↔ ObsSpec kind nActors lossy n o := checkObs_iff hr o

/-- the expected action list is duplicate-free and contains exactly the right-hand sides of `C07_actions` -/
theorem C07_oracle_expActs (n : Net) (hc : n.Canon) (nActors : Nat) (lossy : Bool) :
    (expActs nActors lossy n).Nodup ∧ ∀ a, a ∈ expActs nActors lossy n ↔
      (∃ e, a = .deliver e ∧ n.isHead e ∧ e.dst < nActors) ∨ (∃ e, a = .drop e ∧ lossy = true ∧ n.isHead e) := by
  have hnd : n.iterDeliverable.Nodup := (C07_views n hc).2.2.2.2
  unfold expActs
  refine ⟨List.nodup_append.2 ⟨List.pairwise_map.2 ((hnd.filter _).imp fun hne h => hne (Action.deliver.inj h)), ?_, ?_⟩,
    fun a => ?_⟩
  · cases lossy
    · exact List.Pairwise.nil
    · exact List.pairwise_map.2 (hnd.imp fun hne h => hne (Action.drop.inj h))
  · intro a ha b hb hab
    obtain ⟨e, _, rfl⟩ := List.mem_map.1 ha
    cases lossy
    · cases hb
    · obtain ⟨e', _, rfl⟩ := List.mem_map.1 hb
      cases hab
  · rw [List.mem_append, List.mem_map]
    refine or_congr ?_ ?_
    · refine exists_congr fun e => ?_
      rw [List.mem_filter, mem_iterDeliverable hc, decide_eq_true_eq]
      exact ⟨fun ⟨h1, h2⟩ => ⟨h2.symm, h1⟩, fun ⟨h1, h2⟩ => ⟨h2, h1.symm⟩⟩
    · cases lossy <;> simp [mem_iterDeliverable hc, eq_comm, and_comm]

/-- **no false alarm**: what the model itself shows after a valid run (representation, `len`, `iter_all`, `iter_deliverable`,
    and the `actions` of any actor-model state carrying this network) passes `checkObs` -/
theorem C07_oracle_model_passes (kind : String) (last0 : Option Env) (h : List NetOp) (n : Net)
    (hr : Net.run (emptyNet kind last0) h = some n) :
    checkObs kind 0 false last0 h ⟨n, n.len, n.iterAll, n.iterDeliverable, none⟩ = none ∧
    ∀ {σ η : Type} (sys : ActorSys σ η) (st : St σ η), st.NetOk sys → st.net = n →
      checkObs kind sys.n sys.lossy last0 h ⟨n, n.len, n.iterAll, n.iterDeliverable, some (actions sys st)⟩ = none := by
  have hc : n.Canon := canon_run (emptyNet_canon kind last0) hr
  have hv := C07_views n hc
  have base : ∀ nA lossy acts, (∀ a, acts = some a → (a.filter isNetAct).Perm (expActs nA lossy n)) →
      ObsSpec kind nA lossy n ⟨n, n.len, n.iterAll, n.iterDeliverable, acts⟩ := by
    intro nA lossy acts ha
    refine ⟨hc, fun _ => rfl, List.Perm.refl _, hv.2.2.1, fun _ => hv.1, hv.2.1, List.Perm.refl _, fun _ => rfl, ha⟩
  refine ⟨(checkObs_iff hr _).2 (base 0 false none (fun a ha => by cases ha)), ?_⟩
  intro σ η sys st hn hst
  subst hst
  refine (checkObs_iff hr _).2 (base sys.n sys.lossy _ ?_)
  intro a ha
  simp only [Option.some.injEq] at ha
  subst ha
  exact model_acts_perm sys st hn

/-! non-vacuity: a non-trivial valid run on each kind, and an accepted / a refused observation (closed `mergeSort` terms do
not reduce under `decide`: the two observations go through the theorems) -/
example : Net.run (emptyNet "o" none) [.send ⟨0, 1, 7⟩, .send ⟨2, 1, 5⟩, .send ⟨0, 1, 8⟩, .deliver ⟨0, 1, 7⟩]
    = some (Net.ord [((0, 1), [8]), ((2, 1), [5])]) := by decide
example : Net.run (emptyNet "n" none) [.send ⟨0, 1, 7⟩, .send ⟨0, 1, 7⟩, .drop ⟨0, 1, 7⟩]
    = some (Net.nondup [(⟨0, 1, 7⟩, 1)]) := by decide
example : Net.run (emptyNet "d" none) [.send ⟨0, 1, 7⟩, .deliver ⟨0, 1, 7⟩]
    = some (Net.dup [⟨0, 1, 7⟩] (some ⟨0, 1, 7⟩)) := by decide
example : mkNet "o" [⟨0, 1, 7⟩] none = some (Net.ord [((0, 1), [7])]) := by decide

example : checkObs "o" 0 false none [.send ⟨0, 1, 7⟩, .send ⟨2, 1, 5⟩, .send ⟨0, 1, 8⟩, .deliver ⟨0, 1, 7⟩]
    ⟨Net.ord [((0, 1), [8]), ((2, 1), [5])], 2, [⟨0, 1, 8⟩, ⟨2, 1, 5⟩], [⟨0, 1, 8⟩, ⟨2, 1, 5⟩], none⟩ = none :=
  (C07_oracle_model_passes "o" none _ (Net.ord [((0, 1), [8]), ((2, 1), [5])]) (by decide)).1

/-- refused: `len` is wrong -/
example : checkObs "n" 0 false none [.send ⟨0, 1, 7⟩, .send ⟨0, 1, 7⟩, .drop ⟨0, 1, 7⟩]
    ⟨Net.nondup [(⟨0, 1, 7⟩, 1)], 2, [⟨0, 1, 7⟩], [⟨0, 1, 7⟩], none⟩ ≠ none := by
  rw [Ne, C07_oracle_checkObs "n" 0 false none _ (Net.nondup [(⟨0, 1, 7⟩, 1)]) (by decide)]
  intro h
  exact absurd h.2.2.2.1 (by decide)

end C07

section Chk
open SR SR.Checker SR.Drv.Chk SR.CCompleteRun

theorem C11_oracle_lines (c : Case) (o : Obs) (sim : Bool) :
    oracleC11 c o sim = (List.range c.props.length).flatMap fun i =>
      match c.props[i]? with
      | none => []
      | some pr => if pr.exp != .eventually then [] else c11FalseAlarm c o i pr ++ c11Missed c o sim i pr := rfl

/-- **the `completeRun` guard of `eventually-missed-on-forest`** (`o-chk c11`).  For an observation of a terminated run of the
    model (no timeout configured, model code does not panic) that passes `completeRun`, on a graph that passes `isForest`: the
    hypotheses of `C11_forest_exact` hold; the guarded line is silent iff direction ⇐ of its conclusion holds, the line
    `eventually-false-alarm` iff direction ⇒; and the conclusion holds. -/
theorem C11_complete_run_forest_exact (c : Case) (hwf : c.g.WF) (hto : c.cfg.timeout = false) (cs : List Choice)
    (hnp : ∀ ch ∈ cs, ch ≠ Choice.stop .panic) (hq : Quiescent (run c.params cs))
    (o : Obs) (ho : Observes o (run c.params cs)) (hc : completeRun c o = true) (hf : c.g.isForest = true)
    (i : Nat) (pr : GProp) (hpr : c.props[i]? = some pr) (hexp : pr.exp = .eventually) :
    (Forest c.params.M ∧ (∀ a b, c.params.M.Reach a → c.params.M.Reach b → c.params.key a = c.params.key b → a = b) ∧
      C02.Completed c.params (run c.params cs)) ∧
    (c11Missed c o false i pr = [] ↔
      ((∃ p, C11.MaxPathAvoiding c.params pr.toProp p) → hasDisc (run c.params cs).disc i = true)) ∧
    (c11FalseAlarm c o i pr = [] ↔
      (hasDisc (run c.params cs).disc i = true → ∃ p, C11.MaxPathAvoiding c.params pr.toProp p)) ∧
    (c11FalseAlarm c o i pr ++ c11Missed c o false i pr = [] ↔
      (hasDisc (run c.params cs).disc i = true ↔ ∃ p, C11.MaxPathAvoiding c.params pr.toProp p)) ∧
    (hasDisc (run c.params cs).disc i = true ↔ ∃ p, C11.MaxPathAvoiding c.params pr.toProp p) := by
  have hg := C01_complete_run_guard_of_observes c cs o ho hc
  have hF : Forest c.params.M := COracle.C11_oracle_forest_sound c.g hwf hf
  have hcomp := C02_complete_run_completed c hto cs hnp hg hq
  have hinj : ∀ a b, c.params.M.Reach a → c.params.M.Reach b → c.params.key a = c.params.key b → a = b :=
    fun _ _ _ _ h => h
  have hex : c.g.canAvoidForever (fun s => pr.tbl.getD s false) = true ↔ ∃ p, C11.MaxPathAvoiding c.params pr.toProp p :=
    COracle.C11_oracle_can_avoid_on_forest c.g c.params hwf rfl hF pr.toProp
  have hconcl := C11.C11_forest_exact c.params hF hinj cs hcomp i pr.toProp (C01_case_props_getElem? c i pr hpr) hexp
  have e1 := (c11Missed_nil_iff c o i pr).trans ⟨fun h => h hc hf, fun h _ _ => h⟩
  have e2 := c11FalseAlarm_nil_iff c o i pr
  rw [contains_names_eq ho, hex] at e1 e2
  refine ⟨⟨hF, hinj, hcomp⟩, e1, e2, ?_, hconcl⟩
  rw [List.append_eq_nil_iff, e1, e2]
  exact ⟨fun h => ⟨h.1, h.2⟩, fun h => ⟨h.1, h.2⟩⟩

/-- **no false alarm of `oracleC11`** (exhaustive checkers, `sim = false`): every observation of a terminated run of the model
    passes the whole of `oracleC11` — whether or not the guard `completeRun` holds and whether or not the graph is a forest.
    (`eventually-false-alarm`: a reported path is a maximal avoiding path, `C11_no_false_alarm`, and `canAvoidForever` is
    complete for those; `eventually-missed-on-forest`: `C11_complete_run_forest_exact`.) -/
theorem C11_complete_run_oracle_passes (c : Case) (hwf : c.g.WF) (hto : c.cfg.timeout = false) (cs : List Choice)
    (hnp : ∀ ch ∈ cs, ch ≠ Choice.stop .panic) (hq : Quiescent (run c.params cs))
    (o : Obs) (ho : Observes o (run c.params cs)) : oracleC11 c o false = [] := by
  rw [C11_oracle_lines, List.flatMap_eq_nil_iff]
  intro i _
  cases hpr : c.props[i]? with
  | none => rfl
  | some pr =>
    simp only []
    cases hexp : pr.exp with
    | always => rfl
    | sometimes => rfl
    | eventually =>
      have hne : (Expect.eventually != Expect.eventually) = false := by decide
      simp only [hne, Bool.false_eq_true, if_false, List.append_eq_nil_iff]
      constructor
      · rw [c11FalseAlarm_nil_iff, contains_names_eq ho]
        intro hd
        exact COracle.C11_oracle_can_avoid_terminal_complete c.g c.params hwf rfl pr.toProp
          (C11.C11_no_false_alarm c.params cs i pr.toProp (C01_case_props_getElem? c i pr hpr) hexp hd)
      · rw [c11Missed_nil_iff]
        intro hc hf hex
        rw [contains_names_eq ho]
        have h := C11_complete_run_forest_exact c hwf hto cs hnp hq o ho hc hf i pr hpr hexp
        exact h.2.2.2.2.2 ((COracle.C11_oracle_can_avoid_on_forest c.g c.params hwf rfl h.1.1 pr.toProp).1 hex)

/-- with `sim = true` the guarded line is switched off (the simulation checker is not exhaustive) -/
theorem C11_oracle_missed_off_for_sim (c : Case) (o : Obs) (i : Nat) (pr : GProp) : c11Missed c o true i pr = [] := by
  simp [c11Missed]

/-! non-vacuity: the two-root forest of `Props/OracleAdequacy.lean`, "eventually (= 1)" (the maximal path `[0, 2]` avoids it)
and an always-property that holds; finish condition `AllFailures`.  The DFS scheduler terminates, the guard and `isForest` hold,
property 0 is discovered. -/
def exCase11 : Case :=
  { g := COracle.forestGraph,
    props := [⟨.eventually, [false, true, false, false, false]⟩, ⟨.always, [true, true, true, true, true]⟩],
    cfg := {}, finish := .allF }

-- fuel 120 is ample: `C11_complete_run_ex` checks that the run has ended (empty frontier, no active job)
def exChoices11 : List Choice :=
  schedule exCase11.params .dfs 120 (init exCase11.params.M exCase11.params.props exCase11.params.key) blockSize

theorem C11_complete_run_ex : exCase11.cfg.timeout = false ∧ noPanic exChoices11 = true ∧
    (run exCase11.params exChoices11).frontier.length = 0 ∧ (run exCase11.params exChoices11).active.length = 0 ∧
    completeRun exCase11 (obsRaw (run exCase11.params exChoices11)) = true ∧ exCase11.g.isForest = true ∧
    discNames (run exCase11.params exChoices11).disc = [0] ∧ decide exCase11.g.WF = true := by decide

/-- the hypotheses of `C11_complete_run_forest_exact` hold for it (property 0) -/
example : exCase11.g.WF ∧ exCase11.cfg.timeout = false ∧ (∀ ch ∈ exChoices11, ch ≠ Choice.stop .panic) ∧
    Quiescent (run exCase11.params exChoices11) ∧
    Observes (obsRaw (run exCase11.params exChoices11)) (run exCase11.params exChoices11) ∧
    completeRun exCase11 (obsRaw (run exCase11.params exChoices11)) = true ∧ exCase11.g.isForest = true ∧
    exCase11.props[0]? = some ⟨.eventually, [false, true, false, false, false]⟩ :=
  ⟨of_decide_eq_true C11_complete_run_ex.2.2.2.2.2.2.2, rfl, C01_noPanic_iff _ C11_complete_run_ex.2.1,
   ⟨List.length_eq_zero_iff.1 C11_complete_run_ex.2.2.1, List.length_eq_zero_iff.1 C11_complete_run_ex.2.2.2.1⟩,
   C01_observes_obsRaw _, C11_complete_run_ex.2.2.2.2.1, C11_complete_run_ex.2.2.2.2.2.1, rfl⟩

theorem C10_sym_params (c : Case) (rep : List Nat) :
    symParams c rep = { c.params with key := fun s => rep.getD s s } ∧ (symParams c rep).key = symRep rep := ⟨rfl, rfl⟩

/-- **the `completeRun` guard of `o-chk-sym`**, with the representative key.  `R a b := symRep rep a = symRep rep b`; the
    hypotheses `hkey` and `htrans` of `C10_verdicts` / `C10_one_per_class` hold by construction for this `R`; `hsim` (successor
    classes are preserved) and `hinv` (condition tables constant on classes) are assumed — `symOk` decides them.  Then for an
    observation of a terminated run of the symmetry-reduced machine that passes `completeRun`:
    1. `early = false` and `C02.Completed`;
    2. the guarded line `symmetry-class-without-evaluated-state` is silent iff the conclusion of `C10_one_per_class` holds;
    3. the guarded `oracleC02` is silent iff the conclusion of `C10_verdicts` holds for every always/sometimes property;
    4. both conclusions hold, so neither line is raised: no false alarm. -/
theorem C10_complete_run_sym (c : Case) (rep : List Nat) (hwf : c.g.WF) (hto : c.cfg.timeout = false)
    (hsim : ∀ a b, symRep rep a = symRep rep b → ∀ a' ∈ c.g.toSys.succB a, ∃ b' ∈ c.g.toSys.succB b,
      symRep rep a' = symRep rep b')
    (hinv : ∀ pr ∈ c.props, ∀ a b, symRep rep a = symRep rep b → pr.tbl.getD a false = pr.tbl.getD b false)
    (cs : List Choice) (hnp : ∀ ch ∈ cs, ch ≠ Choice.stop .panic) (hq : Quiescent (run (symParams c rep) cs))
    (o : Obs) (ho : Observes o (run (symParams c rep) cs)) (hc : completeRun c o = true) :
    ((run (symParams c rep) cs).early = false ∧ C02.Completed (symParams c rep) (run (symParams c rep) cs)) ∧
    (c.g.reachList.all (fun t => (o.visits.map lastOf).any (fun v => symRep rep v == symRep rep t)) = true ↔
      ∀ t, c.g.toSys.Reach t → ∃ u ∈ visitedStates (run (symParams c rep) cs), symRep rep t = symRep rep u) ∧
    (oracleC02 c o = [] ↔ ∀ i pr, c.props[i]? = some pr → pr.exp ≠ .eventually →
      (hasDisc (run (symParams c rep) cs).disc i = true ↔ ∃ t, c.g.toSys.Reach t ∧ Wit pr.toProp t)) ∧
    (∀ t, c.g.toSys.Reach t → ∃ u ∈ visitedStates (run (symParams c rep) cs), symRep rep t = symRep rep u) ∧
    (∀ i pr, c.props[i]? = some pr → pr.exp ≠ .eventually →
      (hasDisc (run (symParams c rep) cs).disc i = true ↔ ∃ t, c.g.toSys.Reach t ∧ Wit pr.toProp t)) := by
  obtain ⟨hd, ht, hfin, hall⟩ := guard_of_observes c ho hc
  have he : (run (symParams c rep) cs).early = false :=
    (C01_complete_run_no_early_any_key (symParams c rep) (C12_finish_mono_case_key c _) hd ht hto cs hnp hfin
      ((C01_case_props_length c).symm ▸ hall)
      cs [] (by simp)).1
  have hcomp : C02.Completed (symParams c rep) (run (symParams c rep) cs) := ⟨hq, Or.inl he⟩
  refine ⟨⟨he, hcomp⟩, classLine_iff c hwf rep ho, ?_,
    C10M.C10_one_per_class (symParams c rep) (fun a b => symRep rep a = symRep rep b) (fun _ _ _ _ h => h)
      (fun _ _ _ h1 h2 => h1.trans h2) hsim cs hq he, ?_⟩
  · simp only [oracleC02_nil_iff c hwf o hc, contains_names_eq ho]
  · intro i pr hpr hexp
    exact C10M.C10_verdicts (symParams c rep) (fun a b => symRep rep a = symRep rep b) (fun _ _ _ _ h => h)
      (fun _ _ _ h1 h2 => h1.trans h2) hsim cs hcomp i pr.toProp (C01_case_props_getElem? c i pr hpr)
      (hinv pr (List.mem_of_getElem? hpr)) hexp

/-- **`symOk` decides the hypotheses** `hsim` and `hinv` of `C10_verdicts` / `C10_one_per_class` / `C10_complete_run_sym` for
    the relation "same representative" on a finite graph -/
theorem C10_oracle_symOk_iff (g : Graph) (rep : List Nat) (conds : List (List Bool)) :
    symOk g rep conds = true ↔
      (∀ a b, symRep rep a = symRep rep b → ∀ a' ∈ g.toSys.succB a, ∃ b' ∈ g.toSys.succB b, symRep rep a' = symRep rep b') ∧
      (∀ tbl ∈ conds, ∀ a b, symRep rep a = symRep rep b → tbl.getD a false = tbl.getD b false) := by
  unfold symOk
  simp only [List.all_eq_true, List.mem_range, Bool.or_eq_true, bne_iff_ne, ne_eq, Bool.and_eq_true, List.any_eq_true,
    beq_iff_eq, Graph.succB]
  constructor
  · intro h
    have key := fun a b (hab : symRep rep a = symRep rep b) => (symRep_eq_cases hab).imp_left fun hlt =>
      (h a hlt.1 b hlt.2).resolve_left (not_not_intro hab)
    constructor
    · intro a b hab a' ha'
      rcases key a b hab with h1 | rfl
      · exact h1.1 a' ha'
      · exact ⟨a', ha', rfl⟩
    · intro tbl ht a b hab
      rcases key a b hab with h1 | rfl
      · exact h1.2 tbl ht
      · rfl
  · rintro ⟨h1, h2⟩ a _ b _
    by_cases hab : symRep rep a = symRep rep b
    · exact Or.inr ⟨fun a' ha' => h1 a b hab a' ha', fun tbl ht => h2 tbl ht a b hab⟩
    · exact Or.inl hab

/-- the precondition in the form the driver tests -/
theorem C10_oracle_symOk_run (c : Case) (rep : List Nat) (h : symOk c.g rep (c.props.map (·.tbl)) = true) :
    (∀ a b, symRep rep a = symRep rep b → ∀ a' ∈ c.g.toSys.succB a, ∃ b' ∈ c.g.toSys.succB b,
      symRep rep a' = symRep rep b') ∧
    (∀ pr ∈ c.props, ∀ a b, symRep rep a = symRep rep b → pr.tbl.getD a false = pr.tbl.getD b false) := by
  obtain ⟨h1, h2⟩ := (C10_oracle_symOk_iff _ _ _).1 h
  exact ⟨h1, fun pr hpr => h2 pr.tbl (List.mem_map.2 ⟨pr, hpr, rfl⟩)⟩

/-! non-vacuity: the diamond `0 → {1, 2} → 3` with the states 1 and 2 in one class (`rep = [0, 1, 1, 3]`), an always-property
that holds and a sometimes-property witnessed in state 3, finish condition `AnyFailures`.  `symOk` accepts; the reduced DFS
terminates after evaluating 3 of the 4 states; the guard holds.  `symOk` refuses a condition table that separates 1 from 2,
and a `rep` that merges 2 with the terminal state 3. -/
def exCaseSym : Case :=
  { g := { n := 4, init := [0], adj := [[some 1, some 2], [some 3], [some 3], []], bnd := [true, true, true, true] },
    props := [⟨.always, [true, true, true, true]⟩, ⟨.sometimes, [false, false, false, true]⟩],
    cfg := {}, finish := .anyF }
def exRep : List Nat := [0, 1, 1, 3]
-- fuel 120 is ample: `C10_complete_run_sym_ex` checks that the run has ended
def exChoicesSym : List Choice :=
  schedule (symParams exCaseSym exRep) .dfs 120
    (init (symParams exCaseSym exRep).M (symParams exCaseSym exRep).props (symParams exCaseSym exRep).key) blockSize

theorem C10_complete_run_sym_ex : exCaseSym.cfg.timeout = false ∧ noPanic exChoicesSym = true ∧
    (run (symParams exCaseSym exRep) exChoicesSym).frontier.length = 0 ∧
    (run (symParams exCaseSym exRep) exChoicesSym).active.length = 0 ∧
    completeRun exCaseSym (obsRaw (run (symParams exCaseSym exRep) exChoicesSym)) = true ∧
    symOk exCaseSym.g exRep (exCaseSym.props.map (·.tbl)) = true ∧
    (run (symParams exCaseSym exRep) exChoicesSym).visits.length = 3 ∧
    symOk exCaseSym.g exRep [[false, true, false, false]] = false ∧
    symOk exCaseSym.g [0, 1, 2, 2] [] = false ∧
    decide exCaseSym.g.WF = true := by decide

/-- the hypotheses of `C10_complete_run_sym` hold for it -/
example : exCaseSym.g.WF ∧ exCaseSym.cfg.timeout = false ∧
    ((∀ a b, symRep exRep a = symRep exRep b → ∀ a' ∈ exCaseSym.g.toSys.succB a, ∃ b' ∈ exCaseSym.g.toSys.succB b,
      symRep exRep a' = symRep exRep b') ∧
     (∀ pr ∈ exCaseSym.props, ∀ a b, symRep exRep a = symRep exRep b → pr.tbl.getD a false = pr.tbl.getD b false)) ∧
    (∀ ch ∈ exChoicesSym, ch ≠ Choice.stop .panic) ∧ Quiescent (run (symParams exCaseSym exRep) exChoicesSym) ∧
    Observes (obsRaw (run (symParams exCaseSym exRep) exChoicesSym)) (run (symParams exCaseSym exRep) exChoicesSym) ∧
    completeRun exCaseSym (obsRaw (run (symParams exCaseSym exRep) exChoicesSym)) = true :=
  ⟨of_decide_eq_true C10_complete_run_sym_ex.2.2.2.2.2.2.2.2.2, rfl,
   C10_oracle_symOk_run exCaseSym exRep C10_complete_run_sym_ex.2.2.2.2.2.1,
   C01_noPanic_iff _ C10_complete_run_sym_ex.2.1,
   ⟨List.length_eq_zero_iff.1 C10_complete_run_sym_ex.2.2.1, List.length_eq_zero_iff.1 C10_complete_run_sym_ex.2.2.2.1⟩,
   C01_observes_obsRaw _, C10_complete_run_sym_ex.2.2.2.2.1⟩

/-- **`C10_complete_run_sym` about the driver's own guard**: `o-chk-sym` (Drv/Chk.lean) answers `rep-not-a-symmetry` unless
    `symOk g rep (ps.map (·.tbl))` (`SR/Checker/SymOk.lean`); past that guard the hypotheses `hsim`, `hinv` hold, so for every
    observation of a terminated run of the symmetry-reduced machine that passes `completeRun` the guarded lines are silent:
    no false alarm, and each guarded line is the conclusion of `C10_one_per_class` / `C10_verdicts`. -/
theorem C10_complete_run_sym_driver (c : Case) (rep : List Nat) (hwf : c.g.WF) (hto : c.cfg.timeout = false)
    (hok : symOk c.g rep (c.props.map (·.tbl)) = true)
    (cs : List Choice) (hnp : ∀ ch ∈ cs, ch ≠ Choice.stop .panic) (hq : Quiescent (run (symParams c rep) cs))
    (o : Obs) (ho : Observes o (run (symParams c rep) cs)) (hc : completeRun c o = true) :
    c.g.reachList.all (fun t => (o.visits.map lastOf).any (fun v => (fun s => rep.getD s s) v == (fun s => rep.getD s s) t)) = true ∧
    oracleC02 c o = [] ∧
    (∀ t, c.g.toSys.Reach t → ∃ u ∈ visitedStates (run (symParams c rep) cs), rep.getD t t = rep.getD u u) ∧
    (∀ i pr, c.props[i]? = some pr → pr.exp ≠ .eventually →
      (hasDisc (run (symParams c rep) cs).disc i = true ↔ ∃ t, c.g.toSys.Reach t ∧ Wit pr.toProp t)) := by
  obtain ⟨hsim, hinv⟩ := C10_oracle_symOk_run c rep hok
  obtain ⟨_, h1, h2, h3, h4⟩ := C10_complete_run_sym c rep hwf hto hsim hinv cs hnp hq o ho hc
  exact ⟨h1.2 h3, h2.2 h4, h3, h4⟩

example : symOk exCaseSym.g exRep (exCaseSym.props.map (·.tbl)) = true := C10_complete_run_sym_ex.2.2.2.2.2.1

end Chk
end SR.COracleRest
