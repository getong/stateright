import SR.Proofs.Checker.Bfs
import SR.Proofs.Checker.Verdict
import SR.Props.C01
/-!
# C19 (on-demand scheduler part)

on_demand.rs is the checker machine with a different way of choosing the next job: `check_fingerprint fp` makes a
worker take exactly the pending job with that fingerprint (a `take i` choice with `frontier[i]` = that job);
`run_to_completion` lets the workers take jobs in FIFO blocks.  Every such behaviour is a choice list, so all
theorems of C01–C03 apply verbatim.
-/
namespace SR.C19M
open SR SR.Checker

variable {σ κ α : Type} [DecidableEq κ] (P : Params σ κ α)

/-- **targeted evaluation**: asking for a pending job evaluates exactly that job (its path is shown to the visitor,
    it leaves the pending set, a worker starts on it) and no other state is evaluated, generated, finished, recorded
    as a discovery or dropped.  (Without depth limit; with one, a job at the limit is dropped instead.) -/
theorem C19_on_demand_targeted (hnd : P.cfg.maxDepth = none) (s : St σ κ) (i : Nat) (j : Job σ)
    (hj : s.frontier[i]? = some j) :
    (stepTake P i s).visits = j.path :: s.visits ∧
    (stepTake P i s).frontier = s.frontier.eraseIdx i ∧
    (stepTake P i s).active = s.active ++ [{ job := j, phase := .props 0 false }] ∧
    (stepTake P i s).gen = s.gen ∧ (stepTake P i s).done = s.done ∧ (stepTake P i s).disc = s.disc ∧
    (stepTake P i s).early = s.early := by
  unfold stepTake
  rw [hj]
  simp [hnd]

/-- asking for a fingerprint that is not pending does nothing -/
theorem C19_on_demand_not_pending (s : St σ κ) (i : Nat) (hj : s.frontier[i]? = none) : stepTake P i s = s := by
  unfold stepTake
  rw [hj]

/-- **run to completion finishes like BFS**: whatever requests were served before, once the run is complete the
    evaluated states are exactly the reachable ones and the verdicts are the declarative ones — the same as for any
    other exhaustive strategy (C01_exact, C02). -/
theorem C19_on_demand_complete (hinj : ∀ a b, P.M.Reach a → P.M.Reach b → P.key a = P.key b → a = b)
    (cs : List Choice) (hq : Quiescent (run P cs)) (he : (run P cs).early = false) :
    (∀ t, P.M.Reach t ↔ t ∈ visitedStates (run P cs)) ∧
    (∀ i pr, P.props[i]? = some pr → pr.exp ≠ .eventually →
      (hasDisc (run P cs).disc i = true ↔ ∃ t, P.M.Reach t ∧ Wit pr t)) := by
  refine ⟨(C01.C01_exact P hinj cs hq he).1, ?_⟩
  intro i pr hpr hexp
  exact verdict_exact hinj cs hq (Or.inl he) i pr hpr hexp

/-- the on-demand scheduler (after `run_to_completion`, one worker) obeys the FIFO discipline of C13 -/
theorem C19_on_demand_is_fifo (fuel : Nat) (s : St σ κ) (bl : Nat) :
    FifoRun P s (schedule P .ondemand fuel s bl) :=
  schedule_fifo P (d := .ondemand) nofun fuel s bl

end SR.C19M
