import SR.Proofs.Checker.SpecAdequacy
import SR.Proofs.CompleteRun
import SR.Drv.Chk
import SR.Props.C01
import SR.Props.C11
import SR.Props.C13
/-!
# The graph oracles are adequate

The oracles that judge the IMPLEMENTATION's outputs for C11 and C13 (`oracleC11`, `oracleC13` in `SR/Drv/Chk.lean`) run the
executable functions `reachList`, `distOf`, `canAvoidForever` and `isForest` of `SR/Checker/Spec.lean`.  Here they are related
to the declarative notions the property theorems use, on every well-formed graph (`Graph.WF`: initial states and edge
targets are state numbers `< g.n`; nothing else is assumed — duplicated or out-of-boundary initial states, ignored actions,
short `adj`/`bnd` tables are all allowed), with counterexamples where a stronger statement would fail.
-/
namespace SR.COracle
open SR SR.Checker

variable (g : Graph)

/-- `g.n` closure rounds reach a fixpoint: the hypothesis `hfix` of `reachList_iff` holds, and the test the driver performs
    before every oracle call (`oracle-closure-not-stabilised`) succeeds. -/
theorem C13_oracle_reach_stabilises (hwf : g.WF) :
    (∀ x, x ∈ g.closeStep g.reachList → x ∈ g.reachList) ∧
    (g.closeStep g.reachList).all g.reachList.contains = true := by
  -- the second conjunct is the first as the driver computes it
  simp only [List.all_eq_true, List.contains_eq_mem, decide_eq_true_eq, and_self]
  intro x hx
  rcases (Graph.mem_closeStep g _ x).1 hx with h | ⟨s, hs, hxs⟩
  · exact h
  · exact (Graph.reachList_iff_wf g hwf x).2 (.step ((Graph.reachList_iff_wf g hwf s).1 hs) hxs)

theorem C13_oracle_reach (hwf : g.WF) : (∀ x, x ∈ g.reachList ↔ g.toSys.Reach x) ∧ g.reachList.Nodup :=
  ⟨Graph.reachList_iff_wf g hwf, Graph.nodup_reachList g⟩

theorem C13_oracle_dist (hwf : g.WF) (s d : Nat) :
    g.distOf s = some d ↔
      (∃ p, g.toSys.IsPath p ∧ p.getLast? = some s ∧ p.length = d + 1) ∧
      ∀ q, g.toSys.IsPath q → q.getLast? = some s → d + 1 ≤ q.length := by
  rw [Graph.distOf_some_iff_firstAt g hwf, Sys.firstAt_iff_path]

theorem C13_oracle_dist_none (hwf : g.WF) (s : Nat) : g.distOf s = none ↔ ¬ g.toSys.Reach s := by
  simp only [Option.eq_none_iff_forall_ne_some, ne_eq, Graph.distOf_some_iff_firstAt g hwf]
  exact ⟨fun h hr => (Sys.exists_firstAt hr).elim h, fun h d hd => h hd.reach⟩

/-- the test `bfs-visit-path-not-shortest` of `oracleC13` is the conclusion of `C13_order` -/
theorem C13_oracle_visit_test (hwf : g.WF) (p : List Nat) (hp : g.toSys.IsPath p) :
    (g.distOf (Drv.Chk.lastOf p) == some (p.length - 1)) = true ↔
      ∀ q, g.toSys.IsPath q → q.getLast? = p.getLast? → p.length ≤ q.length := by
  have hne := Sys.isPath_ne_nil hp
  have hl := CCompleteRun.getLast?_lastOf hne
  -- of the two conjuncts of `C13_oracle_dist`, the first holds: `p` itself is a path of that length
  rw [beq_iff_eq, C13_oracle_dist g hwf, hl, Nat.sub_add_cancel (List.length_pos_iff.2 hne)]
  exact and_iff_right ⟨p, hp, hl, rfl⟩

section
variable {κ : Type} (P : Params Nat κ Nat)

/-- `canAvoidForever` is exact for the maximal paths of the simulation checker (terminal, or closing a cycle).  `P.key` is any
    injective state identity (the driver uses `id`). -/
theorem C11_oracle_can_avoid (hwf : g.WF) (hM : P.M = g.toSys) (hkey : ∀ a b, P.key a = P.key b → a = b)
    (pr : Prop' Nat) :
    g.canAvoidForever pr.cond = true ↔ ∃ p, C11.MaxPathAvoidingSim P pr p := by
  rw [Graph.canAvoidForever_iff g hwf]
  unfold C11.MaxPathAvoidingSim Sim.CyclesBack
  rw [hM]
  constructor
  · rintro ⟨p, s, hp, hav, h⟩
    exact ⟨p, hp.isPath.1, hav, h.imp (fun h => ⟨s, hp.isPath.2, h⟩) fun h => ⟨s, hp.isPath.2, s, h, rfl⟩⟩
  · rintro ⟨p, hp, hav, ⟨s, hs, h⟩ | ⟨s, hs, t, ht, hk⟩⟩
    · exact ⟨p, s, Sys.pathTo_iff.2 ⟨hp, hs⟩, hav, Or.inl h⟩
    · exact ⟨p, s, Sys.pathTo_iff.2 ⟨hp, hs⟩, hav, Or.inr (hkey t s hk ▸ ht)⟩

/-- for the terminal-only predicate of the exhaustive checkers `canAvoidForever` is complete, and no more
    (`C11_oracle_can_avoid_not_terminal_exact`) -/
theorem C11_oracle_can_avoid_terminal_complete (hwf : g.WF) (hM : P.M = g.toSys) (pr : Prop' Nat)
    (h : ∃ p, C11.MaxPathAvoiding P pr p) : g.canAvoidForever pr.cond = true := by
  obtain ⟨p, hp, hav, s, hs, hterm⟩ := h
  rw [hM] at hp hterm
  exact (Graph.canAvoidForever_iff g hwf _).2 ⟨p, s, Sys.pathTo_iff.2 ⟨hp, hs⟩, hav, Or.inl hterm⟩

/-- exact for the terminal-only predicate on forests — the only situation in which `oracleC11` concludes something
    from `canAvoidForever = true` (`eventually-missed-on-forest`, guarded by `isForest`). -/
theorem C11_oracle_can_avoid_on_forest (hwf : g.WF) (hM : P.M = g.toSys) (hF : Forest P.M) (pr : Prop' Nat) :
    g.canAvoidForever pr.cond = true ↔ ∃ p, C11.MaxPathAvoiding P pr p := by
  refine ⟨fun h => ?_, C11_oracle_can_avoid_terminal_complete g P hwf hM pr⟩
  obtain ⟨p, s, hp, hav, hterm | hcyc⟩ := (Graph.canAvoidForever_iff g hwf _).1 h
  · exact ⟨p, hM ▸ hp.isPath.1, hav, s, hp.isPath.2, hM ▸ hterm⟩
  · exact absurd hcyc (forest_no_cycle (hM ▸ hF) hp)

end

def loopGraph : Graph := { n := 1, init := [0], adj := [[some 0]], bnd := [true] }
def loopParams : Params Nat Nat Nat :=
  { M := loopGraph.toSys, props := [{ exp := .eventually, cond := fun _ => false }], key := id, cfg := {},
    finishMatches := fun _ => false }

/-- FULL statement that does NOT hold: `g.canAvoidForever pr.cond = true ↔ ∃ p, C11.MaxPathAvoiding P pr p` on every
    well-formed graph.  Counterexample: one state with a self-loop, condition never true.  `canAvoidForever` answers `true`
    (the lasso `[0, 0]`), but no path ends in a terminal state.  For the exhaustive checkers the line
    `eventually-false-alarm` of `oracleC11` is therefore weaker than "no `MaxPathAvoiding` exists" on graphs with cycles; the
    reported witness itself is still checked exactly by `oracleC03` (`eventually-discovery-path-extensible-inside-boundary`). -/
theorem C11_oracle_can_avoid_not_terminal_exact :
    loopGraph.WF ∧ loopGraph.canAvoidForever (fun _ => false) = true ∧
    ¬ ∃ p, C11.MaxPathAvoiding loopParams { exp := .eventually, cond := fun _ => false } p := by
  refine ⟨by decide, by decide, ?_⟩
  rintro ⟨p, hp, _, s, hs, hterm⟩
  have hr : loopGraph.toSys.Reach s := Sys.reach_last_of_isPath hp hs
  have hlt : s < 1 := Graph.reach_lt (g := loopGraph) (by decide) hr
  have h0 : s = 0 := by omega
  subst h0
  revert hterm
  decide

theorem C11_oracle_forest (hwf : g.WF) : g.isForest = true ↔ g.toSys.initB.Nodup ∧ Forest g.toSys := by
  rw [Graph.isForest_iff_predOK g hwf, forest_iff_predOK]
  exact Iff.rfl

/-- the direction `oracleC11` relies on: `Forest` is the hypothesis of `C11_forest_exact` -/
theorem C11_oracle_forest_sound (hwf : g.WF) (h : g.isForest = true) : Forest g.toSys :=
  ((C11_oracle_forest g hwf).1 h).2

theorem C11_oracle_forest_of_nodup_init (hwf : g.WF) (hnd : g.toSys.initB.Nodup) :
    g.isForest = true ↔ Forest g.toSys := by
  rw [C11_oracle_forest g hwf]
  exact ⟨fun h => h.2, fun h => ⟨hnd, h⟩⟩

def dupInitGraph : Graph := { n := 1, init := [0, 0], adj := [[]], bnd := [true] }

/-- FULL statement that does NOT hold: `g.isForest = true ↔ Forest g.toSys` on every well-formed graph.  Counterexample:
    one terminal state listed twice as initial state.  The only path is `[0]`, so `Forest` holds, but `isForest` answers
    `false`.  (Harmless for verdicts: the oracle merely skips `eventually-missed-on-forest` there.) -/
theorem C11_oracle_forest_not_complete :
    dupInitGraph.WF ∧ dupInitGraph.isForest = false ∧ Forest dupInitGraph.toSys := by
  refine ⟨by decide, by decide, forest_iff_predOK.2 ?_⟩
  -- the only reachable state has no in-boundary successor, so both predecessor conditions hold for lack of edges
  have hno : ∀ s t, dupInitGraph.toSys.Reach s → t ∉ dupInitGraph.toSys.succB s := by
    intro s t hs ht
    have hlt : s < 1 := Graph.reach_lt (g := dupInitGraph) (by decide) hs
    have h0 : dupInitGraph.toSys.succB 0 = [] := by decide
    rw [Nat.lt_one_iff.1 hlt, h0] at ht
    cases ht
  exact ⟨fun s t hs ht => absurd ht (hno s t hs), fun s _ t hs _ ht => absurd ht (hno s t hs)⟩

/-- what `oracleC11` computes as `ex` for property `pr` of case `c` -/
theorem C11_oracle_driver_ex (c : Drv.Chk.Case) (hwf : c.g.WF) (pr : GProp) :
    c.g.canAvoidForever (fun s => pr.tbl.getD s false) = true ↔ ∃ p, C11.MaxPathAvoidingSim c.params pr.toProp p :=
  C11_oracle_can_avoid c.g c.params hwf rfl (fun _ _ h => h) pr.toProp

/-- the guard of `eventually-missed-on-forest`: `isForest && ex` implies the right-hand side of `C11_forest_exact` -/
theorem C11_oracle_driver_missed (c : Drv.Chk.Case) (hwf : c.g.WF) (pr : GProp)
    (hf : c.g.isForest = true) (hex : c.g.canAvoidForever (fun s => pr.tbl.getD s false) = true) :
    Forest c.params.M ∧ ∃ p, C11.MaxPathAvoiding c.params pr.toProp p := by
  have hF : Forest c.params.M := C11_oracle_forest_sound c.g hwf hf
  exact ⟨hF, (C11_oracle_can_avoid_on_forest c.g c.params hwf rfl hF pr.toProp).1 hex⟩

/-- the guard of `eventually-false-alarm`: `!ex` implies that no maximal avoiding path exists, of either kind -/
theorem C11_oracle_driver_false_alarm (c : Drv.Chk.Case) (hwf : c.g.WF) (pr : GProp)
    (hex : c.g.canAvoidForever (fun s => pr.tbl.getD s false) = false) :
    (¬ ∃ p, C11.MaxPathAvoidingSim c.params pr.toProp p) ∧ ¬ ∃ p, C11.MaxPathAvoiding c.params pr.toProp p := by
  constructor
  · intro h
    exact Bool.false_ne_true (hex.symm.trans ((C11_oracle_driver_ex c hwf pr).2 h))
  · intro h
    exact Bool.false_ne_true (hex.symm.trans (C11_oracle_can_avoid_terminal_complete c.g c.params hwf rfl pr.toProp h))

/-! Non-vacuity on the 5-state example graph of `Props/C01.lean` (self-loop, join, cycle, ignored action, two initial states, a
boundary): each oracle function takes both kinds of values on it. -/

example : C01.exGraph.WF := by decide
example : C01.exGraph.reachList = [0, 3, 1, 2] ∧
    (C01.exGraph.closeStep C01.exGraph.reachList).all C01.exGraph.reachList.contains = true := by decide
example : C01.exGraph.distOf 0 = some 0 ∧ C01.exGraph.distOf 3 = some 0 ∧ C01.exGraph.distOf 1 = some 1 ∧
    C01.exGraph.distOf 2 = some 1 ∧ C01.exGraph.distOf 4 = none := by decide
example : C01.exGraph.canAvoidForever (fun s => s == 1) = true ∧
    C01.exGraph.canAvoidForever (fun s => s == 0 || s == 3) = false ∧
    C01.exGraph.canAvoidForever (fun s => s == 3 || s == 2) = false ∧
    C01.exGraph.canAvoidForever (fun s => s == 3) = true := by decide
example : C01.exGraph.isForest = false := by decide
/-- a forest with two roots, a terminal leaf and an out-of-boundary target -/
def forestGraph : Graph :=
  { n := 5, init := [0, 3], adj := [[some 1, some 2, some 1], [], [some 4, none]], bnd := [true, true, true, true, false] }
example : forestGraph.WF ∧ forestGraph.isForest = true ∧ forestGraph.canAvoidForever (fun s => s == 1) = true ∧
    forestGraph.canAvoidForever (fun s => s == 0 || s == 3) = false ∧ forestGraph.distOf 2 = some 1 := by decide
example : C13.exGraph.WF ∧ C13.exGraph.isForest = false ∧ C13.exGraph.distOf 4 = some 2 := by decide

/-! ### Why `Graph.WF` matters: on an ill-formed graph (a state number `≥ g.n`) the fixpoint condition can hold while
`canAvoidForever` is wrong: here `[0]` is a terminal path avoiding the condition, yet the answer is `false`.  (The commands
`chk` and `o-chk` of `Drv/Chk.lean` therefore test `g.WF` first and answer `ill-formed-graph`; the harness only generates
graphs whose states are `0 … n-1`.) -/
def illGraph : Graph := { n := 0, init := [0], adj := [[]], bnd := [true] }
example : ¬ illGraph.WF ∧ (illGraph.closeStep illGraph.reachList).all illGraph.reachList.contains = true ∧
    illGraph.isPathB [0] = true ∧ illGraph.succB 0 = [] ∧ illGraph.canAvoidForever (fun _ => false) = false := by decide

end SR.COracle

namespace SR.CCompleteRun
open SR SR.Checker SR.Drv.Chk

theorem C01_case_props_getElem? (c : Case) (i : Nat) (pr : GProp) (hpr : c.props[i]? = some pr) :
    c.params.props[i]? = some pr.toProp := by
  simp [Case.params, hpr]

def c13Wit (pr : GProp) : Nat → Bool :=
  fun s => if pr.exp == .always then !pr.tbl.getD s false else pr.tbl.getD s false

def c13Best (g : Graph) (pr : GProp) (p : List Nat) : Nat :=
  ((g.reachList.filter (c13Wit pr)).filterMap g.distOf).foldl (fun m d => min m d) p.length

/-- `c13Wit` / `c13Best` are literally the expressions of the discovery lines of `oracleC13` -/
theorem C13_oracle_best_handle (c : Case) (o : Obs) :
    ∃ pre : List String, oracleC13 c "bfs" o = pre ++
      o.disc.flatMap fun (i, p) =>
        match c.props[i]? with
        | none => []
        | some pr =>
          if pr.exp == .eventually then [] else
          if p.length - 1 ≤ c13Best c.g pr p then [] else [s!"bfs-discovery-not-shortest-p{i}"] :=
  ⟨_, rfl⟩

/-- the fold `best` returns the minimum of its start value and the list -/
theorem C13_oracle_best (l : List Nat) (a : Nat) :
    (l.foldl (fun m d => min m d) a ≤ a) ∧ (∀ d ∈ l, l.foldl (fun m d => min m d) a ≤ d) ∧
    (l.foldl (fun m d => min m d) a = a ∨ l.foldl (fun m d => min m d) a ∈ l) ∧
    (a :: l).min? = some (l.foldl (fun m d => min m d) a) ∧
    (l.min? = none ↔ l = []) ∧ (l = [] → l.foldl (fun m d => min m d) a = a) ∧
    (∀ m, l.min? = some m → (m ∈ l ∧ ∀ d ∈ l, m ≤ d) ∧ l.foldl (fun m d => min m d) a = min a m) := by
  have hs := List.min?_eq_some_iff.1 (foldl_min_eq_min? l a)
  refine ⟨hs.2 a List.mem_cons_self, fun d hd => hs.2 d (List.mem_cons_of_mem _ hd), List.mem_cons.1 hs.1, rfl,
    List.min?_eq_none_iff, fun h => h ▸ rfl, fun m hm => ⟨List.min?_eq_some_iff.1 hm, ?_⟩⟩
  -- both sides are the minimum of `a :: l`
  have h4 : (a :: l).min? = some (min a m) := by
    rw [List.min?_cons, hm]
    rfl
  exact Option.some.inj ((foldl_min_eq_min? l a).symm.trans h4)

example : ([5, 2, 9] : List Nat).foldl (fun m d => min m d) 4 = 2 ∧ ([5, 9] : List Nat).foldl (fun m d => min m d) 4 = 4 ∧
    ([] : List Nat).foldl (fun m d => min m d) 4 = 4 := by decide

theorem C13_oracle_wit_iff (pr : GProp) (hexp : pr.exp ≠ .eventually) (t : Nat) : c13Wit pr t = true ↔ Wit pr.toProp t := by
  unfold c13Wit Wit GProp.toProp
  cases h : pr.exp with
  | eventually => exact absurd h hexp
  | always => simp
  | sometimes => simp

/-- the discovery test of `oracleC13` (`p.length - 1 ≤ best`) is the conclusion of `C13_shortest` -/
theorem C13_oracle_best_test (g : Graph) (hwf : g.WF) (pr : GProp) (hexp : pr.exp ≠ .eventually) (p : List Nat) :
    p.length - 1 ≤ c13Best g pr p ↔
      ∀ q t, g.toSys.IsPath q → q.getLast? = some t → Wit pr.toProp t → p.length ≤ q.length := by
  unfold c13Best
  rw [List.le_min?_iff (foldl_min_eq_min? _ _), List.forall_mem_cons]
  -- the list folded over holds the distances of the reachable witnessing states
  simp only [Nat.sub_le, true_and, List.mem_filterMap, List.mem_filter, (COracle.C13_oracle_reach g hwf).1,
    C13_oracle_wit_iff pr hexp, forall_exists_index, and_imp]
  constructor
  · intro h q t hq hl hw
    have hr := Sys.reach_last_of_isPath hq hl
    cases hd : g.distOf t with
    | none => exact absurd hr ((COracle.C13_oracle_dist_none g hwf t).1 hd)
    | some d =>
      have h1 := h d t hr hw hd
      have h2 := ((COracle.C13_oracle_dist g hwf t d).1 hd).2 q hq hl
      omega
  · intro h d t _ hw hd
    obtain ⟨⟨q, hq, hl, hlen⟩, _⟩ := (COracle.C13_oracle_dist g hwf t d).1 hd
    have := h q t hq hl hw
    omega

/-- every discovery of a FIFO single-worker run of the model (the BFS scheduler is one) passes the `best` test of `oracleC13` -/
theorem C13_oracle_best_run (c : Case) (hwf : c.g.WF) (hnd : c.cfg.maxDepth = none) (cs : List Choice)
    (hf : FifoRun c.params (init c.params.M c.params.props c.params.key) cs) :
    ∀ e ∈ (run c.params cs).disc, ∀ pr, c.props[e.1]? = some pr → pr.exp ≠ .eventually →
      e.2.length - 1 ≤ c13Best c.g pr e.2 := by
  intro e he pr hpr hexp
  rw [C13_oracle_best_test c.g hwf pr hexp]
  intro q t hq hl hw
  exact C13.C13_shortest c.params hnd (fun _ _ _ _ h => h) cs hf e he pr.toProp (C01_case_props_getElem? c e.1 pr hpr) hexp q t hq hl hw

/-! Non-vacuity on `C13.exGraph`, a join reached by a long and a short path: the witness state 4 is at distance 2, a 3-state
discovery path passes the test, a 4-state one fails it. -/
def exCase13 : Case :=
  { g := C13.exGraph, props := [⟨.sometimes, [false, false, false, false, true]⟩], cfg := {}, finish := .all }

example : c13Best exCase13.g ⟨.sometimes, [false, false, false, false, true]⟩ [0, 3, 4] = 2 ∧
    decide ([0, 3, 4].length - 1 ≤ c13Best exCase13.g ⟨.sometimes, [false, false, false, false, true]⟩ [0, 3, 4]) = true ∧
    decide ([0, 1, 2, 4].length - 1 ≤ c13Best exCase13.g ⟨.sometimes, [false, false, false, false, true]⟩ [0, 1, 2, 4]) = false ∧
    decide exCase13.g.WF = true := by decide

/-- the hypotheses of `C13_oracle_best_run` hold for the BFS scheduler on it, whatever the fuel (here 300):
    `C13_scheduler_is_fifo` does not depend on it -/
example : exCase13.cfg.maxDepth = none ∧
    FifoRun exCase13.params (init exCase13.params.M exCase13.params.props exCase13.params.key)
      (schedule exCase13.params .bfs 300 (init exCase13.params.M exCase13.params.props exCase13.params.key) blockSize) :=
  ⟨rfl, C13.C13_scheduler_is_fifo _ _ _ _⟩

end SR.CCompleteRun
