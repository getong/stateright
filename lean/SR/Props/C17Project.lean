import SR.Proofs.RuntimeProject
import SR.Props.C17Refine
/-!
# C17 (projection) — each thread of the system-level runtime IS a run of the single-thread loop machine

System level: `SR/Runtime/System.lean` (`rstep`, `rrun`; what `C17_refines_*` is about).
Loop machine: `SR/Runtime/Loop.lean` (`Loop.step`, `Loop.run`, `Loop.accepts`; what real `spawn()` logs are replayed
against).  The projection `proj`, the configurations `pcfg` / `scfg` and the schedules of the converse are defined in
`SR/Proofs/RuntimeProject.lean`, whose header lists the choices made (codec, ids, range of `SetTimer`).

The system's `fire` guard is `deadline < now`, as the loop machine's and the code's (at `deadline = now` the code takes
the receive branch with a zero read timeout and the thread dies), so EVERY system run projects: no side condition.
-/
namespace SR.C17
open SR SR.Actor SR.RtSys SR.IdCodec

variable {σ η : Type} [DecidableEq σ]

/-- **Every thread of a system run is a run of the loop machine** (`pcfg i`: the acceptance machine, `strict = false`, with the
real picks), ending between two handlers in thread `i`'s actor state.  The interrupt table of the loop state is a lower bound
of thread `i`'s table (same keys armed, deadlines `≤`), and it IS thread `i`'s table when no handler emits `ChooseRandom`
(the hypothesis of `C17_refines_*`; with `ChooseRandom` the acceptance machine arms every candidate at once, see
`C17_project_choose_lower_bound`). -/
theorem C17_project_thread (sys : ActorSys σ η) (i : Nat) {ls : List Lbl} {rs : RSt σ η}
    (h : rrun sys (rinit sys) ls = some rs) :
    ∃ a, Loop.run (pcfg i) Loop.init (proj sys i ls) = some a ∧
      a.st = rs.st i ∧ a.queue = [] ∧ a.dead = false ∧ a.now ≤ rs.now ∧
      Loop.IntsLe (rs.ints i) a.ints ∧ (NoRandom sys → a.ints = rs.ints i) := by
  obtain ⟨a, hr, hm⟩ := sim_run sys i false (NoRandom sys) nofun ls _ rs _ (match_init _ sys i)
    (fun hn => Or.inr ⟨hn, inv_rinit sys⟩) h nofun
  exact ⟨a, hr, hm.st, hm.queue, hm.alive, hm.now, hm.le, hm.eq⟩

/-- **On runs that schedule thread `i` as the code does, the projection is a run of the STRICT loop machine**
(`scfg i`: `strict = true`, same codec) — `StrictSched`; the system itself allows any overdue entry and deliveries at any
time: deliberate over-approximations.  The strict machine executes `ChooseRandom` as the system does (one value, deadline
`now + delay`), so here the interrupt table of the loop state IS thread `i`'s table for ALL handler tables. -/
theorem C17_project_thread_strict (sys : ActorSys σ η) (i : Nat) {ls : List Lbl} {rs : RSt σ η}
    (h : rrun sys (rinit sys) ls = some rs) (hs : StrictSched sys i (rinit sys) ls = true) :
    ∃ a, Loop.run (scfg i) Loop.init (proj sys i ls) = some a ∧
      a.st = rs.st i ∧ a.ints = rs.ints i ∧ a.queue = [] ∧ a.dead = false ∧ a.now ≤ rs.now := by
  obtain ⟨a, hr, hm⟩ := sim_run sys i true True (fun _ => trivial) ls _ rs _
    (match_init _ sys i) (fun _ => Or.inl rfl) h (fun _ => hs)
  exact ⟨a, hr, hm.st, hm.eq trivial, hm.queue, hm.alive, hm.now⟩

/-- **The log of every thread is ACCEPTED** by the acceptance predicate real logs are validated with
(`Loop.accepts`: the handler events, each followed by one `exec` per command at the handler's time stamp with pick
0, are enabled steps of the non-strict machine), for all handler tables incl. `ChooseRandom`. -/
theorem C17_project_accepts (sys : ActorSys σ η) (i : Nat) {ls : List Lbl} {rs : RSt σ η}
    (h : rrun sys (rinit sys) ls = some rs) :
    Loop.accepts (pcfg i) (projLog sys i ls) = true ∧
    ∃ a, Loop.run (Loop.relax (pcfg i)) Loop.init (Loop.expand (projLog sys i ls)) = some a ∧
      a.st = rs.st i ∧ a.queue = [] ∧ Loop.IntsLe (rs.ints i) a.ints := by
  -- the projection is a run with the real picks, and the acceptance predicate accepts the log of every run
  obtain ⟨a0, hr0, hst, hq, _, _, hle, _⟩ := C17_project_thread sys i h
  obtain ⟨hacc, a, hr, hrel⟩ := Loop.accept_sound hr0 hq
  exact ⟨hacc, a, hr, hrel.st.trans hst, hrel.queue.trans hq, hle.trans hrel.ints⟩

/-- **Converse, one step of one thread.**  If the loop state `a` is thread `i` of `rs` and the loop machine runs the events of
a `ChooseRandom`-free label `l` of thread `i`, then — under the system-level side conditions: `i` is a thread, the picks stay
below the horizon, a delivered datagram is in flight — `l` is an enabled system step and the loop state reached is thread `i`
of the system state reached.  In particular a loop `fire` (`deadline < t`) is a system `fire` (the same guard). -/
theorem C17_project_compose_step (sys : ActorSys σ η) (i : Nat) {rs : RSt σ η} {a a' : LSt σ} {l : Lbl}
    {hv : LEv σ} {cmds : List Cmd} {picks : List Nat}
    (hst : a.st = rs.st i) (hints : a.ints = rs.ints i) (hq : a.queue = []) (hd : a.dead = false)
    (hnow : a.now ≤ rs.now)
    (hh : hdl sys i rs l = some (hv, cmds, picks))
    (hrun : Loop.run (pcfg i) a (projStep sys i true rs l) = some a')
    (hi : i < sys.n) (hp : picksOk rs.now picks = true)
    (hfl : ∀ e keep pks, l = .deliver e keep pks → e ∈ rs.flight) (hnc : ∀ c ∈ cmds, isChoose c = false) :
    ∃ rs', rstep sys rs l = some rs' ∧
      a'.st = rs'.st i ∧ a'.ints = rs'.ints i ∧ a'.queue = [] ∧ a'.dead = false ∧ a'.now ≤ rs'.now := by
  have hm : Match True i rs a := ⟨hd, hq, hnow, hst, hints ▸ Loop.IntsLe.refl _, fun _ => hints⟩
  obtain ⟨rs', h1, hm', _⟩ := compose_step sys i hm hh hrun hi hp hfl hnc
  exact ⟨rs', h1, hm'.st, hm'.eq trivial, hm'.queue, hm'.alive, hm'.now⟩

/-- **Converse for whole runs, GIVEN A SCHEDULE (partial).**  Let `gs` be a schedule (`Sched sys 0 [] gs`): the handler
invocations of all threads interleaved along a common clock, the actors conforming to the handler tables, no `ChooseRandom`,
and EVERY RECEIVED DATAGRAM WAS SENT by an earlier invocation.  If the event list of every thread (`evsOf i gs`) is a run of
its loop machine, then `lblsOf gs` is a run of the system, it ends in the loop states' actor states and interrupt tables, and
its projection onto every thread is that thread's event list again.

Missing for a converse without these hypotheses: (1) the schedule is a hypothesis — it is not constructed from the
threads' own time stamps (merging by a common clock so that each receive comes after its send); (2) the loop runs
are runs with the REAL picks whose `exec`s happen at the handler's clock reading (the system executes all commands
of a handler at one reading; the loop lets the clock advance in between, which `SetTimer` picks absorb but
`CancelTimer` / `ChooseRandom` deadlines do not) — from `Loop.accepts` alone (pick 0 = lower bounds of the
deadlines) no system run can be built: the acceptance machine accepts fires before the real deadline;
(3) no `ChooseRandom`. -/
theorem C17_project_compose_partial (sys : ActorSys σ η) (gs : List (Blk σ)) (A : Nat → LSt σ)
    (hs : Sched sys 0 [] gs)
    (hrun : ∀ i, i < sys.n → Loop.run (pcfg i) Loop.init (evsOf i gs) = some (A i)) :
    ∃ rs, rrun sys (rinit sys) (lblsOf gs) = some rs ∧
      ∀ i, i < sys.n → rs.st i = (A i).st ∧ rs.ints i = (A i).ints ∧ proj sys i (lblsOf gs) = evsOf i gs := by
  obtain ⟨rs, h1, h2⟩ := compose_run sys A gs (rinit sys) [] (fun _ h => by cases h) hs
    (fun i hi => ⟨Loop.init, match_init True sys i, hrun i hi⟩)
  exact ⟨rs, h1, fun i hi => ⟨((h2 i hi).1.st).symm, ((h2 i hi).1.eq trivial).symm, (h2 i hi).2⟩⟩

/-- the pinger arms its timer with duration 0 and fires it at the same clock reading -/
def ppZeno : List Lbl := [.start 0 [0, 0], .fire 0 (.timeout 7) [0, 0]]

/-- **Remark: `fire` at `deadline = now` is a step of NEITHER machine** (the system's guard is
`deadline < now`: with `deadline ≤ now` it would allow Zeno runs the loop machine rejects; in the code `deadline = now`
is the `zeroWait` panic).  The system rejects the run, the loop machine rejects its projection; with a clock tick before
each fire both accept. -/
theorem C17_project_fire_at_deadline :
    (rrun pingPong (rinit pingPong) ppZeno).isSome = false ∧
    (Loop.run (pcfg 0) Loop.init (proj pingPong 0 ppZeno)).isSome = false ∧
    (rrun pingPong (rinit pingPong)
      [.start 0 [0, 0], .tick 1, .fire 0 (.timeout 7) [0, 0], .tick 2, .fire 0 (.timeout 7) [0, 0]]).isSome = true ∧
    (Loop.run (pcfg 0) Loop.init (proj pingPong 0
      [.start 0 [0, 0], .tick 1, .fire 0 (.timeout 7) [0, 0], .tick 2, .fire 0 (.timeout 7) [0, 0]])).isSome = true := by
  decide

/-- one actor whose `on_start` emits `ChooseRandom(_, [5, 6])` -/
def rndTwoVals := rndSys [.chooseRandom 0 [5, 6]]

/-- **`ChooseRandom`**: the system (as the code, and as the STRICT loop machine) arms the ONE chosen value at
`now + delay`; the acceptance machine arms every candidate at the lower bound `now`.  The projection is still a run
and the loop's table is a lower bound (`C17_project_thread`), but it is not thread `i`'s table, and the acceptance
machine then accepts `on_random(5)`, which the system state cannot do. -/
theorem C17_project_choose_lower_bound :
    (rrun rndTwoVals (rinit rndTwoVals) [.start 0 [3]]).map (fun rs => rs.ints 0) = some [(.random 6, 1)] ∧
    (Loop.run (pcfg 0) Loop.init (proj rndTwoVals 0 [.start 0 [3]])).map (·.ints)
      = some [(.random 5, 0), (.random 6, 0)] ∧
    (rrun rndTwoVals (rinit rndTwoVals) [.start 0 [3], .tick 9, .fire 0 (.random 5) []]).isSome = false ∧
    (Loop.run (pcfg 0) Loop.init (proj rndTwoVals 0 [.start 0 [3]] ++ [.fire 9 (.random 5) 0 5 []])).isSome = true := by
  decide

/-! ## non-vacuity: the ping-pong run of `Props/C17Refine.lean`, projected onto both threads -/

example : proj pingPong 0 ppRun =
    [ .start 0 0 [.send 1 0, .set 7 0 never], .exec 0 0, .exec 0 100,
      .fire 150 (.timeout 7) 0 0 [.send 1 0, .set 7 0 never], .exec 150 0, .exec 150 100,
      .msg 150 (addrOf 1) [0] 0 1 [.send 1 1, .cancel 7, .set 7 0 never], .exec 150 0, .exec 150 0, .exec 150 200,
      .fire 400 (.timeout 7) 1 1 [.send 1 1, .set 7 0 never], .exec 400 0, .exec 400 50 ] := by rfl
example : proj pingPong 1 ppRun =
    [ .start 0 0 [], .msg 150 (addrOf 0) [0] 0 1 [.send 0 0], .exec 150 0, .msg 150 (addrOf 0) [0] 1 1 [] ] := by rfl
-- the hypotheses hold
example : (rrun pingPong (rinit pingPong) ppRun).isSome = true := by decide
-- both projections are runs of the loop machine and end in the threads' states and interrupt tables
example : (Loop.run (pcfg 0) Loop.init (proj pingPong 0 ppRun)).map (fun a => (a.st, a.ints, a.queue.length, a.dead))
    = (rrun pingPong (rinit pingPong) ppRun).map (fun rs => (rs.st 0, rs.ints 0, 0, false)) := by decide
example : (Loop.run (pcfg 1) Loop.init (proj pingPong 1 ppRun)).map (fun a => (a.st, a.ints, a.queue.length, a.dead))
    = (rrun pingPong (rinit pingPong) ppRun).map (fun rs => (rs.st 1, rs.ints 1, 0, false)) := by decide
example : (Loop.run (pcfg 0) Loop.init (proj pingPong 0 ppRun)).map (fun a => (a.st, a.ints, a.now))
    = some (some 1, [(.timeout 7, 450)], 400) := by decide
-- the datagrams thread 0 sent / the `on_msg` calls of thread 1 (sender ids through the address codec)
example : (Loop.run (pcfg 0) Loop.init (proj pingPong 0 ppRun)).map (·.sent)
    = some [(addrOf 1, [0]), (addrOf 1, [0]), (addrOf 1, [1]), (addrOf 1, [1])] := by decide
example : (Loop.run (pcfg 1) Loop.init (proj pingPong 1 ppRun)).map (fun a => Loop.msgCalls a.calls)
    = some [(0, 0), (0, 0)] := by decide
-- the run schedules both threads as the code does: the projections are runs of the STRICT machine as well
example : StrictSched pingPong 0 (rinit pingPong) ppRun = true ∧ StrictSched pingPong 1 (rinit pingPong) ppRun = true := by
  decide
example : (Loop.run (scfg 0) Loop.init (proj pingPong 0 ppRun)).map (fun a => (a.st, a.ints))
    = (rrun pingPong (rinit pingPong) ppRun).map (fun rs => (rs.st 0, rs.ints 0)) := by decide
-- ... and with `ChooseRandom` the strict machine has the system's table (the acceptance machine has lower bounds)
example : StrictSched rndTwoVals 0 (rinit rndTwoVals) [.start 0 [3], .tick 9, .fire 0 (.random 6) []] = true ∧
    (Loop.run (scfg 0) Loop.init (proj rndTwoVals 0 [.start 0 [3]])).map (·.ints) = some [(.random 6, 1)] ∧
    (Loop.run (scfg 0) Loop.init (proj rndTwoVals 0 [.start 0 [3], .tick 9, .fire 0 (.random 6) []])).map
      (fun a => (a.st, a.ints)) = some (some 6, []) := by decide
-- both logs are accepted by the acceptance predicate
example : Loop.accepts (pcfg 0) (projLog pingPong 0 ppRun) = true := by decide
example : Loop.accepts (pcfg 1) (projLog pingPong 1 ppRun) = true := by decide
-- a fire before the deadline is no step of either machine
example : (rrun pingPong (rinit pingPong) [.start 0 [0, 100], .tick 99, .fire 0 (.timeout 7) []]).isSome = false ∧
    (Loop.run (pcfg 0) Loop.init (proj pingPong 0 [.start 0 [0, 100], .tick 99, .fire 0 (.timeout 7) []])).isSome
      = false := by decide
-- the theorems apply to the run
example : ∃ a, Loop.run (pcfg 0) Loop.init (proj pingPong 0 ppRun) = some a ∧
    a.ints = ((rrun pingPong (rinit pingPong) ppRun).get (by decide)).ints 0 := by
  obtain ⟨a, h1, _, _, _, _, _, h7⟩ :=
    C17_project_thread pingPong 0 (rs := (rrun pingPong (rinit pingPong) ppRun).get (by decide))
      (Option.some_get _).symm
  exact ⟨a, h1, h7 C17_refines_ex_noRandom⟩

/-! ## non-vacuity of the converse: a schedule of the ping-pong system -/

/-- pinger starts, ponger starts, the ping arrives, the pong arrives (timer cancelled and re-armed), time-out -/
def ppSched : List (Blk Nat) :=
  [ ⟨0, .start 0 0 [.send 1 0, .set 7 0 never], [.send 1 0, .setTimer 7], [0, 100]⟩,
    ⟨1, .start 5 0 [], [], []⟩,
    ⟨1, .msg 20 (addrOf 0) [0] 0 1 [.send 0 0], [.send 0 0], []⟩,
    ⟨0, .msg 30 (addrOf 1) [0] 0 1 [.send 1 1, .cancel 7, .set 7 0 never], [.send 1 1, .cancelTimer 7, .setTimer 7],
      [0, 0, 200]⟩,
    ⟨0, .fire 300 (.timeout 7) 1 1 [.send 1 1, .set 7 0 never], [.send 1 1, .setTimer 7], [0, 50]⟩ ]

theorem C17_project_compose_ex_sched : Sched pingPong 0 [] ppSched := by
  have noChoose : ∀ {cmds : List Cmd}, cmds.all (fun c => !isChoose c) = true → NoChoose cmds :=
    fun h c hc => by simpa using List.all_eq_true.1 h c hc
  -- per invocation: time stamps and picks, the thread, `Conf`, no `ChooseRandom`, the received datagram was sent
  refine ⟨by decide, by decide, by decide, by decide, ⟨rfl, rfl, rfl⟩, noChoose rfl, fun e he => (by cases he), ?_⟩
  refine ⟨by decide, by decide, by decide, by decide, ⟨rfl, rfl, rfl⟩, noChoose rfl, fun e he => (by cases he), ?_⟩
  refine ⟨by decide, by decide, by decide, by decide, ⟨by decide, 0, some 1, rfl, rfl, rfl, rfl⟩, noChoose rfl,
    ?_, ?_⟩
  · intro e he
    simp only [Blk.recv, Option.some.injEq] at he
    subst he
    decide
  refine ⟨by decide, by decide, by decide, by decide, ⟨by decide, 0, some 1, rfl, rfl, rfl, rfl⟩, noChoose rfl,
    ?_, ?_⟩
  · intro e he
    simp only [Blk.recv, Option.some.injEq] at he
    subst he
    decide
  exact ⟨by decide, by decide, by decide, by decide, ⟨none, rfl, rfl, rfl⟩, noChoose rfl, fun e he => (by cases he),
    trivial⟩

example : ∀ i, i < 2 → (Loop.run (pcfg i) Loop.init (evsOf i ppSched)).isSome = true := by decide
example : lblsOf ppSched =
    [ .tick 0, .start 0 [0, 100], .tick 5, .start 1 [], .tick 20, .deliver ⟨0, 1, 0⟩ true [],
      .tick 30, .deliver ⟨1, 0, 0⟩ true [0, 0, 200], .tick 300, .fire 0 (.timeout 7) [0, 50] ] := by decide
example : (rrun pingPong (rinit pingPong) (lblsOf ppSched)).map (fun rs => (rs.st 0, rs.ints 0, rs.st 1, (rs.ints 1).length))
    = some (some 1, [(.timeout 7, 350)], some 1, 0) := by decide
-- the theorem applies
example : ∃ rs, rrun pingPong (rinit pingPong) (lblsOf ppSched) = some rs ∧
    proj pingPong 0 (lblsOf ppSched) = evsOf 0 ppSched ∧ proj pingPong 1 (lblsOf ppSched) = evsOf 1 ppSched := by
  obtain ⟨rs, h1, h2⟩ := C17_project_compose_partial pingPong ppSched
    (fun i => (Loop.run (pcfg i) Loop.init (evsOf i ppSched)).getD Loop.init) C17_project_compose_ex_sched
    (fun i hi => by
      have h : (Loop.run (pcfg i) Loop.init (evsOf i ppSched)).isSome = true := by
        revert i; decide
      obtain ⟨x, hx⟩ := Option.isSome_iff_exists.1 h
      simp [hx])
  exact ⟨rs, h1, (h2 0 (by decide)).2.2, (h2 1 (by decide)).2.2⟩

end SR.C17
