import SR.Props.C12
import SR.Proofs.Checker.Control
import SR.Proofs.Checker.Once
import SR.Proofs.Checker.BfsDepth
/-!
# C12 (checker-machine part) — run controls are honoured

Model `SR/Checker/Machine.lean`: `cfg.maxDepth` = `target_max_depth`, `cfg.target` = `target_state_count`,
`finishMatches` = `finish_when.matches(discovered names, properties)`, `cfg.timeout` = a timeout is configured.
A worker may leave its loop (`stop why`) only when `stopEnabled why` holds in the current state; pending work is
discarded only after that — or when every property has a discovery.
-/
namespace SR.C12M
open SR SR.Checker

variable {σ κ α : Type} [DecidableEq κ] (P : Params σ κ α)

/-- **depth**: no state deeper than `target_max_depth` is ever evaluated — every visited path has fewer than
    `d` states (depth counts states: an initial state has depth 1). All schedules, all strategies. -/
theorem C12_depth (cs : List Choice) (d : Nat) (hd : P.cfg.maxDepth = some d) :
    ∀ p ∈ (run P cs).visits, p.length < d := by
  refine run_cases (Inv := fun s => ∀ p ∈ s.visits, p.length < d) (fun _ hp => nomatch hp) (fun m hs h => ?_) cs
  cases m with
  | take hj hlt =>
    -- the only move that visits: the job's path has `depth` states (`SInv`), and the move has tested the depth
    intro p hp
    rcases List.mem_cons.1 hp with rfl | hp
    · rw [← (hs.fr _ (List.mem_of_getElem? hj)).depth]
      exact hlt d hd
    · exact h p hp
  | _ => exact h

/-- **early exit only for a reason**: a job is dropped unexpanded only if a depth limit is configured, or a
    worker has stopped, or every property has a discovery. -/
theorem C12_early_only_if (cs : List Choice) (he : (run P cs).early = true) :
    P.cfg.maxDepth.isSome = true ∨ (run P cs).stopped = true ∨ allDiscovered P (run P cs) = true :=
  earlyReason_run (P := P) cs he

/-- **a worker stops only when its stop condition holds at that moment**: the finish condition matches the
    discoveries made so far, or the target state count is reached, or a configured timeout fires, or model code
    panicked. -/
theorem C12_stop_only_if (cs : List Choice) (hs : (run P cs).stopped = true) :
    ∃ pre why post, cs = pre ++ Choice.stop why :: post ∧ stopEnabled P why (run P pre) = true :=
  stopped_only_if (P := P) _ rfl cs hs

/-- `.panic`, a panic in model code, may strike in any state: `stopEnabled P .panic s` is `true` by definition -/
theorem C12_stop_reasons (s : St σ κ) :
    (stopEnabled P .finish s = true ↔ P.finishMatches (discNames s.disc) = true) ∧
    (stopEnabled P .target s = true ↔ ∃ n, P.cfg.target = some n ∧ n ≤ s.stateCount) ∧
    (stopEnabled P .timeout s = true ↔ P.cfg.timeout = true) := by
  refine ⟨Iff.rfl, ?_, Iff.rfl⟩
  unfold stopEnabled
  cases h : P.cfg.target with
  | none => simp
  | some n => simp

/-- **target**: a run stopped by `target_state_count = n` has generated at least `n` states
    (`state_count` never decreases). -/
theorem C12_target (pre post : List Choice) (n : Nat) (hn : P.cfg.target = some n)
    (hen : stopEnabled P .target (run P pre) = true) :
    n ≤ (run P (pre ++ Choice.stop .target :: post)).stateCount := by
  have h1 : n ≤ (run P pre).stateCount := by
    obtain ⟨m, hm, hle⟩ := ((C12_stop_reasons P _).2.1).1 hen
    rw [hn] at hm
    cases hm
    exact hle
  rw [run_append]
  exact Nat.le_trans h1 (mono_runFrom (P := P) _ _).count

/-- **never fewer states than exist when nothing stopped the run**: if a run ends without `early`, every
    reachable state was generated (so a target larger than the state space changes nothing). -/
theorem C12_no_stop_all_generated (hinj : ∀ a b, P.M.Reach a → P.M.Reach b → P.key a = P.key b → a = b)
    (cs : List Choice) (hq : Quiescent (run P cs)) (he : (run P cs).early = false) :
    ∀ t, P.M.Reach t → P.key t ∈ (run P cs).gen := by
  intro t ht
  have hn := ninv_run (P := P) cs
  exact hn.inGen _ (List.mem_append_left _ (hn.actVis _ (List.mem_append_right _ (done_of_reach hinj cs hq he t ht))))

/-- **an unexpired timeout changes nothing**: a schedule in which the timeout never fires produces the same
    state with and without the timeout configured. -/
theorem C12_timeout_neutral (cs : List Choice) (hc : ∀ c ∈ cs, c ≠ Choice.stop .timeout) :
    run (noTimeout P) cs = run P cs := by
  unfold run
  exact runFrom_noTimeout (P := P) cs hc _

/-- **single-threaded BFS still evaluates every state nearer than the depth limit**: for every FIFO single-worker
    run (the BFS scheduler is one, `C13_scheduler_is_fifo`) with `target_max_depth = d` that completes without any
    other stop reason (no worker stopped, not everything discovered), every state that has an in-boundary path of
    fewer than `d` states from an initial state has been evaluated. -/
theorem C12_bfs_depth_complete (hinj : ∀ a b, P.M.Reach a → P.M.Reach b → P.key a = P.key b → a = b)
    (cs : List Choice) (hf : FifoRun P (init P.M P.props P.key) cs)
    (hq : Quiescent (run P cs)) (hstop : (run P cs).stopped = false) (hall : allDiscovered P (run P cs) = false)
    (d : Nat) (hd : P.cfg.maxDepth = some d) :
    ∀ q t, P.M.IsPath q → q.getLast? = some t → q.length < d → t ∈ visitedStates (run P cs) := by
  intro q t hq' hl hlt
  have := bfs_depth_complete (P := P) hinj cs hf hq ⟨hstop, hall⟩ d hd q t hq' hl hlt
  exact (ninv_run (P := P) cs).actVis _ (List.mem_append_right _ this)

/-! `hdProps`: what `HasDiscoveries::matches` reads of the property list when names are indices (the `.getD .always` is
never reached: `i` ranges below `props.length`).  `finishOf c` is the machine's `finishMatches` parameter for
`finish_when(c)`. -/

def hdProps (props : List (Prop' σ)) : List HasDisc.P :=
  (List.range props.length).map fun i => { name := i, exp := (props[i]?.map (·.exp)).getD .always }

def finishOf (c : HasDisc.Cond) (props : List (Prop' σ)) : List Nat → Bool :=
  fun d => HasDisc.matches c d (hdProps props)

/-- **a worker that stops for `finish_when(c)` does so at a moment when `c` matches the discoveries made so far** —
    and the discovered names form a set of property names, so the `C12_matches_*` theorems give `c` its declared
    meaning there. -/
theorem C12_finish_stop_matches (c : HasDisc.Cond) (hfm : P.finishMatches = finishOf c P.props)
    (pre : List Choice) (hstop : (run P pre).stopped = false)
    (hs : (run P (pre ++ [Choice.stop .finish])).stopped = true) :
    HasDisc.matches c (discNames (run P pre).disc) (hdProps P.props) = true ∧
    (discNames (run P pre).disc).Nodup ∧
    (∀ n ∈ discNames (run P pre).disc, n < P.props.length ∧ hasDisc (run P pre).disc n = true) := by
  refine ⟨?_, discNodup_run (P := P) pre, fun n hn => ⟨discNames_lt_run pre n hn, (mem_discNames_iff _ n).1 hn⟩⟩
  have hrun : run P (pre ++ [Choice.stop .finish]) = step P (.stop .finish) (run P pre) := by
    rw [run_append]
    rfl
  rw [hrun] at hs
  rcases step_stopped _ _ hs with h | ⟨_, e, hen⟩
  · rw [hstop] at h
    cases h
  · cases e
    have : P.finishMatches (discNames (run P pre).disc) = true := hen
    rwa [hfm] at this

/-- example of the composed meaning, for `AnyFailures`: at the moment of the stop some always- or
    eventually-property has a discovery -/
theorem C12_finish_anyFailures (hfm : P.finishMatches = finishOf .anyFailures P.props)
    (pre : List Choice) (hstop : (run P pre).stopped = false)
    (hs : (run P (pre ++ [Choice.stop .finish])).stopped = true) :
    ∃ i pr, P.props[i]? = some pr ∧ pr.exp ≠ .sometimes ∧ hasDisc (run P pre).disc i = true := by
  obtain ⟨p, hp, hne, hc⟩ := (C12.C12_matches_anyF _ _).1 (C12_finish_stop_matches P .anyFailures hfm pre hstop hs).1
  simp only [hdProps, List.mem_map, List.mem_range] at hp
  obtain ⟨i, hi, rfl⟩ := hp
  have hpr : P.props[i]? = some P.props[i] := List.getElem?_eq_getElem hi
  refine ⟨i, P.props[i], hpr, ?_, (mem_discNames_iff _ i).1 hc⟩
  simpa only [hpr, Option.map_some, Option.getD_some] using hne

end SR.C12M
