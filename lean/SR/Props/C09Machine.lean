import SR.Props.C01
import SR.Props.C09
/-!
# C09 (checker part) — every allowed crash point is explored

Composition of the actor-system model (`SR/Actor/Sys.lean`, `ActorSys.toSys`) with the checker machine: when an
exhaustive check of an actor model completes without early exit, every reachable system state — in particular
every state obtained by crashing an actor that is up, at any reachable point while the budget allows — has been
evaluated, and it is a state of its own (different from its predecessor).
-/
namespace SR.C09M
open SR SR.Checker SR.Actor

variable {σ η κ : Type} [DecidableEq κ]

theorem C09_explored (sys : ActorSys σ η) (inB : Actor.St σ η → Bool) (P : Params (Actor.St σ η) κ Actor.Action)
    (hM : P.M = sys.toSys inB)
    (hinj : ∀ a b, P.M.Reach a → P.M.Reach b → P.key a = P.key b → a = b)
    (cs : List Choice) (hq : Quiescent (run P cs)) (he : (run P cs).early = false) :
    ∀ st, (sys.toSys inB).Reach st ↔ st ∈ visitedStates (run P cs) := by
  intro st
  rw [← hM]
  exact (C01.C01_exact P hinj cs hq he).1 st

theorem C09_crash_points_explored (sys : ActorSys σ η) (inB : Actor.St σ η → Bool) (P : Params (Actor.St σ η) κ Actor.Action)
    (hM : P.M = sys.toSys inB)
    (hinj : ∀ a b, P.M.Reach a → P.M.Reach b → P.key a = P.key b → a = b)
    (cs : List Choice) (hq : Quiescent (run P cs)) (he : (run P cs).early = false)
    (st st' : Actor.St σ η) (i : Nat) (hr : (sys.toSys inB).Reach st) (hwf : st.WF sys)
    (ha : Action.crash i ∈ actions sys st) (hs : Actor.step sys st (.crash i) = Actor.Outcome.next st') (hb : inB st' = true) :
    st' ∈ visitedStates (run P cs) ∧ st' ≠ st ∧ st'.crashed[i]? = some true := by
  have hd := C09.C09_distinct sys st st' i hwf ha hs
  refine ⟨?_, hd.1, hd.2.2.1⟩
  apply (C09_explored sys inB P hM hinj cs hq he st').1
  refine Sys.Reach.step hr ?_
  rw [Sys.mem_succB]
  refine ⟨⟨Action.crash i, ha, ?_⟩, hb⟩
  show (Actor.step sys st (Action.crash i)).toOption = some st'
  rw [hs]; rfl

end SR.C09M
