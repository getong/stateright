import SR.Proofs.Checker.Eventually
import SR.Proofs.Checker.Sim
import SR.Proofs.Checker.Forest
import SR.Props.C02
import SR.Checker.Sched
import SR.Checker.Graph
/-!
# C11 — eventually-properties: never a false alarm, exact on forests

`MaxPathAvoiding` ends in a state without in-boundary successor: for the exhaustive checkers a reported path always ends in
such a terminal state; the "loops forever" alternative only arises in the simulation checker (`MaxPathAvoidingSim`).
-/
namespace SR.C11
open SR SR.Checker

variable {σ κ α : Type} [DecidableEq κ] (P : Params σ κ α)

def MaxPathAvoiding (pr : Prop' σ) (p : List σ) : Prop :=
  P.M.IsPath p ∧ (∀ t ∈ p, pr.cond t = false) ∧ ∃ s, p.getLast? = some s ∧ P.M.succB s = []

/-- **No false alarm**, for every schedule, thread count, stop reason and race: a counterexample to an
    eventually-property is reported only if a maximal in-boundary path avoiding the condition exists — the
    reported path is one. -/
theorem C11_no_false_alarm (cs : List Choice) (i : Nat) (pr : Prop' σ) (hpr : P.props[i]? = some pr)
    (hexp : pr.exp = .eventually) (hd : hasDisc (run P cs).disc i = true) :
    ∃ p, MaxPathAvoiding P pr p := by
  obtain ⟨p, he⟩ := (hasDisc_iff_exists _ _).1 hd
  exact ⟨p, ((sinv_run (P := P) cs).disc _ he).1, (einv_run (P := P) cs).disc _ he pr hpr hexp⟩

/-- **Exactness on forests.**  If every reachable state has exactly one in-boundary path from an initial state
    (`Forest`), the state identity is injective on reachable states, and the run completed (joined; nothing was
    dropped, or every property has a discovery), then a counterexample for an eventually-property is reported
    exactly when some maximal in-boundary path never satisfies the condition.  Every schedule, any thread count. -/
theorem C11_forest_exact (hF : Forest P.M)
    (hinj : ∀ a b, P.M.Reach a → P.M.Reach b → P.key a = P.key b → a = b)
    (cs : List Choice) (hc : C02.Completed P (run P cs))
    (i : Nat) (pr : Prop' σ) (hpr : P.props[i]? = some pr) (hexp : pr.exp = .eventually) :
    hasDisc (run P cs).disc i = true ↔ ∃ p, MaxPathAvoiding P pr p := by
  constructor
  · exact C11_no_false_alarm P cs i pr hpr hexp
  · rintro ⟨p, hp, hav, t, hl, hterm⟩
    rcases hc.2 with he | hall
    · exact (forestInv_run (P := P) hpr hexp hF cs).done _
        (done_of_reach hinj cs hc.1 he t (Sys.reach_last_of_isPath hp hl)) p hp hl hav hterm
    · exact (C02.allDiscovered_iff P _).1 hall i (lt_length_of_getElem? hpr)

/-- the incompleteness off forests that the source documents (FIXME in bfs.rs/dfs.rs) is real: at a join the
    second path's bits are lost.  `0→{1,2}, 1→3, 2→3`, "eventually (= 1)": the path `[0,2,3]` avoids the condition
    and is maximal, but BFS reaches 3 first through 1 and reports nothing. -/
def joinGraph : Graph :=
  { n := 4, init := [0], adj := [[some 1, some 2], [some 3], [some 3], []], bnd := [true, true, true, true] }
def joinParams : Params Nat Nat Nat :=
  { M := joinGraph.toSys, props := [{ exp := .eventually, cond := fun s => s == 1 }],
    key := id, cfg := {}, finishMatches := fun d => d.length == 1 }
example : (runSingle joinParams .bfs 200).disc = [] ∧ (runSingle joinParams .bfs 200).early = false := by decide

/-- a maximal in-boundary path for the simulation checker: terminal, or looping forever (a lasso) -/
def MaxPathAvoidingSim (pr : Prop' σ) (p : List σ) : Prop :=
  P.M.IsPath p ∧ (∀ t ∈ p, pr.cond t = false) ∧
    ((∃ s, p.getLast? = some s ∧ P.M.succB s = []) ∨ Sim.CyclesBack P p)

/-- **No false alarm, simulation** (full strength; DESIGN.md, F5, is what a simulation without the boundary test reports): every chooser, every seed,
    every number of traces. -/
theorem C11_sim_no_false_alarm
    (hkc : ∀ a b, P.M.Reach a → P.M.Reach b → P.key a = P.key b → ∀ pr ∈ P.props, pr.cond a = pr.cond b)
    (fuel n : Nat) (answers : List Nat) (i : Nat) (pr : Prop' σ) (hpr : P.props[i]? = some pr)
    (hexp : pr.exp = .eventually) (hd : hasDisc (Sim.runTraces P fuel n answers {}).disc i = true) :
    ∃ p, MaxPathAvoidingSim P pr p := by
  obtain ⟨p, he⟩ := (hasDisc_iff_exists _ _).1 hd
  have h := Sim.runTraces_ok (P := P) hkc fuel n answers {} nofun _ he
  exact ⟨p, h.path, h.ev pr hpr hexp⟩

/-- **No false alarm, multi-threaded simulation**: whatever the colleagues discover meanwhile (`orc`), wherever the
    worker's traces are cut off (`fuels`), an eventually-counterexample inserted by a worker is a maximal path that never
    satisfies the condition. -/
theorem C11_sim_worker_no_false_alarm
    (hkc : ∀ a b, P.M.Reach a → P.M.Reach b → P.key a = P.key b → ∀ pr ∈ P.props, pr.cond a = pr.cond b)
    (orc : Nat → Nat → Nat → Bool) (fuels : List Nat) (answers : List Nat) (i : Nat) (pr : Prop' σ)
    (hpr : P.props[i]? = some pr) (hexp : pr.exp = .eventually)
    (hd : hasDisc (Sim.tracesO P orc 0 fuels answers {}).disc i = true) :
    ∃ p, MaxPathAvoidingSim P pr p := by
  obtain ⟨p, he⟩ := (hasDisc_iff_exists _ _).1 hd
  have h := Sim.tracesO_ok (P := P) hkc orc fuels 0 answers {} nofun _ he
  exact ⟨p, h.path, h.ev pr hpr hexp⟩

end SR.C11
