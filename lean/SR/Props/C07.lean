import SR.Proofs.ActorNetTrace
import SR.Proofs.ActorActions
/-!
# C07 — message transport obeys the selected network semantics in every interleaving

Model: `SR/Actor/Net.lean` (transcription of src/actor/network.rs: the three
representations, `send`, `on_deliver`, `on_drop`, `len`, `iter_all` as the `NetworkIter` state machine,
`iter_deliverable`). An operation sequence `ops : List NetOp` is *valid* from `n₀` (`Net.run n₀ ops = some n`)
when every delivery/drop is of an envelope `iter_deliverable` offers at that point — exactly what the actor
model can do — and no operation panics. All theorems quantify over every initial canonical network and every
valid sequence, i.e. every interleaving of sends, deliveries and drops.
-/
namespace SR.C07
open SR.Actor

def sentOn (f : Nat × Nat) (ops : List NetOp) : List Nat :=
  ops.filterMap (fun op => match op with | .send e => if flowOf e = f then some e.msg else none | _ => none)

def removedOn (f : Nat × Nat) (ops : List NetOp) : List Nat :=
  ops.filterMap (fun op => match op with
    | .deliver e => if flowOf e = f then some e.msg else none
    | .drop e => if flowOf e = f then some e.msg else none
    | _ => none)

def sentCount (e : Env) (ops : List NetOp) : Nat := (ops.filter (· = NetOp.send e)).length
def deliveredCount (e : Env) (ops : List NetOp) : Nat := (ops.filter (· = NetOp.deliver e)).length
def droppedCount (e : Env) (ops : List NetOp) : Nat := (ops.filter (· = NetOp.drop e)).length

/-- the last send (`true`) or drop (`false`) of envelope `e` in `ops`, if any (deliveries do not count) -/
def lastSD (e : Env) : List NetOp → Option Bool
  | [] => none
  | op :: ops =>
    match lastSD e ops with
    | some b => some b
    | none =>
      match op with
      | .send e' => if e' = e then some true else none
      | .drop e' => if e' = e then some false else none
      | .deliver _ => none

/-- what the second component of `UnorderedDuplicating` holds after `ops`: the envelope of the latest delivery -/
def lastDelivered : List NetOp → Option Env
  | [] => none
  | op :: ops =>
    match lastDelivered ops with
    | some e => some e
    | none => match op with | .deliver e => some e | _ => none

/-- **Ordered network.** On every flow, what was removed (delivered or dropped, in order) followed by what is
still queued is what was initially queued followed by what was sent, in order. Hence deliveries on a flow
are a prefix-respecting subsequence of the sends in send order, nothing is duplicated, and (with
`C07_views`) only the head of a flow is deliverable. -/
theorem C07_ordered (n₀ n : Net) (ops : List NetOp) (hc : n₀.Canon) (ho : n₀.isOrdered = true)
    (h : Net.run n₀ ops = some n) (f : Nat × Nat) :
    removedOn f ops ++ n.queue f = n₀.queue f ++ sentOn f ops := by
  induction ops generalizing n₀ with
  | nil => cases h; simp [removedOn, sentOn]
  | cons op ops ih =>
    obtain ⟨hv, n1, h1, h2⟩ := run_cons.1 h
    have hc1 := canon_apply hc h1
    cases n₀ with
    | dup _ _ => cases ho
    | nondup _ => cases ho
    | ord flows =>
      -- a removal takes `e.msg` off the front of `queue (flowOf e)`, a send puts it at the back
      cases op with
      | send e =>
        cases h1
        have := ih _ hc1 rfl h2
        rw [queue_send] at this
        by_cases hf : flowOf e = f <;> simpa [removedOn, sentOn, List.filterMap_cons, hf] using this
      | deliver e | drop e =>
        have hq := ord_remove ((mem_iterDeliverable hc e).1 (of_decide_eq_true hv)) h1 f
        obtain ⟨_, _, _, rfl⟩ := removeOne_ord h1
        have := ih _ hc1 rfl h2
        rw [hq]
        by_cases hf : flowOf e = f <;> simpa [removedOn, sentOn, List.filterMap_cons, hf] using this

/-- **Non-duplicating network.** Copies are conserved: every delivery and every drop consumes exactly one
copy, so each sent (or initially present) copy is delivered at most once. -/
theorem C07_nondup (ms₀ : List (Env × Nat)) (n : Net) (ops : List NetOp)
    (h : Net.run (Net.nondup ms₀) ops = some n) (e : Env) :
    n.count e + deliveredCount e ops + droppedCount e ops = (Net.nondup ms₀).count e + sentCount e ops := by
  induction ops generalizing ms₀ with
  | nil => cases h; simp [deliveredCount, droppedCount, sentCount]
  | cons op ops ih =>
    obtain ⟨_, n1, h1, h2⟩ := run_cons.1 h
    have hop : ∃ ms1, n1 = Net.nondup ms1 ∧
        n1.count e + deliveredCount e [op] + droppedCount e [op] = (Net.nondup ms₀).count e + sentCount e [op] := by
      cases op with
      | send e' =>
        obtain rfl : (Net.nondup ms₀).send e' = n1 := Option.some.inj h1
        refine ⟨_, rfl, ?_⟩
        rw [count_send]
        by_cases he : e' = e <;> simp [deliveredCount, droppedCount, sentCount, he, eq_comm (a := e)]
      | deliver e' | drop e' =>
        obtain ⟨_, hl, rfl⟩ := removeOne_nondup.1 h1
        refine ⟨_, rfl, ?_⟩
        rw [← count_removeOne (n := .nondup ms₀) rfl ⟨_, hl⟩ h1 e]
        by_cases he : e' = e <;> simp [deliveredCount, droppedCount, sentCount, he, eq_comm (a := e)]
    obtain ⟨ms1, rfl, hop⟩ := hop
    have := ih ms1 h2
    -- the counters of `op :: ops` are those of `[op]` plus those of `ops`
    simp only [deliveredCount, droppedCount, sentCount, show op :: ops = [op] ++ ops from rfl, List.filter_append,
      List.length_append] at this hop ⊢
    omega

/-- **Duplicating network.** An envelope is in flight iff its last send-or-drop is a send, or it was
initially present and was neither sent nor dropped: deliveries never remove (redelivery is possible), a
dropped envelope is gone until it is sent again. -/
theorem C07_dup (set₀ : List Env) (last₀ : Option Env) (n : Net) (ops : List NetOp)
    (h : Net.run (Net.dup set₀ last₀) ops = some n) (e : Env) :
    e ∈ n.contents ↔ (lastSD e ops = some true ∨ (lastSD e ops = none ∧ e ∈ set₀)) := by
  induction ops generalizing set₀ last₀ with
  | nil => cases h; simp [lastSD, Net.contents]
  | cons op ops ih =>
    obtain ⟨_, n1, h1, h2⟩ := run_cons.1 h
    cases op with
    | send e' =>
      cases h1
      rw [ih _ _ h2, mem_sins]
      cases hl : lastSD e ops with
      | some b => simp [lastSD, hl]
      | none =>
        by_cases he : e' = e
        · simp [lastSD, hl, he]
        · simp [lastSD, hl, he, Ne.symm he]
    | deliver e' =>
      cases h1
      rw [ih _ _ h2]
      cases hl : lastSD e ops <;> simp [lastSD, hl]
    | drop e' =>
      cases h1
      rw [ih _ _ h2, mem_srem]
      cases hl : lastSD e ops with
      | some b => simp [lastSD, hl]
      | none =>
        by_cases he : e' = e
        · simp [lastSD, hl, he]
        · simp [lastSD, hl, he, Ne.symm he]

/-- the duplicating network remembers the last delivered envelope -/
theorem C07_dup_last (set₀ : List Env) (last₀ : Option Env) (n : Net) (ops : List NetOp)
    (h : Net.run (Net.dup set₀ last₀) ops = some n) :
    ∃ set, n = Net.dup set ((lastDelivered ops).or last₀) := by
  induction ops generalizing set₀ last₀ with
  | nil => cases h; exact ⟨set₀, rfl⟩
  | cons op ops ih =>
    obtain ⟨_, n1, h1, h2⟩ := run_cons.1 h
    -- only a delivery touches the second component
    obtain ⟨set1, rfl⟩ : ∃ set1, n1 = Net.dup set1 ((lastDelivered [op]).or last₀) := by
      cases op <;> cases h1 <;> exact ⟨_, rfl⟩
    obtain ⟨s, rfl⟩ := ih _ _ h2
    refine ⟨s, ?_⟩
    cases hl : lastDelivered ops <;> cases op <;> simp [lastDelivered, hl]

/-- Canonical form (flows never hold an empty queue, multiset counts are ≥ 1, keys are distinct) holds for
every network built by the constructors and is preserved by every operation sequence. -/
theorem C07_canonical :
    (Net.dup [] none).Canon ∧ (Net.nondup []).Canon ∧ (Net.ord []).Canon ∧
    (∀ (n : Net) (e : Env), n.Canon → (n.send e).Canon) ∧
    (∀ (n₀ n : Net) (ops : List NetOp), n₀.Canon → Net.run n₀ ops = some n → n.Canon) := by
  exact ⟨List.nodup_nil, ⟨nofun, List.nodup_nil⟩, ⟨nofun, List.nodup_nil⟩, fun _ e hc => canon_send hc e,
    fun _ _ _ hc h => canon_run hc h⟩

/-- `len`, `iter_all` (the `NetworkIter` state machine run to exhaustion) and `iter_deliverable` agree with the
contents: `iter_all` yields exactly the envelopes in flight with multiplicity, `len` is their number,
`iter_deliverable` yields each deliverable envelope (present / a copy left / head of its flow) exactly once. -/
theorem C07_views (n : Net) (hc : n.Canon) :
    n.iterAll = n.contents ∧ n.iterAll.Perm n.contents ∧ n.len = n.contents.length ∧
    (∀ e, e ∈ n.iterDeliverable ↔ n.isHead e) ∧ n.iterDeliverable.Nodup :=
  ⟨iterAll_eq_contents hc, iterAll_eq_contents hc ▸ .refl _, len_eq_contents_length n, mem_iterDeliverable hc,
    nodup_iterDeliverable hc⟩

theorem C07_deliver_only_if_present (n : Net) (hc : n.Canon) (e : Env)
    (hv : n.valid (.deliver e) = true ∨ n.valid (.drop e) = true) : e ∈ n.contents := by
  have hh : n.isHead e := (mem_iterDeliverable hc e).1 (hv.elim of_decide_eq_true of_decide_eq_true)
  cases n with
  | dup set last => exact hh
  | nondup ms =>
    obtain ⟨c, hl⟩ := hh
    have hm := alookup_mem hl
    exact List.mem_flatMap.2 ⟨(e, c), hm, List.mem_replicate.2 ⟨Nat.ne_of_gt (hc.1 _ hm), rfl⟩⟩
  | ord flows =>
    obtain ⟨q, hl, hq⟩ := hh
    exact List.mem_flatMap.2 ⟨_, alookup_mem hl, List.mem_map.2 ⟨e.msg, List.mem_of_mem_head? hq, rfl⟩⟩

/-- `Net.count` (membership / multiset count / occurrences in the flow's queue) is the multiplicity of an
envelope in the contents -/
theorem C07_count_contents (n : Net) (hc : n.Canon) (e : Env) : n.contents.count e = n.count e :=
  count_contents hc e

/-- **Loss only by drop.** One valid operation lowers the number of copies of an envelope `x` only if it is a
drop of `x`, or a delivery of `x` on a non-duplicating or ordered network — and then by exactly one copy.
Sends never lower it; a delivery on the duplicating network removes nothing. -/
theorem C07_loss_only_by_drop (n n' : Net) (op : NetOp) (hc : n.Canon) (hv : n.valid op = true)
    (h : n.apply op = some n') (x : Env) (hlt : n'.count x < n.count x) :
    (op = .drop x ∨ (op = .deliver x ∧ n.isDup = false)) ∧ n'.count x + 1 = n.count x := by
  have := count_apply hc hv h x
  cases op with
  | send e => simp only at this; omega
  | deliver e =>
    simp only at this
    by_cases hd : n.isDup = true
    · simp only [hd, if_true] at this
      omega
    · simp only [hd, Bool.false_eq_true, if_false] at this
      by_cases hx : x = e
      · subst hx
        simp only [if_true] at this
        exact ⟨Or.inr ⟨rfl, by simpa using hd⟩, this⟩
      · simp only [hx, if_false] at this
        omega
  | drop e =>
    simp only at this
    by_cases hx : x = e
    · subst hx
      simp only [if_true] at this
      exact ⟨Or.inl rfl, this⟩
    · simp only [hx, if_false] at this
      omega

/-- **Actions of the actor model**: a Deliver is offered exactly for the deliverable envelopes (flow heads /
envelopes with a copy left / present envelopes) whose recipient exists; a Drop is offered exactly for the
deliverable envelopes, and only if the network is lossy. -/
theorem C07_actions {σ η : Type} (sys : ActorSys σ η) (st : St σ η) (hn : st.NetOk sys) (e : Env) :
    (Action.deliver e ∈ actions sys st ↔ st.net.isHead e ∧ e.dst < sys.n) ∧
    (Action.drop e ∈ actions sys st ↔ sys.lossy = true ∧ st.net.isHead e) := by
  rw [mem_actions_iff sys st hn, mem_actions_iff sys st hn]
  simp [enabledSpec, mem_iterDeliverable hn.1]

/-- the three views agree with the contents in every network state the actor model can reach from a constructor-built one -/
theorem C07_views_reachable (n₀ n : Net) (ops : List NetOp) (hc : n₀.Canon) (h : Net.run n₀ ops = some n) :
    n.iterAll = n.contents ∧ n.len = n.contents.length ∧ (∀ e, e ∈ n.iterDeliverable ↔ n.isHead e) := by
  have := C07_views n (canon_run hc h)
  exact ⟨this.1, this.2.2.1, this.2.2.2.1⟩

/-! ## the hypotheses are satisfiable: a concrete non-trivial run on each kind -/

example : Net.run (Net.ord []) [.send ⟨0, 1, 7⟩, .send ⟨0, 1, 8⟩, .deliver ⟨0, 1, 7⟩, .send ⟨0, 1, 7⟩, .drop ⟨0, 1, 8⟩]
    = some (Net.ord [((0, 1), [7])]) := by decide
example : Net.run (Net.ord []) [.send ⟨0, 1, 7⟩, .send ⟨0, 1, 8⟩, .deliver ⟨0, 1, 8⟩] = none := by decide
example : Net.run (Net.nondup []) [.send ⟨0, 1, 7⟩, .send ⟨0, 1, 7⟩, .deliver ⟨0, 1, 7⟩]
    = some (Net.nondup [(⟨0, 1, 7⟩, 1)]) := by decide
example : Net.run (Net.dup [] none) [.send ⟨0, 1, 7⟩, .deliver ⟨0, 1, 7⟩, .deliver ⟨0, 1, 7⟩, .drop ⟨0, 1, 7⟩]
    = some (Net.dup [] (some ⟨0, 1, 7⟩)) := by decide
example : (Net.ord [((0, 1), [7, 8]), ((2, 1), [7])]).iterAll = [⟨0, 1, 7⟩, ⟨0, 1, 8⟩, ⟨2, 1, 7⟩] := by decide
example : (Net.nondup [(⟨0, 1, 7⟩, 2)]).iterAll = [⟨0, 1, 7⟩, ⟨0, 1, 7⟩] := by decide

end SR.C07
