import SR.Props.C01
import SR.Proofs.OnDemandOracle
import SR.Props.OracleAudit
/-!
`onDemandExpected M key reqs` (`o-ondemand`, Drv/C19.lean) is the declarative reading of an on-demand session before
`run_to_completion`: it folds the requests over (pending, generated, evaluated).  The MODEL of the on-demand checker is the
checker machine (`SR/Checker/Machine.lean`) run on a **session** (`Session P s reqs cs` of Proofs/OnDemandOracle.lean), a choice
list built from the requests.  At the end of the file, the count formula `wantS` of `o-disc`.

Hypotheses:
* `hk hka hall` — some `always` property holds in every reachable state (it is never discovered, so every evaluated job is
  expanded; without it the oracle is wrong: `C19_ondemand_needs_always_property`).  Documented at `onDemandExpected` and
  tested by the driver (`precondition:no-always-true-property`; `C19_ondemand_guard`);
* `hmd` — no depth limit (a job at the limit would be dropped unvisited; the command `o-ondemand` has no such parameter);
* for "EVERY session is the oracle" also `hinit`: two in-boundary initial states with the same key are the same state
  (an initial state may be LISTED several times: it is then pending once per occurrence, on both sides).  NO injectivity
  of the key on other states is needed (a colliding successor is simply not generated, by both sides).  That `hinit` is
  needed: `C19_ondemand_needs_distinct_initial_keys`.
-/
namespace SR.C19OnDemand
open SR SR.Drv.C19 SR.Checker

/-- **Every session of the machine is judged right by the oracle.**  Serving the requests `reqs` in on-demand mode
    evaluates (shows to the visitor) exactly the states `onDemandExpected M key reqs`, in that order; moreover afterwards
    the worker is idle, the pending states are the oracle's pending list (as a multiset) and the generated keys are the keys
    of the oracle's generated list (in order). -/
theorem C19_ondemand_session_evaluates (P : Params Nat Nat Nat) {k : Nat} {pk : Prop' Nat}
    (hk : P.props[k]? = some pk) (hka : pk.exp = .always) (hall : ∀ t, P.M.Reach t → pk.cond t = true)
    (hmd : P.cfg.maxDepth = none) (hinit : ∀ a ∈ P.M.initB, ∀ b ∈ P.M.initB, P.key a = P.key b → a = b)
    (reqs : List Nat) (cs : List Choice) (hsess : Session P (init P.M P.props P.key) reqs cs) :
    evaluated (run P cs) = onDemandExpected P.M P.key reqs ∧
    (run P cs).active = [] ∧
    ((run P cs).frontier.map (·.st)).Perm (odRun P.M P.key reqs).1 ∧
    (run P cs).gen = (odRun P.M P.key reqs).2.1.map P.key := by
  have h := session_sim ⟨hk, hka, hall⟩ hmd hsess _ (sim_init P) (List.pairwise_of_forall_mem_list hinit)
  rw [onDemandExpected_eq]
  exact ⟨h.ev, h.act, h.pend, h.gen⟩

/-- **Conversely, every list the oracle accepts is the evaluation order of a session** — with no hypothesis on the keys
    at all: `o-ondemand` answers `ok` only for `visited = onDemandExpected …`, and that list is what some session of the
    machine (same requests) shows to the visitor. -/
theorem C19_ondemand_oracle_is_session (P : Params Nat Nat Nat) {k : Nat} {pk : Prop' Nat}
    (hk : P.props[k]? = some pk) (hka : pk.exp = .always) (hall : ∀ t, P.M.Reach t → pk.cond t = true)
    (hmd : P.cfg.maxDepth = none) (reqs visited : List Nat) (hok : visited = onDemandExpected P.M P.key reqs) :
    ∃ cs, Session P (init P.M P.props P.key) reqs cs ∧ evaluated (run P cs) = visited := by
  obtain ⟨cs, hc, hsim⟩ := oracle_session ⟨hk, hka, hall⟩ hmd reqs _ _ (sim_init P)
  refine ⟨cs, hc, ?_⟩
  rw [hok, onDemandExpected_eq]
  exact hsim.ev

/-- executable form: `serve` (first pending job with the key, nothing stale, children queued at the back) is a session,
    so under the hypotheses its evaluation order IS the oracle's list -/
theorem C19_ondemand_serve (P : Params Nat Nat Nat) {k : Nat} {pk : Prop' Nat}
    (hk : P.props[k]? = some pk) (hka : pk.exp = .always) (hall : ∀ t, P.M.Reach t → pk.cond t = true)
    (hmd : P.cfg.maxDepth = none) (hinit : ∀ a ∈ P.M.initB, ∀ b ∈ P.M.initB, P.key a = P.key b → a = b) (reqs : List Nat) :
    Session P (init P.M P.props P.key) reqs (serve P (init P.M P.props P.key) reqs) ∧
    evaluated (run P (serve P (init P.M P.props P.key) reqs)) = onDemandExpected P.M P.key reqs :=
  ⟨serve_session P reqs _,
   (C19_ondemand_session_evaluates P hk hka hall hmd hinit reqs _ (serve_session P reqs _)).1⟩

/-- the driver's guard implies `hall`: on a decoded graph every reachable state is a state number `< n`, so a condition
    true on `range n` is true on every reachable state -/
theorem C19_ondemand_guard (x : SExp) (g : LGraph) (h : graph? x = some g) (c : Nat → Bool)
    (hc : (List.range g.n).all c = true) : ∀ t, g.toSys.Reach t → c t = true := by
  intro t ht
  have hlt := (COracleAudit.C19_oracle_graph_wf x g h).2.1 t ht
  exact List.all_eq_true.1 hc t (List.mem_range.2 hlt)

/-- the hypotheses `hk`, `hka`, `hmd`, `hinit` hold for the 5-state graph of `C01.exParams` (self-loop, join, cycle, ignored
    action, boundary, two initial states); `hall`: its property is `fun _ => true` -/
example : C01.exParams.props[0]? = some ⟨.always, fun _ => true⟩ ∧ C01.exParams.cfg.maxDepth = none ∧
    (∀ a ∈ C01.exParams.M.initB, ∀ b ∈ C01.exParams.M.initB, C01.exParams.key a = C01.exParams.key b → a = b) :=
  ⟨rfl, rfl, fun _ _ _ _ h => h⟩

example : onDemandExpected C01.exParams.M C01.exParams.key [0, 3, 9, 1, 2, 2, 4] = [0, 3, 1, 2] ∧
    evaluated (run C01.exParams (serve C01.exParams (init C01.exParams.M C01.exParams.props C01.exParams.key)
      [0, 3, 9, 1, 2, 2, 4])) = [0, 3, 1, 2] := by decide

/-- an initial state listed twice (and one reachable from another): `0` is pending twice -/
def dupInitP : Params Nat Nat Nat :=
  { M := (Graph.toSys { n := 3, init := [0, 0, 1], adj := [[some 1, some 2], [some 2], []], bnd := [true, true, true] }),
    props := [{ exp := .always, cond := fun _ => true }], key := id, cfg := {}, finishMatches := fun _ => false }

example : onDemandExpected dupInitP.M dupInitP.key [0, 2, 0, 0, 1, 1] = [0, 2, 0, 1] ∧
    evaluated (run dupInitP (serve dupInitP (init dupInitP.M dupInitP.props dupInitP.key) [0, 2, 0, 0, 1, 1]))
      = [0, 2, 0, 1] := by decide

def collideP : Params Nat Nat Nat :=
  { M := { init := [0, 1], acts := fun _ => [], next := fun _ _ => none, inB := fun _ => true },
    props := [{ exp := .always, cond := fun _ => true }], key := fun _ => 7, cfg := {}, finishMatches := fun _ => false }

/-- **`hinit` is needed** for `C19_ondemand_session_evaluates`: with two initial states of one key the machine has a
    session (it takes the job of state 1) that evaluates `[1]`, the oracle expects `[0]` (the first in `init_states`
    order, which is what the single-threaded code does).  All other hypotheses hold. -/
theorem C19_ondemand_needs_distinct_initial_keys :
    Session collideP (init collideP.M collideP.props collideP.key) [7] (Choice.take 0 :: workOf collideP 1 ++ []) ∧
    evaluated (run collideP (Choice.take 0 :: workOf collideP 1 ++ [])) = [1] ∧
    onDemandExpected collideP.M collideP.key [7] = [0] :=
  ⟨Session.hit 0 { st := 1, path := [1], ebits := [], depth := 1 } _ rfl rfl (isWork_workOf 1) (Session.nil _),
   by decide, by decide⟩

/-- a chain `0 → 1` checked WITHOUT properties -/
def noPropP : Params Nat Nat Nat :=
  { M := { init := [0], acts := fun s => if s = 0 then [0] else [], next := fun s _ => if s = 0 then some 1 else none,
           inB := fun _ => true },
    props := [], key := id, cfg := {}, finishMatches := fun _ => false }

/-- **the `always`-true property is needed**: without it the worker returns from its block without expanding (nothing to
    await), state 1 never becomes pending, and the session evaluates `[0]` where `onDemandExpected` says `[0, 1]`
    (the driver refuses such a case: `precondition:no-always-true-property`). -/
theorem C19_ondemand_needs_always_property :
    evaluated (run noPropP (serve noPropP (init noPropP.M noPropP.props noPropP.key) [0, 1])) = [0] ∧
    onDemandExpected noPropP.M noPropP.key [0, 1] = [0, 1] := by decide

/-- **`state_count` of a complete run, exactly** (any strategy, any number of threads; strengthens `C01_counts`): the
    initial states, plus the in-boundary successors of every initial state ONCE PER OCCURRENCE in `init_states`, plus the
    in-boundary successors of every other reachable state once. -/
theorem C19_state_count_complete {σ κ α : Type} [DecidableEq κ] (P : Params σ κ α)
    (hinj : ∀ a b, P.M.Reach a → P.M.Reach b → P.key a = P.key b → a = b)
    (cs : List Choice) (hq : Quiescent (run P cs)) (he : (run P cs).early = false) :
    ∃ extra : List σ, extra.Nodup ∧ (∀ t, t ∈ extra ↔ P.M.Reach t ∧ t ∉ P.M.initB) ∧
      (run P cs).stateCount = P.M.initB.length + (P.M.initB.map fun t => (P.M.succB t).length).sum
        + (extra.map fun t => (P.M.succB t).length).sum := by
  have k := kinv_run (P := P) cs he
  have c := cinv_run (P := P) cs he
  obtain ⟨extra, hperm, hgen⟩ := k.jobs
  have hcnt := k.cnt
  rw [owed, opened, hq.2] at hcnt
  rw [jobStates, hq.1, hq.2] at hperm
  simp only [List.map_nil, List.sum_nil, List.nil_append, Nat.add_zero] at hcnt hperm
  have hnd := (ninv_run (P := P) cs).genNodup
  rw [hgen] at hnd
  obtain ⟨_, hnd2, hdisj⟩ := List.nodup_append.1 hnd
  have hreach : ∀ t ∈ extra, P.M.Reach t := fun t ht =>
    c.doneReach t (hperm.mem_iff.2 (List.mem_append_right _ ht))
  refine ⟨extra, List.Pairwise.of_map P.key (fun a b hne hab => hne (congrArg P.key hab)) hnd2, ?_, ?_⟩
  · intro t
    constructor
    · intro ht
      refine ⟨hreach t ht, fun hi => ?_⟩
      exact hdisj _ (((genInit_spec P.key P.M.initB []).1 _).2 (.inr ⟨t, hi, rfl⟩)) _ (List.mem_map.2 ⟨t, ht, rfl⟩) rfl
    · rintro ⟨hr, hni⟩
      exact (List.mem_append.1 (hperm.mem_iff.1 (done_of_reach hinj cs hq he t hr))).resolve_left hni
  · have h2 := (hperm.map fun t => (P.M.succB t).length).sum_nat
    rw [List.map_append, List.sum_append_nat] at h2
    omega

/-- **`wantS` is the machine's count**: for any duplicate-free enumeration `reach` of the reachable states (the driver
    passes `reachSet M g.n`), the formula of `o-disc` (the DRIVER's constant `SR.Drv.C19.wantS`) equals the
    `state_count` of every complete run; and the driver's `wantU reach` equals its `unique_state_count`. -/
theorem C19_oracle_wantS (P : Params Nat Nat Nat)
    (hinj : ∀ a b, P.M.Reach a → P.M.Reach b → P.key a = P.key b → a = b)
    (cs : List Choice) (hq : Quiescent (run P cs)) (he : (run P cs).early = false)
    (reach : List Nat) (hnd : reach.Nodup) (hreach : ∀ t, t ∈ reach ↔ P.M.Reach t) :
    (run P cs).stateCount = SR.Drv.C19.wantS P.M reach ∧ (run P cs).gen.length = SR.Drv.C19.wantU reach := by
  obtain ⟨extra, h1, h2, h3⟩ := C19_state_count_complete P hinj cs hq he
  refine ⟨by rw [h3, wantS_eq P.M reach extra hnd hreach h1 h2], ?_⟩
  obtain ⟨_, hg, hgm⟩ := C01.C01_exact P hinj cs hq he
  have hnk : (reach.map P.key).Nodup := by
    have hpw : List.Pairwise (fun a b => a ≠ b) reach := hnd
    exact List.pairwise_map.2
      (hpw.imp_of_mem fun {a b} ha hb hne hk => hne (hinj a b ((hreach a).1 ha) ((hreach b).1 hb) hk))
  have hp : (run P cs).gen.Perm (reach.map P.key) := by
    rw [List.perm_ext_iff_of_nodup hg hnk]
    intro kk
    rw [hgm kk, List.mem_map]
    exact ⟨fun ⟨t, ht, hk⟩ => ⟨t, (hreach t).2 ht, hk⟩, fun ⟨t, ht, hk⟩ => ⟨t, (hreach t).1 ht, hk⟩⟩
  rw [SR.Drv.C19.wantU, hp.length_eq, List.length_map]

/-- … in particular on every graph `o-disc` judges, with the driver's own `reachSet g.toSys g.n` -/
theorem C19_oracle_wantS_graph (x : SExp) (g : LGraph) (hg : graph? x = some g) (P : Params Nat Nat Nat)
    (hM : P.M = g.toSys) (hinj : ∀ a b, P.M.Reach a → P.M.Reach b → P.key a = P.key b → a = b)
    (cs : List Choice) (hq : Quiescent (run P cs)) (he : (run P cs).early = false) :
    (run P cs).stateCount = SR.Drv.C19.wantS g.toSys (reachSet g.toSys g.n) ∧
    (run P cs).gen.length = SR.Drv.C19.wantU (reachSet g.toSys g.n) := by
  obtain ⟨_, _, hm, hnd⟩ := COracleAudit.C19_oracle_graph_wf x g hg
  rw [← hM] at hm hnd ⊢
  exact C19_oracle_wantS P hinj cs hq he _ hnd hm

/-- non-vacuity: the BFS run of the 5-state graph is complete (the first three conjuncts: the fuel `200` was enough), and its
    count is the formula's -/
example : (runSingle C01.exParams .bfs 200).frontier.length = 0 ∧ (runSingle C01.exParams .bfs 200).active.length = 0 ∧
    (runSingle C01.exParams .bfs 200).early = false ∧
    (runSingle C01.exParams .bfs 200).stateCount = wantS C01.exParams.M [0, 3, 1, 2] := by decide

/-- `dupInitP` (initial state `0` listed twice): 3 + 2·2 + 1 = 8 -/
example : (runSingle dupInitP .dfs 200).frontier.length = 0 ∧ (runSingle dupInitP .dfs 200).active.length = 0 ∧
    (runSingle dupInitP .dfs 200).early = false ∧
    (runSingle dupInitP .dfs 200).stateCount = 8 ∧ wantS dupInitP.M [0, 1, 2] = 8 := by decide

end SR.C19OnDemand
