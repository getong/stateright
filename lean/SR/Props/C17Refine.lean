import SR.Proofs.RuntimeRefines
/-!
# C17 (bridge) — what runs under `spawn()` is a behaviour of the actor MODEL

Runtime: `SR/Runtime/System.lean` (`RSt`, `rstep`, `rrun`: `n` actor threads with the
loop of `Loop.lean`, the clock, the datagrams in flight as a multiset; steps `start / deliver / lose / fire / tick`,
commands executed as `on_command` of src/actor/spawn.rs does).  Model: `SR/Actor/Sys.lean` (`ActorSys`, `actions`,
`step` = `ActorModel::{actions, next_state}`), the SAME `sys : ActorSys σ η` (handler tables) on both sides.
Abstraction `abs sys : RSt σ η → St σ η`: actor states (a thread that has not started yet is seen in its `on_start`
state, with its `on_start` timers armed and its `on_start` sends in the network — as the model's initial state
has it), network = the datagrams in flight as the set of the duplicating network, timers = keys whose deadline is
before `never` (a cancelled timer is parked at `now + never`, not removed), nobody crashed, no pending choices.

Hypotheses (named in the statements):
* `UdpModel sys`  the model is configured with the unordered DUPLICATING network, initially empty, and LOSSY;
* `NoRandom sys`  no handler emits `ChooseRandom` (the refinement is FALSE with it: `C17_refines_random_fails`);
* `RReach sys rs` the runtime state occurs: it is reached from `rinit sys` by enabled steps.
Assumptions built into the runtime semantics (see the header of `System.lean`): clock and deadlines stay below the
500-year horizon `never`; ids are the actor indices (codec bijection: `C17_id_addr / C17_addr_id`); serialisation
round-trips; a panicking handler or a `zeroWait` death only silences a thread; no datagrams from outside.

Everything quantifies over ALL handler tables, all `n`, all step lists (all interleavings, all timings, all random
picks, any loss / duplication / reordering).  Liveness is not covered (a refinement bounds what CAN happen).
-/
namespace SR.C17
open SR SR.Actor SR.RtSys

variable {σ η : Type}

theorem C17_refines_init (sys : ActorSys σ η) (hu : UdpModel sys) (hr : NoRandom sys) :
    Actor.init sys = some (abs sys (rinit sys)) := by
  rw [abs_rinit hu hr, init_eq_specInit]

/-- **Step refinement.**  Every step of a runtime state that occurs is, between the abstractions, a path of the
model made of a SUB-LIST of the actions the label stands for (`modelActs`): `start`, `tick` ↦ nothing (stutter);
`lose e` ↦ `Drop e` or nothing; `fire i (Timeout t)` ↦ `Timeout i t` or nothing; a duplicating `deliver e` ↦
`Deliver e` or nothing; a consuming `deliver e` ↦ `Deliver e` then `Drop e`, or one of them, or nothing. -/
theorem C17_refines_step (sys : ActorSys σ η) (hu : UdpModel sys) (hr : NoRandom sys) {rs rs' : RSt σ η} {l : Lbl}
    (hreach : RReach sys rs) (h : rstep sys rs l = some rs') :
    ∃ as, as.Sublist (modelActs l) ∧ MPath sys (abs sys rs) as (abs sys rs') :=
  refines_step hu hr (inv_of_rreach hr hreach) h

theorem C17_refines_stutter (sys : ActorSys σ η) (hu : UdpModel sys) (hr : NoRandom sys) {rs rs' : RSt σ η}
    (hreach : RReach sys rs) :
    (∀ t, rstep sys rs (.tick t) = some rs' → abs sys rs' = abs sys rs) ∧
    (∀ i picks, rstep sys rs (.start i picks) = some rs' → abs sys rs' = abs sys rs) :=
  ⟨fun _ h => refines_tick h, fun _ _ h => refines_start hr (inv_of_rreach hr hreach) h⟩

/-- the loss of a datagram is the model's `Drop` — or nothing, when another copy is still in flight (or will be
sent again by a thread that has not started yet) -/
theorem C17_refines_lose (sys : ActorSys σ η) (hu : UdpModel sys) {rs rs' : RSt σ η} {e : Env}
    (h : rstep sys rs (.lose e) = some rs') :
    abs sys rs' = abs sys rs ∨ MStep sys (abs sys rs) (.drop e) (abs sys rs') :=
  refines_lose hu h

/-- **Delivery (the datagram stays in flight).**  The handler that runs is `on_msg` of the recipient on the
recipient's current state, and the step is EXACTLY the model's `Deliver` — unless the handler result is a no-op
(`is_no_op`: state left borrowed, no commands): the model has no such transition (the NO-OP rule of
`next_state` on unordered networks), and then the abstraction is unchanged. -/
theorem C17_refines_deliver (sys : ActorSys σ η) (hu : UdpModel sys) (hr : NoRandom sys) {rs rs' : RSt σ η}
    {e : Env} {picks : List Nat} (hreach : RReach sys rs) (h : rstep sys rs (.deliver e true picks) = some rs') :
    ∃ s ns cmds, rs.st e.dst = some s ∧ (sys.actor e.dst).msg e.dst s e.src e.msg = .ok ns cmds ∧
      (isNoOp ns cmds = true → abs sys rs' = abs sys rs ∧ Actor.step sys (abs sys rs) (.deliver e) = .ignored) ∧
      (isNoOp ns cmds = false → MStep sys (abs sys rs) (.deliver e) (abs sys rs')) :=
  refines_deliver_keep hu hr (inv_of_rreach hr hreach) h

/-- **Delivery that consumes the datagram** is a delivery that leaves it in flight followed by its loss (so:
`Deliver e` then `Drop e` in the model, each subject to the two theorems above). -/
theorem C17_refines_consume (sys : ActorSys σ η) {rs rs' : RSt σ η} {e : Env} {picks : List Nat}
    (h : rstep sys rs (.deliver e false picks) = some rs') :
    ∃ m, rstep sys rs (.deliver e true picks) = some m ∧ rstep sys m (.lose e) = some rs' :=
  deliver_consume h

/-- **Timers.**  Only `Timeout` interrupts exist and one fires only while the model has it set; the handler that
runs is `on_timeout` on the thread's current state, and the step is EXACTLY the model's `Timeout` — unless the
result is `is_no_op_with_timer` (state borrowed, the only command re-arms the same timer): the model ignores that
action, and the abstraction is unchanged (the timer is re-armed at a new deadline, still armed). -/
theorem C17_refines_fire (sys : ActorSys σ η) (hu : UdpModel sys) (hr : NoRandom sys) {rs rs' : RSt σ η}
    {i : Nat} {k : RtSys.Key} {picks : List Nat} (hreach : RReach sys rs)
    (h : rstep sys rs (.fire i k picks) = some rs') :
    ∃ t s ns cmds, k = .timeout t ∧ rs.st i = some s ∧ (sys.actor i).timeout i s t = .ok ns cmds ∧
      Action.timeout i t ∈ actions sys (abs sys rs) ∧
      (isNoOpWithTimer ns cmds t = true → abs sys rs' = abs sys rs) ∧
      (isNoOpWithTimer ns cmds t = false → MStep sys (abs sys rs) (.timeout i t) (abs sys rs')) :=
  refines_fire hu hr (inv_of_rreach hr hreach) h

/-- **Every execution projects onto a path of the model**, from the model's initial state to the abstraction of the
runtime state reached. -/
theorem C17_refines_trace (sys : ActorSys σ η) (hu : UdpModel sys) (hr : NoRandom sys) {rs : RSt σ η}
    {ls : List Lbl} (h : rrun sys (rinit sys) ls = some rs) :
    ∃ s0 as, Actor.init sys = some s0 ∧ as.Sublist (ls.flatMap modelActs) ∧ MPath sys s0 as (abs sys rs) := by
  obtain ⟨as, hsub, hp⟩ := refines_path hu hr (inv_rinit sys) h
  exact ⟨_, as, C17_refines_init sys hu hr, hsub, hp⟩

/-- **Run refinement**: the abstraction of every runtime state that occurs is reachable in the model
(`Sys.Reach` of `ActorSys.toSys` without a boundary). -/
theorem C17_refines_run (sys : ActorSys σ η) (hu : UdpModel sys) (hr : NoRandom sys) {rs : RSt σ η}
    {ls : List Lbl} (h : rrun sys (rinit sys) ls = some rs) : (sys.toSys).Reach (abs sys rs) := by
  obtain ⟨s0, as, h0, _, hp⟩ := C17_refines_trace sys hu hr h
  cases (init_eq_specInit sys).symm.trans h0
  exact mpath_reach (reach_specInit sys) hp

/-- **Invariants carry over**: what holds of every reachable state of the model holds of (the abstraction of)
every state the deployed system can be in. -/
theorem C17_refines_invariant (sys : ActorSys σ η) (hu : UdpModel sys) (hr : NoRandom sys) (P : St σ η → Prop)
    (hP : ∀ s, (sys.toSys).Reach s → P s) {rs : RSt σ η} (hreach : RReach sys rs) : P (abs sys rs) := by
  obtain ⟨ls, h⟩ := hreach
  exact hP _ (C17_refines_run sys hu hr h)

/-- the same for an `always` property as the checker evaluates it (`C02_always`: a completed check without a
discovery means the condition holds on all reachable states) -/
theorem C17_refines_always (sys : ActorSys σ η) (hu : UdpModel sys) (hr : NoRandom sys) (pr : Prop' (St σ η))
    (hverdict : ∀ t, (sys.toSys).Reach t → pr.cond t = true) {rs : RSt σ η} (hreach : RReach sys rs) :
    pr.cond (abs sys rs) = true :=
  C17_refines_invariant sys hu hr (fun s => pr.cond s = true) hverdict hreach

/-! ## the RANDOM fragment is not a refinement

`on_command` of spawn.rs (1) returns at once on `ChooseRandom(key, [])` where `process_commands` of the model REMOVES
the pending choice `key`; (2) ignores `key`: a second `ChooseRandom` under the same key does not replace the first,
where the model overwrites; (3) keys the interrupt by the chosen VALUE: two pending choices under different keys
with the same value collapse into one interrupt.  (1) and (2) let a deployed actor reach a local state that no
reachable state of the model has; the statements below are about the runtime's own actor state (`rs.st`), so
they do not depend on how an abstraction would treat pending choices. -/

/-- `on_random(r)`: the state becomes `r` -/
def rndActor (startCmds : List Cmd) : Actor Nat where
  start := fun _ => (0, startCmds)
  msg := fun _ _ _ _ => .ok none []
  timeout := fun _ _ _ => .ok none []
  random := fun _ _ r => .ok (some r) []

def rndSys (startCmds : List Cmd) : ActorSys Nat Unit where
  n := 1
  actor := fun _ => rndActor startCmds
  lossy := true
  maxCrashes := 0
  initNet := .dup [] none
  initHist := ()
  recordIn := fun _ _ => none
  recordOut := fun _ _ => none

/-- (1) a choice that was withdrawn with an empty list -/
def rndEmpty := rndSys [.chooseRandom 0 [5], .chooseRandom 0 []]
/-- (2) a choice that was replaced under the same key -/
def rndKey := rndSys [.chooseRandom 0 [5], .chooseRandom 0 [6]]
/-- (3) the same value pending under two keys -/
def rndTwo := rndSys [.chooseRandom 0 [5], .chooseRandom 1 [5]]

theorem C17_refines_random_fails :
    -- (1) the deployed actor is handed `on_random(5)` and reaches local state 5; the model stays in state 0
    (UdpModel rndEmpty ∧
      (∃ ls rs, rrun rndEmpty (rinit rndEmpty) ls = some rs ∧ rs.st 0 = some 5) ∧
      (∀ s, (rndEmpty.toSys).Reach s → s.actors = [0])) ∧
    -- (2) the deployed actor reaches local state 5; in the model the choice is 6 or nothing
    (UdpModel rndKey ∧
      (∃ ls rs, rrun rndKey (rinit rndKey) ls = some rs ∧ rs.st 0 = some 5) ∧
      (∀ s, (rndKey.toSys).Reach s → s.actors = [0] ∨ s.actors = [6])) ∧
    -- (3) the model calls `on_random(5)` twice (two pending choices); the runtime holds ONE interrupt after
    --     `on_start`, and none after it fired
    (UdpModel rndTwo ∧
      (mrun rndTwo (specInit rndTwo) [.selectRandom 0 0 5, .selectRandom 0 1 5]).isSome = true ∧
      ((rrun rndTwo (rinit rndTwo) [.start 0 []]).map (fun rs => (rs.ints 0).length)) = some 1 ∧
      ((rrun rndTwo (rinit rndTwo) [.start 0 [], .tick 1, .fire 0 (.random 5) []]).map (fun rs => (rs.st 0, rs.ints 0)))
        = some (some 5, [])) := by
  refine ⟨⟨⟨rfl, rfl⟩, ⟨[.start 0 [], .tick 1, .fire 0 (.random 5) []], _, rfl, by decide⟩, ?_⟩,
    ⟨⟨rfl, rfl⟩, ⟨[.start 0 [], .tick 1, .fire 0 (.random 5) []], _, rfl, by decide⟩, ?_⟩,
    ⟨rfl, rfl⟩, by decide, by decide, by decide⟩
  · intro s hs
    have := reach_among (sys := rndEmpty) [specInit rndEmpty] (by decide) (by decide) hs
    simp only [List.mem_singleton] at this
    subst this
    decide
  · intro s hs
    have := reach_among (sys := rndKey)
      [specInit rndKey, { specInit rndKey with actors := [6], random := [[]] }] (by decide) (by decide) hs
    simp only [List.mem_cons, List.not_mem_nil, or_false] at this
    rcases this with rfl | rfl
    · exact Or.inl (by decide)
    · exact Or.inr rfl

/-! ## the hypotheses are satisfiable: a two-actor ping-pong with a retransmission timer

Actor 0 sends `ping k` (`k` = its state) to actor 1, arms timer 7 and re-sends on time-out; on the matching
`pong k` it moves to `k + 1`, cancels and re-arms the timer and sends the next ping; anything else is a no-op.
Actor 1 answers a ping it has not seen with a pong and remembers it; a ping it has seen is a no-op.
The history lists the envelopes received and sent. -/

def pinger : Actor Nat where
  start := fun _ => (0, [.send 1 0, .setTimer 7])
  msg := fun _ s _ m =>
    if m = s then .ok (some (s + 1)) [.send 1 (s + 1), .cancelTimer 7, .setTimer 7] else .ok none []
  timeout := fun _ s _ => .ok none [.send 1 s, .setTimer 7]
  random := fun _ _ _ => .ok none []

def ponger : Actor Nat where
  start := fun _ => (0, [])
  msg := fun _ s src m => if s < m + 1 then .ok (some (m + 1)) [.send src m] else .ok none []
  timeout := fun _ _ _ => .ok none []
  random := fun _ _ _ => .ok none []

def pingPong : ActorSys Nat (List Env) where
  n := 2
  actor := fun i => if i = 0 then pinger else ponger
  lossy := true
  maxCrashes := 0
  initNet := .dup [] none
  initHist := []
  recordIn := fun h e => some (h ++ [e])
  recordOut := fun h e => some (h ++ [e])

theorem C17_refines_ex_udp : UdpModel pingPong := ⟨rfl, rfl⟩

theorem C17_refines_ex_noRandom : NoRandom pingPong := by
  constructor
  · intro i c hc
    by_cases hi : i = 0
    · simp only [pingPong, hi, if_true, pinger] at hc
      revert c
      decide
    · simp [pingPong, hi, ponger] at hc
  · intro i s src m ns cmds h c hc
    by_cases hi : i = 0
    · simp only [pingPong, hi, if_true, pinger] at h
      split at h <;> cases h
      · revert c
        simp [isChoose]
      · cases hc
    · simp only [pingPong, hi, if_false, ponger] at h
      split at h <;> cases h
      · revert c
        simp [isChoose]
      · cases hc
  · intro i s t ns cmds h c hc
    by_cases hi : i = 0
    · simp only [pingPong, hi, if_true, pinger] at h
      cases h
      revert c
      simp [isChoose]
    · simp only [pingPong, hi, if_false, ponger] at h
      cases h
      cases hc

/-- a run of 10 steps: the pinger starts, its first ping is lost (the ponger's socket is not bound yet), the ponger
starts late, time passes, the timer fires and the ping is re-sent, the ping is delivered (and stays in flight), the
pong is delivered and consumed, the duplicate ping arrives (no-op) and is consumed, a second time-out happens, the
clock ticks. -/
def ppRun : List Lbl :=
  [ .start 0 [0, 100], .lose ⟨0, 1, 0⟩, .start 1 [], .tick 150, .fire 0 (.timeout 7) [0, 100],
    .deliver ⟨0, 1, 0⟩ true [], .deliver ⟨1, 0, 0⟩ false [0, 0, 200], .deliver ⟨0, 1, 0⟩ false [],
    .tick 400, .fire 0 (.timeout 7) [0, 50] ]

/-- its model path: 7 actions (`start`, `tick` are stutters; the duplicate ping is a no-op, only its `Drop` shows) -/
def ppActs : List Action :=
  [ .drop ⟨0, 1, 0⟩, .timeout 0 7, .deliver ⟨0, 1, 0⟩, .deliver ⟨1, 0, 0⟩, .drop ⟨1, 0, 0⟩, .drop ⟨0, 1, 0⟩,
    .timeout 0 7 ]

-- the run is enabled, and the model path leads from the model's initial state to the abstraction of its end
example : (rrun pingPong (rinit pingPong) ppRun).isSome = true := by decide
example : Actor.init pingPong = some (abs pingPong (rinit pingPong)) := by decide
example : (rrun pingPong (rinit pingPong) ppRun).map (abs pingPong) = mrun pingPong (specInit pingPong) ppActs := by
  decide
example : ppActs.Sublist (ppRun.flatMap modelActs) := by decide
-- the end state: pinger in state 1 with its timer armed, `ping 1` in flight twice (one set element)
example : (rrun pingPong (rinit pingPong) ppRun).map (fun rs => (abs pingPong rs).actors) = some [1, 1] := by decide
example : (rrun pingPong (rinit pingPong) ppRun).map (fun rs => (rs.flight, (abs pingPong rs).net, (abs pingPong rs).timers))
    = some ([⟨0, 1, 1⟩, ⟨0, 1, 1⟩], .dup [⟨0, 1, 1⟩] (some ⟨1, 0, 0⟩), [[7], []]) := by decide
-- a timer cannot fire before its deadline; an unstarted thread receives nothing (third example below)
example : (rrun pingPong (rinit pingPong) [.start 0 [0, 100], .tick 99, .fire 0 (.timeout 7) []]).isSome = false := by
  decide
-- nor AT its deadline (the code then takes the receive branch with a zero read timeout: `Loop.Ev.zeroWait`), only after
example : (rrun pingPong (rinit pingPong) [.start 0 [0, 100], .tick 100, .fire 0 (.timeout 7) []]).isSome = false ∧
    (rrun pingPong (rinit pingPong) [.start 0 [0, 100], .tick 101, .fire 0 (.timeout 7) []]).isSome = true := by
  decide
example : (rrun pingPong (rinit pingPong) [.start 0 [0, 100], .deliver ⟨0, 1, 0⟩ true []]).isSome = false := by decide
-- the theorems apply to it
example : (pingPong.toSys).Reach (abs pingPong ((rrun pingPong (rinit pingPong) ppRun).get (by decide))) :=
  C17_refines_run pingPong C17_refines_ex_udp C17_refines_ex_noRandom (Option.some_get _).symm

end SR.C17
