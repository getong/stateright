import SR.Proofs.VClock
import SR.Proofs.DenseNatMap
/-!
# C20 — vector clocks and dense maps obey their algebraic laws

Model: `SR/Util/VClock.lean`, `SR/Util/DenseNatMap.lean` (transcriptions of
src/util/vector_clock.rs and src/util/densenatmap.rs). Clocks are `List Nat`.
-/
namespace SR.C20
open SR.VClock

/-- equality up to trailing zeros -/
def Equiv (a b : Clock) : Prop := ∀ i, get0 a i = get0 b i
def Le (a b : Clock) : Prop := ∀ i, get0 a i ≤ get0 b i
/-- the order as the code decides it -/
def le (a b : Clock) : Prop := partialCmp a b = some .lt ∨ partialCmp a b = some .eq

/-- `==` decides equality up to trailing zeros. -/
theorem C20_eq_iff (a b : Clock) : veq a b = true ↔ Equiv a b := veq_iff a b

/-- `partial_cmp` (with its early-return loop) is the product order. -/
theorem C20_cmp_spec (a b : Clock) :
    (partialCmp a b = some .eq ↔ Equiv a b) ∧
    (partialCmp a b = some .lt ↔ Le a b ∧ ∃ i, get0 a i < get0 b i) ∧
    (partialCmp a b = some .gt ↔ Le b a ∧ ∃ i, get0 b i < get0 a i) ∧
    (partialCmp a b = none ↔ (∃ i, get0 a i < get0 b i) ∧ ∃ j, get0 b j < get0 a j) := by
  have hE : Equiv a b ↔ Le a b ∧ Le b a :=
    ⟨fun h => ⟨fun i => Nat.le_of_eq (h i), fun i => Nat.le_of_eq (h i).symm⟩,
      fun h i => Nat.le_antisymm (h.1 i) (h.2 i)⟩
  have hN : ∀ a b : Clock, (∃ i, get0 a i < get0 b i) ↔ ¬ Le b a := fun a b => by
    simp only [Le, Classical.not_forall, Nat.not_le]
  rw [partialCmp_eq, hE, hN a b, hN b a]
  unfold Le
  by_cases h1 : ∀ i, get0 a i ≤ get0 b i <;> by_cases h2 : ∀ i, get0 b i ≤ get0 a i <;> simp [h1, h2]

theorem C20_le_iff (a b : Clock) : le a b ↔ Le a b := by
  unfold le Le
  rw [partialCmp_eq]
  by_cases h1 : ∀ i, get0 a i ≤ get0 b i <;> by_cases h2 : ∀ i, get0 b i ≤ get0 a i <;> simp [h1, h2]

theorem C20_refl (a : Clock) : le a a := (C20_le_iff a a).2 (fun _ => Nat.le_refl _)

theorem C20_antisymm (a b : Clock) (h1 : le a b) (h2 : le b a) : Equiv a b := by
  intro i
  have := (C20_le_iff a b).1 h1 i
  have := (C20_le_iff b a).1 h2 i
  omega

theorem C20_trans (a b c : Clock) (h1 : le a b) (h2 : le b c) : le a c :=
  (C20_le_iff a c).2 (fun i => Nat.le_trans ((C20_le_iff a b).1 h1 i) ((C20_le_iff b c).1 h2 i))

theorem C20_cmp_congr (a a' b b' : Clock) (ha : Equiv a a') (hb : Equiv b b') :
    partialCmp a b = partialCmp a' b' := by
  rw [partialCmp_eq, partialCmp_eq, funext ha, funext hb]

theorem C20_merge_lub (a b c : Clock) :
    le a (mergeMax a b) ∧ le b (mergeMax a b) ∧ (le a c → le b c → le (mergeMax a b) c) := by
  refine ⟨(C20_le_iff _ _).2 ?_, (C20_le_iff _ _).2 ?_, fun h1 h2 => (C20_le_iff _ _).2 ?_⟩
  · intro i
    rw [get0_mergeMax]
    omega
  · intro i
    rw [get0_mergeMax]
    omega
  · intro i
    rw [get0_mergeMax]
    have := (C20_le_iff a c).1 h1 i
    have := (C20_le_iff b c).1 h2 i
    omega

/-- incrementing a component yields a strictly greater clock; the guard is where the `u32`
    addition overflows (the real code panics there when overflow checks are on). -/
theorem C20_incr (a : Clock) (i : Nat) (h : get0 a i < u32Max) :
    ∃ c, incremented a i = some c ∧ partialCmp a c = some .lt := by
  have hc := (incremented_eq a i).trans (if_neg (Nat.not_le.2 h))
  refine ⟨_, hc, (C20_cmp_spec a _).2.1.2 ⟨fun j => ?_, i, ?_⟩⟩
  · rw [get0_incremented hc j]
    split
    · subst j
      omega
    · omega
  · rw [get0_incremented hc i, if_pos rfl]
    omega

theorem C20_incr_overflow (a : Clock) (i : Nat) (h : u32Max ≤ get0 a i) : incremented a i = none := by
  rw [incremented_eq, if_pos h]

/-- equal clocks feed the hasher the same input, and only equal clocks do (`hashInput` is `trim`, the slice whose stream
    `Hash.toks … .vclock` is: `C04_vclock` is this statement on the byte stream). -/
theorem C20_hash (a b : Clock) : hashInput a = hashInput b ↔ Equiv a b :=
  trim_eq_iff

example : partialCmp [1, 2, 4] [1, 3, 0] = none := by decide
example : partialCmp [1, 2] [1, 2, 0, 0] = some .eq := by decide
example : le [1, 0, 2] [1, 5, 2, 0] := by
  left
  decide
example : hashInput [0, 3, 0, 0] = [0, 3] := by decide
example : incremented [4294967295] 0 = none := by decide

open SR.DNM

/-- "rejects gaps", and duplicates -/
theorem C20_dnm_gaps {V} (ps : List (Nat × V)) :
    (fromPairs ps).isSome ↔ (ps.map (·.1)).Perm (List.range ps.length) := fromPairs_isSome_iff ps

theorem C20_dnm_total {V} (ps : List (Nat × V)) (m : List V) (h : fromPairs ps = some m) :
    m.length = ps.length ∧ ∀ p ∈ ps, DNM.get m p.1 = some p.2 := fromPairs_total ps m h

theorem C20_dnm_order {V} (ps ps' : List (Nat × V)) (h : ps.Perm ps') : fromPairs ps = fromPairs ps' :=
  fromPairs_perm ps ps' h

/-- `insert`: overwrite returns the previous value, insertion at `len` appends, beyond panics -/
theorem C20_dnm_insert {V} (m : List V) (k : Nat) (v : V) :
    (k > m.length → DNM.insert m k v = .panic) ∧
    (k = m.length → DNM.insert m k v = .ok (m ++ [v]) none) ∧
    (∀ h : k < m.length, ∃ m', DNM.insert m k v = .ok m' (some m[k]) ∧ m'.length = m.length ∧
        DNM.get m' k = some v ∧ ∀ j, j ≠ k → DNM.get m' j = DNM.get m j) := by
  refine ⟨fun h => by simp [DNM.insert, h], fun h => by simp [DNM.insert, h], fun h => ?_⟩
  refine ⟨m.set k v, ?_, by simp, ?_, ?_⟩
  · have h1 : ¬ k > m.length := by omega
    have h2 : ¬ k = m.length := by omega
    simp [DNM.insert, h1, h2, h]
  · simp [DNM.get, h]
  · intro j hj
    simp [DNM.get, Ne.symm hj]

theorem C20_dnm_rewrite {V} (pk : Nat → Nat) (pv : V → V) (m : List V)
    (hperm : ((List.range m.length).map pk).Perm (List.range m.length)) :
    ∃ m', rewrite pk pv m = some m' ∧ m'.length = m.length ∧
      ∀ k, k < m.length → DNM.get m' (pk k) = (DNM.get m k).map pv := by
  unfold rewrite
  generalize hps : ((List.range m.length).zip m |>.map fun (k, v) => (pk k, pv v)) = ps
  have hlen : ps.length = m.length := by
    subst hps
    simp
  have hkeys : ps.map (·.1) = (List.range m.length).map pk := by
    subst hps
    apply List.ext_getElem
    · simp
    · intro i h1 h2
      simp
  obtain ⟨m', hm⟩ := Option.isSome_iff_exists.1
    ((fromPairs_isSome_iff ps).2 (by rw [hkeys, hlen]; exact hperm))
  obtain ⟨l1, g1⟩ := fromPairs_total ps m' hm
  refine ⟨m', hm, by omega, fun k hk => ?_⟩
  have hmem : (pk k, pv m[k]) ∈ ps := by
    subst hps
    refine List.mem_map.2 ⟨(k, m[k]), ?_, rfl⟩
    rw [List.mem_iff_getElem]
    exact ⟨k, by simpa using hk, by simp⟩
  rw [g1 _ hmem]
  simp [DNM.get, hk]

example : fromPairs [(1, 20), (0, 10)] = some [10, 20] :=
  (fromPairs_eq_some_iff _ _).2 (by decide)
example : fromPairs [(0, 10), (2, 20)] = none :=
  Option.not_isSome_iff_eq_none.1 (mt (C20_dnm_gaps _).1 (by decide))
example : fromPairs [(0, 10), (0, 20)] = none :=
  Option.not_isSome_iff_eq_none.1 (mt (C20_dnm_gaps _).1 (by decide))

end SR.C20
