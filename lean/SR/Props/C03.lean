import SR.Proofs.Checker.Eventually
import SR.Proofs.Checker.Sim
import SR.Checker.Sched
import SR.Checker.Graph
/-!
# C03 — every reported discovery is a genuine witness path

Model: `SR/Checker/Machine.lean` (bfs / dfs / dfs+symmetry / on-demand, any thread count).  `(run P cs).disc` is the
`discoveries` map at ANY moment of ANY schedule (`cs` arbitrary: every interleaving, stale reads of the discoveries map,
every stop reason), so "at any moment after join" is a special case.
-/
namespace SR.C03
open SR SR.Checker

variable {σ κ α : Type} [DecidableEq κ] (P : Params σ κ α)

/-- a discovery path starts in an in-boundary initial state, follows model transitions, stays in the boundary -/
theorem C03_path (cs : List Choice) : ∀ e ∈ (run P cs).disc, P.M.IsPath e.2 :=
  fun e he => ((sinv_run (P := P) cs).disc e he).1

/-- a discovery is recorded for an existing property -/
theorem C03_known_property (cs : List Choice) : ∀ e ∈ (run P cs).disc, e.1 < P.props.length :=
  fun e he => ((sinv_run (P := P) cs).disc e he).2.1

/-- the last state of an always-discovery violates the condition -/
theorem C03_always (cs : List Choice) : ∀ e ∈ (run P cs).disc, ∀ pr, P.props[e.1]? = some pr → pr.exp = .always →
    ∃ s, e.2.getLast? = some s ∧ pr.cond s = false :=
  fun e he pr hpr hexp => (((sinv_run (P := P) cs).disc e he).2.2 pr hpr).1 hexp

/-- the last state of a sometimes-discovery satisfies the condition -/
theorem C03_sometimes (cs : List Choice) : ∀ e ∈ (run P cs).disc, ∀ pr, P.props[e.1]? = some pr → pr.exp = .sometimes →
    ∃ s, e.2.getLast? = some s ∧ pr.cond s = true :=
  fun e he pr hpr hexp => (((sinv_run (P := P) cs).disc e he).2.2 pr hpr).2 hexp

/-- On an eventually-discovery no state satisfies the condition and the last state has no
    in-boundary successor.  It rests on the checkers clearing the bit of a property that already has a discovery
    when they skip it (DESIGN.md, F4: otherwise a later terminal state overwrites the discovery with a path on
    which the condition holds). -/
theorem C03_eventually (cs : List Choice) : ∀ e ∈ (run P cs).disc, ∀ pr, P.props[e.1]? = some pr → pr.exp = .eventually →
    (∀ t ∈ e.2, pr.cond t = false) ∧ ∃ s, e.2.getLast? = some s ∧ P.M.succB s = [] :=
  fun e he pr hpr hexp => (einv_run (P := P) cs).disc e he pr hpr hexp

/-! ### The simulation checker (`SR/Checker/Sim.lean`)

For every chooser (the list of its answers), every number of traces, every configuration.  The hypothesis says that
states with the same identity agree on the property conditions (true when fingerprints do not collide; under
`.symmetry()` it is the invariance of the conditions, exactly the property's premise). -/

/-- every discovery of a simulation run is a real in-boundary path ending in a witness; on an eventually discovery
    no state satisfies the condition and the path cannot be extended inside the boundary or closes a cycle. -/
theorem C03_sim
    (hkc : ∀ a b, P.M.Reach a → P.M.Reach b → P.key a = P.key b → ∀ pr ∈ P.props, pr.cond a = pr.cond b)
    (fuel n : Nat) (answers : List Nat) :
    ∀ e ∈ (Sim.runTraces P fuel n answers {}).disc,
      P.M.IsPath e.2 ∧ e.1 < P.props.length ∧
      (∀ pr, P.props[e.1]? = some pr →
        (pr.exp = .always → ∃ s, e.2.getLast? = some s ∧ pr.cond s = false) ∧
        (pr.exp = .sometimes → ∃ s, e.2.getLast? = some s ∧ pr.cond s = true) ∧
        (pr.exp = .eventually → (∀ t ∈ e.2, pr.cond t = false) ∧
          ((∃ t, e.2.getLast? = some t ∧ P.M.succB t = []) ∨ Sim.CyclesBack P e.2))) := by
  intro e he
  have h := Sim.runTraces_ok (P := P) hkc fuel n answers {} nofun e he
  exact ⟨h.path, h.idx, fun pr hpr => ⟨(h.wit pr hpr).1, (h.wit pr hpr).2, fun hev => h.ev pr hpr hev⟩⟩

/-- The workers of `spawn_simulation` with `threads(k)` share only the discoveries map (and counters).  To one worker,
    `discoveries.contains_key` answers "my own inserts OR what the colleagues have inserted meanwhile": the oracle
    `orc (trace number) (depth) (property)`, arbitrary.  A trace can be cut off after any number of steps (`fuels`: a
    shutdown is noticed at every step).  Whatever the oracle, the chooser's answers and the cut-off points, every discovery
    THIS worker inserts is a genuine witness.  The shared map after `join` holds, per property, a path inserted by some
    worker (`DashMap::insert`, last writer wins), hence `C03_sim_shared_map`. -/
theorem C03_sim_worker
    (hkc : ∀ a b, P.M.Reach a → P.M.Reach b → P.key a = P.key b → ∀ pr ∈ P.props, pr.cond a = pr.cond b)
    (orc : Nat → Nat → Nat → Bool) (fuels : List Nat) (answers : List Nat) :
    Sim.DiscOk P (Sim.tracesO P orc 0 fuels answers {}).disc :=
  Sim.tracesO_ok (P := P) hkc orc fuels 0 answers {} nofun

theorem C03_sim_shared_map
    (hkc : ∀ a b, P.M.Reach a → P.M.Reach b → P.key a = P.key b → ∀ pr ∈ P.props, pr.cond a = pr.cond b)
    (workers : List ((Nat → Nat → Nat → Bool) × List Nat × List Nat)) (shared : List (Nat × List σ))
    (hfrom : ∀ e ∈ shared, ∃ w ∈ workers, e ∈ (Sim.tracesO P w.1 0 w.2.1 w.2.2 {}).disc) :
    ∀ e ∈ shared,
      P.M.IsPath e.2 ∧ e.1 < P.props.length ∧
      (∀ pr, P.props[e.1]? = some pr →
        (pr.exp = .always → ∃ s, e.2.getLast? = some s ∧ pr.cond s = false) ∧
        (pr.exp = .sometimes → ∃ s, e.2.getLast? = some s ∧ pr.cond s = true) ∧
        (pr.exp = .eventually → (∀ t ∈ e.2, pr.cond t = false) ∧
          ((∃ t, e.2.getLast? = some t ∧ P.M.succB t = []) ∨ Sim.CyclesBack P e.2))) := by
  intro e he
  obtain ⟨w, _, hw⟩ := hfrom e he
  have h := C03_sim_worker P hkc w.1 w.2.1 w.2.2 e hw
  exact ⟨h.path, h.idx, fun pr hpr => ⟨(h.wit pr hpr).1, (h.wit pr hpr).2, fun hev => h.ev pr hpr hev⟩⟩

/-! ### Non-vacuity and regression witness: the graph of defect F4 (`0→{1,2}, 2→3`, properties
`[eventually (= 2), always true]`).  The machine, like the code, reports `[0, 1]`, not `[0, 2, 3]`. -/

def f4Graph : Graph :=
  { n := 4, init := [0], adj := [[some 1, some 2], [], [some 3], []], bnd := [true, true, true, true] }

def f4Params : Params Nat Nat Nat :=
  { M := f4Graph.toSys,
    props := [{ exp := .eventually, cond := fun s => s == 2 }, { exp := .always, cond := fun _ => true }],
    key := id, cfg := {}, finishMatches := fun d => d.length == 2 }

example : (runSingle f4Params .bfs 200).disc = [(0, [0, 1])] := by decide
example : (runSingle f4Params .dfs 200).disc = [(0, [0, 1])] := by decide

/-- the graph of defect F5 (`0→{1 (outside), 2 (satisfies, terminal)}`): the simulation reports nothing, whichever
    action is chosen first -/
def f5Graph : Graph :=
  { n := 3, init := [0], adj := [[some 1, some 2], [], []], bnd := [true, false, true] }
def f5Params : Params Nat Nat Nat :=
  { M := f5Graph.toSys, props := [{ exp := .eventually, cond := fun s => s == 2 }],
    key := id, cfg := { target := some 1 }, finishMatches := fun d => d.length == 1 }
example : (Sim.runTraces f5Params 10 3 [0, 0, 0] {}).disc = [] := by decide
example : (Sim.runTraces f5Params 10 3 [0, 1, 0] {}).disc = [] := by decide

/-- a worker of a multi-threaded simulation: with nobody else discovering anything it records the counterexample `[0, 1]`
    of the eventually-property; told (oracle) that a colleague has already inserted one, it records nothing -/
example : (Sim.tracesO f4Params (fun _ _ _ => false) 0 [10] [0, 0, 0] {}).disc = [(0, [0, 1])] := by decide
example : (Sim.tracesO f4Params (fun _ _ i => i == 0) 0 [10] [0, 0, 0] {}).disc = [] := by decide

end SR.C03
