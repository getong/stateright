import SR.Proofs.SemBruteComplete
import SR.Sem.Objects
/-!
# C08 / C14 — the brute-force consistency oracle is sound and complete

The run-time oracle of C08 / C14 (`SR/Sem/Brute.lean`, used by the driver command `o-ser` in
`SR/Drv/Sem.lean`) judges every history independently of the testers: `bruteDfs rt spec s0 es want`
(pruned enumeration; `want = none`: is there any serialization, `want = some l`: is `l` one) and `brutePlain`
(every subset of the in-flight operations × every permutation, the definition tested literally; used as a
self-check of the former on histories with ≤ 6 operations). `rt = true` is the linearizability reading
(`IsLinearization`), `rt = false` the sequential-consistency reading (`IsSeqCons`); both are
`IsSerialization rt` of `SR/Sem/Spec.lean`.

Proved here, for every sequential specification (no `Lawful` hypothesis: the oracle only uses `invoke`),
every initial object, every event list, both readings: both enumerations are sound and complete, so the
oracle can neither call an inconsistent history consistent nor a consistent one inconsistent.

No size guard, no external fuel: `bruteDfs` runs `dfsPerm` with fuel = number of candidate operations, which
the completeness proof shows to be enough (`dfsPerm_spec`: any fuel `≥ rem.length`); `brutePlain` has no
fuel at all. (The driver applies the guard "≤ 6 operations" only to the *self-check* `brutePlain = bruteDfs`;
the verdict itself always comes from `bruteDfs`, so there is no "too big" answer and none is needed.)
-/
namespace SR.C08
open SR.Sem

variable {S Op Ret : Type} [DecidableEq Op] [DecidableEq Ret] (spec : SeqSpec S Op Ret) (s0 : S)

/-- soundness of both enumerations, both readings -/
theorem C08_oracle_sound (rt : Bool) (es : List (Event Op Ret)) :
    (∀ want ids, bruteDfs rt spec s0 es want = some ids →
      WellFormed es ∧ ∃ l, IsSerializationOf rt spec s0 es ids l ∧ ∀ w, want = some w → w = l) ∧
    (∀ ids l, (ids, l) ∈ brutePlainAll rt spec s0 es → IsSerializationOf rt spec s0 es ids l) ∧
    (brutePlain rt spec s0 es = true → WellFormed es ∧ ∃ l, IsSerialization rt spec s0 es l) :=
  ⟨bruteDfs_sound rt spec s0 es, fun ids l => (mem_brutePlainAll rt spec s0 es ids l).1,
    (brutePlain_iff rt spec s0 es).1⟩

/-- completeness of both enumerations, both readings -/
theorem C08_oracle_complete (rt : Bool) (es : List (Event Op Ret)) (hwf : WellFormed es) (l : List (Op × Ret))
    (h : IsSerialization rt spec s0 es l) :
    (∃ ids' l', bruteDfs rt spec s0 es none = some ids' ∧ IsSerializationOf rt spec s0 es ids' l') ∧
    (∃ ids', bruteDfs rt spec s0 es (some l) = some ids' ∧ IsSerializationOf rt spec s0 es ids' l) ∧
    brutePlain rt spec s0 es = true ∧
    (∀ ids, IsSerializationOf rt spec s0 es ids l → (ids, l) ∈ brutePlainAll rt spec s0 es) := by
  obtain ⟨ids, hl⟩ := h
  refine ⟨?_, ?_, (brutePlain_iff rt spec s0 es).2 ⟨hwf, l, ids, hl⟩,
    fun ids' => (mem_brutePlainAll rt spec s0 es ids' l).2⟩
  · obtain ⟨ids', hd⟩ := Option.isSome_iff_exists.1 (bruteDfs_complete rt spec s0 es hwf ids l hl none fun _ h => nomatch h)
    obtain ⟨_, l', hl', _⟩ := bruteDfs_sound rt spec s0 es none ids' hd
    exact ⟨ids', l', hd, hl'⟩
  · obtain ⟨ids', hd⟩ := Option.isSome_iff_exists.1 (bruteDfs_complete rt spec s0 es hwf ids l hl (some l) fun _ h => (Option.some.inj h).symm)
    obtain ⟨_, l', hl', hw⟩ := bruteDfs_sound rt spec s0 es (some l) ids' hd
    exact ⟨ids', hd, hw l rfl ▸ hl'⟩

/-- the verdict of the oracle, either reading, without assuming well-formedness; by the last conjunct the driver's
    self-check `oracle-self-check-plain-vs-pruned` can never fire -/
theorem C08_oracle_verdict (rt : Bool) (es : List (Event Op Ret)) :
    ((bruteDfs rt spec s0 es none).isSome = true ↔ WellFormed es ∧ ∃ l, IsSerialization rt spec s0 es l) ∧
    (∀ l, (bruteDfs rt spec s0 es (some l)).isSome = true ↔ WellFormed es ∧ IsSerialization rt spec s0 es l) ∧
    brutePlain rt spec s0 es = (bruteDfs rt spec s0 es none).isSome := by
  have h := bruteDfs_isSome_iff rt spec s0 es
  refine ⟨by simp [h], fun l => by simp [h], ?_⟩
  rw [Bool.eq_iff_iff, brutePlain_iff, h]
  simp

/-- linearizability reading, on well-formed histories -/
theorem C08_oracle_iff (es : List (Event Op Ret)) (hwf : WellFormed es) :
    ((bruteDfs true spec s0 es none).isSome = true ↔ ∃ l, IsLinearization spec s0 es l) ∧
    (brutePlain true spec s0 es = true ↔ ∃ l, IsLinearization spec s0 es l) ∧
    (∀ l, (bruteDfs true spec s0 es (some l)).isSome = true ↔ IsLinearization spec s0 es l) :=
  brute_iff_of_wellFormed true spec s0 es hwf

/-- sequential-consistency reading: the same with `IsSeqCons` -/
theorem C14_oracle_iff (es : List (Event Op Ret)) (hwf : WellFormed es) :
    ((bruteDfs false spec s0 es none).isSome = true ↔ ∃ l, IsSeqCons spec s0 es l) ∧
    (brutePlain false spec s0 es = true ↔ ∃ l, IsSeqCons spec s0 es l) ∧
    (∀ l, (bruteDfs false spec s0 es (some l)).isSome = true ↔ IsSeqCons spec s0 es l) :=
  brute_iff_of_wellFormed false spec s0 es hwf

/-- an ill-formed history is never judged consistent by the oracle, in either reading -/
theorem C08_oracle_illformed (rt : Bool) (es : List (Event Op Ret)) (h : ¬ WellFormed es)
    (want : Option (List (Op × Ret))) :
    bruteDfs rt spec s0 es want = none ∧ brutePlain rt spec s0 es = false := by
  constructor
  · rw [← Option.not_isSome_iff_eq_none, bruteDfs_isSome_iff]
    exact fun h' => h h'.1
  · rw [← Bool.not_eq_true, brutePlain_iff]
    exact fun h' => h h'.1

/-- whatever `bruteDfs false` returns orders a sequentially consistent serialization of a well-formed history -/
theorem C14_oracle_sound (es : List (Event Op Ret)) (want : Option (List (Op × Ret))) (ids : List OpId)
    (h : bruteDfs false spec s0 es want = some ids) :
    WellFormed es ∧ ∃ l, IsSeqCons spec s0 es l ∧ IsSerializationOf false spec s0 es ids l ∧ ∀ w, want = some w → w = l := by
  obtain ⟨hwf, l, hl, hw⟩ := (C08_oracle_sound spec s0 false es).1 want ids h
  exact ⟨hwf, l, ⟨ids, hl⟩, hl, hw⟩

/-- a sequentially consistent serialization of a well-formed history is found by both enumerations -/
theorem C14_oracle_complete (es : List (Event Op Ret)) (hwf : WellFormed es) (l : List (Op × Ret))
    (h : IsSeqCons spec s0 es l) :
    (∃ ids' l', bruteDfs false spec s0 es none = some ids' ∧ IsSeqCons spec s0 es l' ∧
      IsSerializationOf false spec s0 es ids' l') ∧
    (∃ ids', bruteDfs false spec s0 es (some l) = some ids' ∧ IsSerializationOf false spec s0 es ids' l) ∧
    brutePlain false spec s0 es = true := by
  obtain ⟨⟨ids', l', h1, h1'⟩, h2, h3, _⟩ := C08_oracle_complete spec s0 false es hwf l h
  exact ⟨⟨ids', l', h1, ⟨ids', h1'⟩, h1'⟩, h2, h3⟩

/-! ## non-vacuity -/
section examples

/-- thread 0 reads 'B' = 66 from a register holding 'A' = 65 while thread 1's `Write('B')` is still in
    flight: the only serialization orders the in-flight write first -/
def o1 : List (Event (RegOp Nat) (RegRet Nat)) := [.inv 0 .read, .inv 1 (.write 66), .ret 0 (.readOk 66)]

example : wfB o1 = true := by decide
example : WellFormed o1 := (wfB_iff o1).1 (by decide)
example : completedIds o1 = [(0, 0)] ∧ inflightIds o1 = [(1, 0)] := by decide
/-- both enumerations find it: the in-flight write `(1, 0)` before the read `(0, 0)` -/
example : bruteDfs true (register Nat) 65 o1 none = some [(1, 0), (0, 0)] := by decide
example : brutePlainAll true (register Nat) 65 o1 =
    [([(1, 0), (0, 0)], [(.write 66, .writeOk), (.read, .readOk 66)])] := by decide
example : brutePlain true (register Nat) 65 o1 = true := by decide
example : bruteDfs true (register Nat) 65 o1 (some [(.write 66, .writeOk), (.read, .readOk 66)]) =
    some [(1, 0), (0, 0)] := by decide
/-- the other order, and the read alone, are rejected -/
example : bruteDfs true (register Nat) 65 o1 (some [(.read, .readOk 66), (.write 66, .writeOk)]) = none := by decide
example : bruteDfs true (register Nat) 65 o1 (some [(.read, .readOk 66)]) = none := by decide
/-- hence (soundness) the declarative definition holds of it, and the hypotheses of `C08_oracle_complete` are
    satisfiable -/
example : IsLinearization (register Nat) 65 o1 [(.write 66, .writeOk), (.read, .readOk 66)] :=
  ((C08_oracle_iff (register Nat) 65 o1 ((wfB_iff o1).1 (by decide))).2.2 _).1 (by decide)
example : ¬ IsLinearization (register Nat) 65 o1 [(.read, .readOk 66)] := by
  rw [← (C08_oracle_iff (register Nat) 65 o1 ((wfB_iff o1).1 (by decide))).2.2 _]; decide
/-- without the in-flight write the history is inconsistent in both readings -/
def o2 : List (Event (RegOp Nat) (RegRet Nat)) := [.inv 0 .read, .ret 0 (.readOk 66)]
example : ¬ ∃ l, IsSeqCons (register Nat) 65 o2 l := by
  rw [← (C14_oracle_iff (register Nat) 65 o2 ((wfB_iff o2).1 (by decide))).1]; decide

/-- the write completed before the read was invoked, yet the read returns the old value: sequentially
    consistent (read ordered first) but not linearizable — the two readings of the oracle differ -/
def o3 : List (Event (RegOp Nat) (RegRet Nat)) :=
  [.inv 1 (.write 66), .ret 1 .writeOk, .inv 0 .read, .ret 0 (.readOk 65)]
example : bruteDfs true (register Nat) 65 o3 none = none := by decide
example : bruteDfs false (register Nat) 65 o3 none = some [(0, 0), (1, 0)] := by decide
example : brutePlain true (register Nat) 65 o3 = false ∧ brutePlain false (register Nat) 65 o3 = true := by decide
example : (¬ ∃ l, IsLinearization (register Nat) 65 o3 l) ∧ ∃ l, IsSeqCons (register Nat) 65 o3 l := by
  have hwf : WellFormed o3 := (wfB_iff o3).1 (by decide)
  rw [← (C08_oracle_iff (register Nat) 65 o3 hwf).1, ← (C14_oracle_iff (register Nat) 65 o3 hwf).1]
  decide

/-- ill-formed (second invocation while one is in flight): never consistent -/
example : bruteDfs false (register Nat) 65
    ([.inv 9 (.write 66), .inv 9 (.write 67), .ret 9 .writeOk] : List (Event (RegOp Nat) (RegRet Nat))) none = none := by
  decide
end examples

end SR.C08
