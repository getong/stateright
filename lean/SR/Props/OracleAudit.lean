import SR.Proofs.CompleteRun
import SR.Drv.C20
import SR.Drv.C10
import SR.Props.C12
import SR.Props.C20
import SR.Proofs.OracleAudit
import SR.Proofs.VClock
import SR.Drv.C06
import SR.Proofs.SemBrute
import SR.Props.C19
import SR.Proofs.Checker.SpecAdequacy
/-!
An oracle command (`o-…` of `SR/Drv/*.lean`) evaluates an executable predicate on the IMPLEMENTATION's outputs; a `VIOLATION`
line is only as good as that predicate.  Here the predicates that SEARCH or ENUMERATE (an incomplete search is a miss or a
false alarm) and the ones that re-state a theorem in executable form are tied to the declarative statements of `SR/Props/*`.
The table of ALL oracle commands with their status is `/verif/notes/oracles.md`.
-/
namespace SR.COracleAudit
open SR

section C10
open SR.RW SR.Hash

/-- **`o-orbit` tries every permutation, and only permutations** -/
theorem C10_oracle_perms (n : Nat) (π : List Nat) : π ∈ perms n ↔ π.Perm (List.range n) := by
  induction n generalizing π with
  | zero => simp [perms]
  | succ n ih =>
    simp only [perms, List.mem_flatMap, List.mem_map, List.mem_range, ih]
    constructor
    · rintro ⟨σ, hσ, k, _, rfl⟩
      refine List.perm_middle.trans ?_
      rw [List.take_append_drop]
      exact perm_range_succ hσ
    · intro h
      obtain ⟨a, b, rfl⟩ := List.append_of_mem (h.mem_iff.2 (List.mem_range.2 (Nat.lt_succ_self n)))
      have h3 : (a ++ b).Perm (List.range n) :=
        ((List.perm_middle.symm.trans h).trans (perm_range_succ (List.Perm.refl _)).symm).cons_inv
      have hlen : a.length + b.length = n := by
        rw [← List.length_append, h3.length_eq, List.length_range]
      refine ⟨a ++ b, h3, a.length, by omega, ?_⟩
      rw [List.take_left' rfl, List.drop_left' rfl]

/-- **`o-orbit` is exact**: the test `inOrbit b` of the command succeeds iff the implementation's representative `y` is
    (`eqB`: hash tables modulo order) the image `applyPerm b π x` of the state under SOME permutation `π` of the actor indices
    (`b = true`: ids inside timer values renamed too, the full-strength reading; `b = false`: what the code does, F12); and
    the `panic` branch accepts a panic iff NO permutation has an image -/
theorem C10_oracle_orbit {s m t r h : Ty} (x y : St s m t r h) (b : Bool) :
    (inOrbit b x y = true ↔
      ∃ π : List Nat, π.Perm (List.range x.actors.length) ∧ ∃ z, applyPerm b π x = some z ∧ z.eqB y = true) ∧
    ((perms x.actors.length).all (fun π => (applyPerm false π x).isNone) = true ↔
      ∀ π : List Nat, π.Perm (List.range x.actors.length) → applyPerm false π x = none) := by
  constructor
  · simp only [inOrbit, List.any_eq_true, C10_oracle_perms]
    refine exists_congr fun π => and_congr_right fun _ => ?_
    cases applyPerm b π x with
    | none => simp
    | some z => simp
  · simp only [List.all_eq_true, C10_oracle_perms, Option.isNone_iff_eq_none]

theorem C10_oracle_orbit_handle (sty stx res : SExp) (s m t r h : Ty) (v rv : Val (Ty.state s m t r h))
    (h1 : Drv.C10.stateTys sty = some (s, m, t, r, h)) (h2 : decodeVal (Ty.state s m t r h) stx = some v)
    (h3 : res ≠ .atom "panic") (h4 : decodeVal (Ty.state s m t r h) res = some rv) :
    Drv.C10.handle "o-orbit" [sty, stx, res] = some (orbitAnswer (St.ofVal v) (St.ofVal rv)) ∧
    (orbitAnswer (St.ofVal v) (St.ofVal rv) = "ok" ↔ inOrbit true (St.ofVal v) (St.ofVal rv) = true) := by
  constructor
  · -- `whnf` evaluates the handler's match on the command name; unfolding `handle` by `simp` would first have to
    -- derive an equation for each of its branches
    conv => lhs; whnf
    simp only [h1, h2, h4, bind, Option.bind, pure]
    rfl
  · show (if inOrbit true (St.ofVal v) (St.ofVal rv) = true then "ok"
      else if inOrbit false (St.ofVal v) (St.ofVal rv) = true then _ else _) = "ok" ↔ _
    cases inOrbit true (St.ofVal v) (St.ofVal rv) <;> cases inOrbit false (St.ofVal v) (St.ofVal rv) <;> simp

/-- **`o-plan`** tests the conclusions of `C10_plan_perm` and `C10_plan_iff` (sorted + stable) -/
theorem C10_oracle_plan {V : Type} (le : V → V → Bool) (vs : List V) (plan : List Nat) :
    (planBij vs.length plan && planOrdered le vs plan) = true ↔
      plan.Perm (List.range vs.length) ∧
      ∀ i j, i < j → j < vs.length → ∀ a b pi pj, vs[i]? = some a → vs[j]? = some b →
        plan[i]? = some pi → plan[j]? = some pj → (pi < pj ↔ le a b = true) := by
  rw [Bool.and_eq_true, planBij, countB_iff_perm]
  refine and_congr_right fun hp => ?_
  simp only [planOrdered, List.all_eq_true, List.mem_range]
  have key : ∀ (c : Bool) (pi pj : Nat),
      (if c then decide (pi < pj) else decide (pj < pi)) = true ↔ pi ≠ pj ∧ (pi < pj ↔ c = true) := by
    intro c pi pj
    cases c <;> simp <;> omega
  constructor
  · intro ho i j hij hj a b pi pj ha hb hpi hpj
    have h := ho i (Nat.lt_trans hij hj) j hj
    simp only [hij, if_true, ha, hb, hpi, hpj] at h
    exact ((key _ _ _).1 h).2
  · intro ho i hi j hj
    split
    · rename_i hij
      have hlen : plan.length = vs.length := by rw [hp.length_eq, List.length_range]
      have hi' : i < plan.length := hlen ▸ hi
      have hj' : j < plan.length := hlen ▸ hj
      rw [List.getElem?_eq_getElem hi, List.getElem?_eq_getElem hj, List.getElem?_eq_getElem hi',
        List.getElem?_eq_getElem hj']
      -- `plan` has no repetition, so the two entries differ
      exact (key _ _ _).2 ⟨fun he => Nat.ne_of_lt hij ((List.getElem_inj (perm_range_nodup hp)).1 he),
        ho i j hij hj _ _ _ _ (List.getElem?_eq_getElem hi) (List.getElem?_eq_getElem hj)
          (List.getElem?_eq_getElem hi') (List.getElem?_eq_getElem hj')⟩
    · rfl

theorem C10_oracle_plan_handle (ty vsx planx : SExp) (τ : Ty) (vs : List (Val τ)) (plan : List Nat)
    (h1 : decodeTy ty = some τ) (h2 : decodeVal (.vec τ) vsx = some vs) (h3 : planx.nats? = some plan) :
    Drv.C10.handle "o-plan" [ty, vsx, planx] =
      some (if !planBij vs.length plan then "plan-not-a-bijection"
            else if !planOrdered (leVal τ) vs plan then "plan-not-the-stable-sorting-permutation" else "ok") := by
  conv => lhs; whnf
  simp only [h1, h2, h3, bind, Option.bind, pure]
  unfold planBij planOrdered
  congr
  funext i
  congr
  funext j
  cases vs[i]? <;> cases vs[j]? <;> cases plan[i]? <;> cases plan[j]? <;> rfl

/-- the counting test shared by `o-plan`, `o-dnm-from`, `o-plan-reindex`, `isStableSortPlan` -/
theorem C10_oracle_count_perm (n : Nat) (l : List Nat) :
    (l.length == n && (List.range n).all (fun k => l.count k == 1)) = true ↔ l.Perm (List.range n) :=
  countB_iff_perm n l

example : (perms 3).length = 6 ∧ [2, 0, 1] ∈ perms 3 ∧ [0, 0, 1] ∉ perms 3 := by decide
example : planBij 3 [2, 0, 1] = true ∧ planBij 3 [0, 0, 1] = false ∧ planBij 3 [0, 1] = false := by decide
end C10

section C19
open SR.PathApi SR.Drv.C19

/-- **`endStates` is exact** (`o-view`): it lists the final states of ALL executions of the model with fingerprint sequence
    `fps` — no first-match walk, no injectivity of `key` assumed.  (So `o-view` says `no-execution-but-not-404` exactly when
    no execution has these fingerprints, and accepts the rows of any execution's final state.) -/
theorem C19_oracle_endStates (M : Sys Nat Nat) (key : Nat → Nat) (fps : List Nat) (t : Nat) :
    t ∈ endStates M key fps ↔ ∃ p, IsExec M p ∧ encode key p = fps ∧ lastState p = some t := by
  have hstart : ∀ fp s, s ∈ (M.init.filter (fun s => key s == fp)).eraseDups ↔ s ∈ M.init ∧ key s = fp := by
    simp
  constructor
  · intro h
    cases fps with
    | nil => cases h
    | cons fp rest =>
      obtain ⟨s, hs, p, hp, he, hl⟩ := endFold_sound M key rest _ t h
      obtain ⟨hi, rfl⟩ := (hstart fp s).1 hs
      exact ⟨p, ⟨s, hi, hp⟩, he, hl⟩
  · rintro ⟨p, ⟨s, hs, hp⟩, rfl, hl⟩
    rw [encode_execFrom key hp]
    exact endFold_complete M key hp _ ((hstart _ s).2 ⟨hs, rfl⟩) t hl

/-- `o-disc`: "discovery = genuine witness" -/
theorem C19_oracle_path (M : Sys Nat Nat) (p : List Nat) : isInBoundaryPath M p = true ↔ M.IsPath p := by
  cases p with
  | nil => simp [isInBoundaryPath, Sys.IsPath]
  | cons s rest =>
    simp only [isInBoundaryPath, Bool.and_eq_true, isInBoundaryPath_chain_iff, Sys.IsPath]
    constructor
    · rintro ⟨h1, h2⟩
      exact ⟨s, rest, rfl, by simpa using h1, h2⟩
    · rintro ⟨s', r', he, h1, h2⟩
      cases he
      exact ⟨by simpa using h1, h2⟩

/-- **`reachSet` is exact** (`o-disc`, completed runs) when the reachable states are numbered below `n`: the fuel
    `n*n + n + 1` is never exhausted, the list is the set of reachable in-boundary states, each once (so its length is the
    number `unique_state_count` must equal) -/
theorem C19_oracle_reachSet (M : Sys Nat Nat) (n : Nat) (hb : ∀ x, M.Reach x → x < n) :
    (∀ x, x ∈ reachSet M n ↔ M.Reach x) ∧ (reachSet M n).Nodup := by
  obtain ⟨work', h, hw⟩ := go_winv M (n * n + n + 1) _ _ (winv_init M)
  -- at most `n` states are ever seen (`hl`), while `hw` would give `n*n + n + 1 + work'.length ≤` their number (any fuel
  -- above `n` would do; the driver's constant is generous)
  have hl := nodup_lt_length_le h.nodup (fun x hx => hb x (h.reach x hx))
  obtain rfl : work' = [] := hw.resolve_right (by omega)
  exact ⟨winv_done h, h.nodup⟩

/-- **`graph?` accepts well-formed graphs only**: every initial state and every edge target
    of a decoded graph is a state number `< n`, hence every reachable state is — so `C19_oracle_reachSet` applies to EVERY
    graph an oracle command of `Drv/C19.lean` judges (an ill-formed one is answered `bad-request`) -/
theorem C19_oracle_graph_wf (x : SExp) (g : LGraph) (h : graph? x = some g) :
    LWF g ∧ (∀ s, g.toSys.Reach s → s < g.n) ∧
    (∀ s, s ∈ reachSet g.toSys g.n ↔ g.toSys.Reach s) ∧ (reachSet g.toSys g.n).Nodup := by
  have hwf := graph?_wf x g h
  have hb := lwf_reach_lt hwf
  exact ⟨hwf, hb, C19_oracle_reachSet g.toSys g.n hb⟩

theorem C19_oracle_reachSet_sound (M : Sys Nat Nat) (n : Nat) : ∀ x ∈ reachSet M n, M.Reach x :=
  (go_winv M _ _ _ (winv_init M)).elim fun _ h => h.1.reach

/-- without the bound `reachSet` is NOT complete — a remark about the function itself: the graph `illLG` declares `n = 0`
    states but has the chain `0 → 1 → 2`; the worklist runs out of fuel (`0*0+0+1 = 1` pop) and answers `[0, 1]`.  Were
    `(g 0 (0) (((0 1)) ((0 2)) ()) …)` judged, `o-disc` would demand `unique = 2` and miss a violation in state 2; the graph
    is not well-formed (`¬ LWF`), so by `C19_oracle_graph_wf` it is refused (`bad-request`). -/
theorem C19_oracle_reachSet_ill_formed :
    reachSet illLG.toSys illLG.n = [0, 1] ∧ illLG.toSys.Reach 2 ∧ ¬ LWF illLG := by
  have h0 : illLG.toSys.Reach 0 := Sys.Reach.init (by decide)
  have h1 : illLG.toSys.Reach 1 := Sys.Reach.step h0 (by decide)
  exact ⟨by decide, Sys.Reach.step h1 (by decide), fun h => absurd (h.1 0 (by decide)) (by decide)⟩

example : endStates C19.exM C19.exKey [100, 102, 103] = [3] ∧ endStates C19.exM C19.exKey [100, 103] = [] ∧
    endStates C19.exM (fun _ => 7) [7, 7] = [1, 2] := by decide
example : reachSet C19.exM 4 = [0, 1, 2, 3] := by decide
end C19

section C07
open SR.Actor SR.Drv.C07 SR.C07

/-- **ordered network**: `refQueue` is THE solution of the equation of `C07_ordered` (`removed ++ queue = sent`), and on
    every valid run from the empty network it is the model's queue -/
theorem C07_oracle_refQueue (h : List NetOp) (f : Nat × Nat) :
    (∀ q, removedOn f h ++ q = sentOn f h → refQueue h f = q) ∧
    (∀ n, Net.run (Net.ord []) h = some n → refQueue h f = n.queue f) :=
  ⟨refQueue_unique h f, fun _ hr => refQueue_run hr f⟩

/-- **non-duplicating network**: `refCount` is THE solution of the conservation law of `C07_nondup`, answers `none` exactly
    when the history removes more copies than were sent, and is the model's count on every valid run -/
theorem C07_oracle_refCount (h : List NetOp) (e : Env) :
    (∀ c, c + deliveredCount e h + droppedCount e h = sentCount e h → refCount h e = some c) ∧
    (refCount h e = none ↔ sentCount e h < deliveredCount e h + droppedCount e h) ∧
    (∀ n, Net.run (Net.nondup []) h = some n → refCount h e = some (n.count e)) := by
  refine ⟨refCount_unique h e, ?_, ?_⟩
  · rw [refCount_spec]
    split
    · simp
      omega
    · simp
      omega
  · exact fun _ hr => refCount_run hr e

/-- **duplicating network**: `refPresent` is the right-hand side of `C07_dup`, and on every valid run from the empty set it
    is membership in the model's contents -/
theorem C07_oracle_refPresent (h : List NetOp) (e : Env) :
    (refPresent h e = true ↔ lastSD e h = some true) ∧
    (∀ last n, Net.run (Net.dup [] last) h = some n → (refPresent h e = true ↔ e ∈ n.contents)) :=
  ⟨refPresent_iff h e, fun _ _ hr => refPresent_run hr e⟩

example : refQueue [.send ⟨0, 1, 7⟩, .send ⟨0, 1, 8⟩, .deliver ⟨0, 1, 7⟩, .send ⟨0, 1, 7⟩, .drop ⟨0, 1, 8⟩] (0, 1) = [7] ∧
    refCount [.send ⟨0, 1, 7⟩, .send ⟨0, 1, 7⟩, .deliver ⟨0, 1, 7⟩] ⟨0, 1, 7⟩ = some 1 ∧
    refCount [.deliver ⟨0, 1, 7⟩] ⟨0, 1, 7⟩ = none ∧
    refPresent [.send ⟨0, 1, 7⟩, .deliver ⟨0, 1, 7⟩, .drop ⟨0, 1, 7⟩] ⟨0, 1, 7⟩ = false ∧
    refPresent [.drop ⟨0, 1, 7⟩, .send ⟨0, 1, 7⟩, .deliver ⟨0, 1, 7⟩] ⟨0, 1, 7⟩ = true := by decide
end C07

section C06
open SR.Actor SR.Actor.Codec SR.Drv.C06

/-- **the candidate enumeration of `o-graph` is complete**: on a state with at most `sys.n + 1` crash flags and a canonical
    network (C07_canonical: every reachable one) every action the specification enables is a candidate, so
    `enabled by the specification but not offered` cannot be missed.  (On a non-canonical network — a zero count, an empty
    queue — `iter_deliverable` may name an envelope that `contents` does not: then a delivery can be missed.) -/
theorem C06_oracle_candidates_complete (sys : USys) (st : USt) (hc : st.net.Canon) (hlen : st.crashed.length ≤ sys.n + 1)
    (a : Action) (h : enabledSpec sys st a) : a ∈ candidates sys st := by
  unfold candidates
  simp only [List.mem_append, List.mem_map, List.mem_flatMap, List.mem_range]
  -- the five blocks of `candidates`, in its order: deliveries, drops, timeouts, crashes, random choices
  cases a with
  | deliver e =>
    have : e ∈ st.net.contents := C07.C07_deliver_only_if_present st.net hc e (Or.inl (by simpa [Net.valid] using h.1))
    exact Or.inl (Or.inl (Or.inl (Or.inl ⟨e, this, rfl⟩)))
  | drop e =>
    have : e ∈ st.net.contents := C07.C07_deliver_only_if_present st.net hc e (Or.inr (by simpa [Net.valid] using h.2))
    exact Or.inl (Or.inl (Or.inl (Or.inr ⟨e, this, rfl⟩)))
  | timeout i t =>
    obtain ⟨ts, hts, ht⟩ := h
    exact Or.inl (Or.inl (Or.inr ⟨(ts, i), List.mk_mem_zipIdx_iff_getElem?.2 hts, t, ht, rfl⟩))
  | crash i =>
    obtain ⟨hi, _⟩ := List.getElem?_eq_some_iff.1 h.2
    exact Or.inl (Or.inr ⟨i, by omega, rfl⟩)
  | selectRandom i k r =>
    obtain ⟨m, cs, hm, hkc, hr⟩ := h
    exact Or.inr ⟨(m, i), List.mk_mem_zipIdx_iff_getElem?.2 hm, (k, cs), hkc, r, hr, rfl⟩

/-- the crash actions `o-crash` expects to be offered (`C09_offered`) are exactly the crashes the specification enables for
    actors `< sys.n`, listed in ascending order (the comparison with the offered list is order-sensitive: the harness
    sorts the actions) -/
theorem C09_oracle_offered (sys : USys) (st : USt) (j : Nat) :
    j ∈ (List.range sys.n).filter (fun j => st.crashed[j]? == some false && countCrashed st.crashed < sys.maxCrashes) ↔
      j < sys.n ∧ enabledSpec sys st (.crash j) := by
  simp only [List.mem_filter, List.mem_range, Bool.and_eq_true, beq_iff_eq, decide_eq_true_eq, enabledSpec]
  constructor
  · rintro ⟨h1, h2, h3⟩
    exact ⟨h1, h3, h2⟩
  · rintro ⟨h1, h3, h2⟩
    exact ⟨h1, h2, h3⟩
end C06

section C16
open SR.Orl SR.Drv.C16

/-- **`o-orl` answers `ok` iff the five clauses (the fields of `PairOk`, each a `C16_*` theorem) hold for every enumerated
    ordered pair** -/
theorem C16_oracle_ok_iff (nodes : List (Node Nat WSt)) (net : List (Packet Nat)) :
    oracle nodes net = [] ↔ ∀ s, s < nodes.length → ∀ d, d ≤ maxId nodes → PairOk nodes net s d := by
  simp only [oracle_eq, List.flatMap_eq_nil_iff, List.mem_range, pairErrs_nil_iff, Nat.lt_add_one_iff]

/-- **the enumeration of destinations loses nothing about nodes**: beyond `maxId` nothing was sent, nothing is pending,
    nothing was handed over — prefix, exactly-once, completeness and no-early-ack-processed hold trivially there.  NOT
    examined: packets in flight from / to an id `> maxId`, and anything handed over from a source `≥` number of nodes. -/
theorem C16_oracle_destinations (nodes : List (Node Nat WSt)) (net : List (Packet Nat)) (s d : Nat) (hd : maxId nodes < d) :
    sentTo ((world nodes net).nodes s) d = [] ∧ handedFrom ((world nodes net).nodes d) s = [] ∧
    ∀ e ∈ ((world nodes net).nodes s).pending, e.1.1 ≠ d := by
  obtain ⟨hlen, hall⟩ : nodes.length ≤ maxId nodes ∧
      ∀ x ∈ (nodes.flatMap fun nd => nd.sent.map (·.1) ++ nd.pending.map (·.1.1)), x ≤ maxId nodes :=
    foldl_max_ge (fun x => x) _ _
  have hS : ∀ i, (∀ e ∈ ((world nodes net).nodes i).sent, e.1 ≤ maxId nodes) ∧
      ∀ e ∈ ((world nodes net).nodes i).pending, e.1.1 ≤ maxId nodes := by
    intro i
    show (∀ e ∈ (nodes[i]?.getD emptyNode).sent, _) ∧ ∀ e ∈ (nodes[i]?.getD emptyNode).pending, _
    cases hs : nodes[i]? with
    | none => exact ⟨fun _ he => (List.not_mem_nil he).elim, fun _ he => (List.not_mem_nil he).elim⟩
    | some S =>
      have hmem := List.mem_of_getElem? hs
      exact ⟨fun e he => hall _ (List.mem_flatMap.2 ⟨S, hmem, List.mem_append_left _ (List.mem_map_of_mem he)⟩),
        fun e he => hall _ (List.mem_flatMap.2 ⟨S, hmem, List.mem_append_right _ (List.mem_map_of_mem he)⟩)⟩
  refine ⟨?_, ?_, ?_⟩
  · rw [sentTo, List.map_eq_nil_iff, List.filter_eq_nil_iff]
    intro e he hed
    have := (hS s).1 e he
    rw [of_decide_eq_true hed] at this
    exact Nat.not_le.2 hd this
  · show handedFrom (nodes[d]?.getD emptyNode) s = []
    rw [List.getElem?_eq_none (by omega)]
    rfl
  · intro e he hed
    have := (hS s).2 e he
    rw [hed] at this
    exact Nat.not_le.2 hd this
end C16

section C20
open SR.VClock SR.Drv.C20 SR.DNM

theorem C20_oracle_specCmp_model (a b : Clock) : specCmp a b = partialCmp a b := by
  -- an `any` test is `false` exactly when the opposite `∀ … ≤` of `partialCmp_eq` holds; what remains is the 2 × 2 table
  have hl := VClock.anyLt_eq_false_iff a b
  have hg := VClock.anyLt_eq_false_iff b a
  rw [Nat.max_comm] at hg
  rw [partialCmp_eq, ← hl, ← hg]
  unfold specCmp
  dsimp only
  cases (List.range (max a.length b.length)).any fun i => decide (get0 a i < get0 b i) <;>
  cases (List.range (max a.length b.length)).any fun i => decide (get0 b i < get0 a i) <;>
  simp

/-- **`specCmp` (`o-vc-*`) is the product order** (right-hand sides of `C20_cmp_spec`) -/
theorem C20_oracle_specCmp (a b : Clock) :
    (specCmp a b = some .eq ↔ C20.Equiv a b) ∧
    (specCmp a b = some .lt ↔ C20.Le a b ∧ ∃ i, get0 a i < get0 b i) ∧
    (specCmp a b = some .gt ↔ C20.Le b a ∧ ∃ i, get0 b i < get0 a i) ∧
    (specCmp a b = none ↔ (∃ i, get0 a i < get0 b i) ∧ ∃ j, get0 b j < get0 a j) := by
  rw [C20_oracle_specCmp_model]
  exact C20.C20_cmp_spec a b

/-- the key test of `o-dnm-from` decides the right-hand side of `C20_dnm_gaps` -/
theorem C20_oracle_dnm_from {V : Type} (ps : List (Nat × V)) :
    (List.range ps.length).all (fun k => (ps.map (·.1)).count k == 1) = true ↔
      (ps.map (·.1)).Perm (List.range ps.length) := by
  rw [← countB_iff_perm]
  simp

theorem C20_oracle_dnm_rewrite_handle (px mx md rx : SExp) (plan m res : List Nat) (mode : String)
    (h1 : px.nats? = some plan) (h2 : mx.nats? = some m) (h3 : md.str? = some mode)
    (h4 : rx ≠ .atom "panic") (h5 : rx.nats? = some res) :
    Drv.C20.handle "o-dnm-rewrite" [px, mx, md, rx] =
      some (if !dnmRwApplicable plan m (mode == "kv") then "ok" else dnmRwAnswer plan m (mode == "kv") res) := by
  conv => lhs; whnf
  simp only [h1, h2, h3, h5, bind, Option.bind, pure]
  exact (apply_ite some _ _ _).symm

/-- **`o-dnm-rewrite` is adequate**: the guard holds exactly under the hypotheses of the law `C20_dnm_rewrite` (the plan
    permutes the map's keys; for id values every value lies inside the plan); where it holds the verdict is `ok` iff the
    CONCLUSION of the law holds of the implementation's result (same length, the value of key `k`, rewritten, sits at key
    `plan[k]`), and the result the law describes (the model's `rewrite`) exists and is accepted -/
theorem C20_oracle_dnm_rewrite (plan m : List Nat) (kv : Bool) :
    (dnmRwApplicable plan m kv = true ↔
      plan.Perm (List.range m.length) ∧ (kv = true → ∀ v ∈ m, v < plan.length)) ∧
    (∀ res, dnmRwAnswer plan m kv res = "ok" ↔
      res.length = m.length ∧ ∀ k, k < m.length →
        DNM.get res (plan.getD k k) = (DNM.get m k).map (fun v => if kv then plan.getD v v else v)) ∧
    (dnmRwApplicable plan m kv = true →
      ∃ m', DNM.rewrite (fun k => plan.getD k k) (fun v => if kv then plan.getD v v else v) m = some m' ∧
        dnmRwAnswer plan m kv m' = "ok") := by
  -- the first two conjuncts first: the third reads the guard by one and the verdict by the other
  suffices h : _ ∧ _ from ⟨h.1, h.2, fun ha => ?_⟩
  · obtain ⟨hp, _⟩ := h.1.1 ha
    have hl : plan.length = m.length := by rw [hp.length_eq, List.length_range]
    have hperm : ((List.range m.length).map (fun k => plan.getD k k)).Perm (List.range m.length) := by
      rw [← hl, map_getD_range, hl]
      exact hp
    obtain ⟨m', h1, h2, h3⟩ := C20.C20_dnm_rewrite (fun k => plan.getD k k) (fun v => if kv then plan.getD v v else v) m hperm
    exact ⟨m', h1, (h.2 m').2 ⟨h2, h3⟩⟩
  refine ⟨?_, fun res => ?_⟩
  · unfold dnmRwApplicable
    rw [Bool.and_right_comm, Bool.and_eq_true]
    refine and_congr ?_ ?_
    · rw [← countB_iff_perm, Bool.and_eq_true, Bool.and_eq_true, beq_iff_eq]
      exact and_congr_right fun h => by rw [h]
    · cases kv <;> simp
  · -- `ok` is the answer of the middle branch only
    have hall : ((List.range m.length).all fun k => res[plan.getD k k]? == (m[k]?).map fun v => if kv then plan.getD v v else v) = true ↔
        ∀ k, k < m.length → res[plan.getD k k]? = (m[k]?).map fun v => if kv then plan.getD v v else v := by
      simp only [List.all_eq_true, List.mem_range, beq_iff_eq]
    unfold dnmRwAnswer DNM.get
    rw [← hall]
    by_cases hl : res.length = m.length
    · simp [hl]
    · simp [hl]

/-- **a plan that is no permutation is not judged**: the plan `[0, 0]` has the length of the map `[1, 2]` but does not permute
    its keys; the guard is `false`, so the command answers `ok` (the law says nothing about this plan, and no result could
    satisfy its conclusion) -/
theorem C20_oracle_dnm_rewrite_former_bad_input :
    dnmRwApplicable [0, 0] [1, 2] false = false ∧ ¬ [0, 0].Perm (List.range 2) := by
  refine ⟨by decide, ?_⟩
  intro h
  have := h.mem_iff (a := 1)
  simp at this

example : dnmRwApplicable [1, 0] [5, 6] false = true ∧ dnmRwAnswer [1, 0] [5, 6] false [6, 5] = "ok" ∧
    dnmRwAnswer [1, 0] [5, 6] false [5, 6] ≠ "ok" := by decide

example : specCmp [1, 0] [1] = some .eq ∧ specCmp [1, 2] [2, 1] = none ∧ specCmp [] [0, 3] = some .lt := by decide
end C20

section C12
open SR.HasDisc SR.Drv.C12

/-- **`spec` (the expected answer of `o-hd`) evaluates the declarative meaning** of the variant (`Meaning` = the right-hand
    sides of `C12_matches_*`), answers `none` only for `All` outside the hypotheses of `C12_matches_all` -/
theorem C12_oracle_spec (c : Cond) (D : List Nat) (props : List P) (b : Bool) (h : spec c D props = some b) :
    (b = true ↔ Meaning c D props) ∧ (c = .all → D.Nodup ∧ (names props).Nodup ∧ D ⊆ names props) := by
  cases c with
  | all =>
    simp only [spec, Option.ite_none_right_eq_some, Bool.and_eq_true, nodupB_iff, List.all_eq_true,
      Option.some.injEq] at h
    obtain ⟨⟨⟨h1, h2⟩, h3⟩, rfl⟩ := h
    exact ⟨by simp [Meaning], fun _ => ⟨h1, h2, fun n hn => by simpa using h3 n hn⟩⟩
  | any =>
    cases h
    simp [Meaning]
  | anyFailures =>
    cases h
    simp [Meaning]
  | allFailures =>
    cases h
    simp [Meaning, Decidable.or_iff_not_imp_left]
  | allOf s =>
    cases h
    simp [Meaning]
  | anyOf s =>
    cases h
    simp [Meaning]

theorem C12_oracle_spec_model (c : Cond) (D : List Nat) (props : List P) (b : Bool) (h : spec c D props = some b) :
    «matches» c D props = b := by
  obtain ⟨h1, h2⟩ := C12_oracle_spec c D props b h
  rw [Bool.eq_iff_iff, h1]
  cases c with
  | all => obtain ⟨a1, a2, a3⟩ := h2 rfl; exact C12.C12_matches_all D props a1 a3 a2
  | any => exact C12.C12_matches_any D props
  | anyFailures => exact C12.C12_matches_anyF D props
  | allFailures => exact C12.C12_matches_allF D props
  | allOf s => exact C12.C12_matches_allOf s D props
  | anyOf s => exact C12.C12_matches_anyOf s D props

example : spec .all [0, 7] [⟨0, .always⟩, ⟨1, .sometimes⟩] = none ∧
    spec .anyFailures [1] [⟨0, .always⟩, ⟨1, .sometimes⟩] = some false := by decide
end C12

section C08
open SR.Sem SR.Sem.Tester SR.Drv.Sem
variable {Op Ret : Type}

/-- `firstIllFormed` finds the split of `C08_illformed_split` -/
theorem C08_oracle_first_ill_formed (es : List (Event Op Ret)) :
    (firstIllFormed es = none ↔ WellFormed es) ∧
    (∀ k b, firstIllFormed es = some (k, b) →
      ∃ p e q, es = p ++ e :: q ∧ p.length = k ∧ WellFormed p ∧ ¬ Admissible p e ∧ b = isInv e) := by
  unfold firstIllFormed
  rcases firstIllFormedFrom_total es [] 0 with ⟨h1, h2⟩ | ⟨p, e, q, rfl, h1, h2, h3⟩
  · rw [h1]
    exact ⟨iff_of_true rfl ((wfB_iff es).1 h2), nofun⟩
  · have hp : WellFormed p := (wfB_iff p).1 h2
    have hadm : ¬ Admissible p e := fun hadm =>
      Bool.false_ne_true (h3.symm.trans ((wfB_iff _).2 (wellFormed_snoc.2 ⟨hp, hadm⟩)))
    rw [h1]
    refine ⟨iff_of_false nofun (wellFormed_not_of_split hadm), fun k b h => ?_⟩
    cases h
    exact ⟨p, e, q, rfl, (Nat.zero_add _).symm, hp, hadm, rfl⟩

/-- **`o-res` accepts exactly the result classes of `C08_wellformed_ok` / `C08_illformed`** (`rt = true`) and of
    `C14_wellformed_ok` / `C14_illformed` (`rt = false`): `ok` up to the first inadmissible event, the matching error there,
    "earlier history invalid" ever after — which is the model's `results`, for any initial object -/
theorem C08_oracle_results {S : Type} (rt : Bool) (s0 : S) (es : List (Event Op Ret)) (rs : List Res) :
    oracleResults es rs = "ok" ↔ rs = results rt (Tester.new s0) es := by
  obtain ⟨h1, h2⟩ := C08_oracle_first_ill_formed es
  -- in either case the list `oracleResults` expects is the model's `results`
  have key : ∀ X : List Res, X = results rt (Tester.new s0) es →
      ((if rs == X then "ok" else "result-classes-differ-from-first-ill-formed-event") = "ok" ↔
        rs = results rt (Tester.new s0) es) := by
    rintro _ rfl
    by_cases h : rs = results rt (Tester.new s0) es <;> simp [h]
  unfold oracleResults
  cases hf : firstIllFormed es with
  | none =>
    refine key _ ?_
    rw [results_wellFormed s0 es (h1.1 hf)]
    exact List.map_const'
  | some x =>
    obtain ⟨k, b⟩ := x
    obtain ⟨p, e, q, rfl, rfl, hp, hadm, rfl⟩ := h2 k b hf
    refine key _ ?_
    rw [(illformed_record s0 hp hadm).2]
    exact expect_split p q e
end C08

section Chk
open SR.Checker SR.Drv.Chk

/-- **`witnessOk` (`o-chk c03`, exhaustive checkers) is the conjunction of `C03_known_property`, `C03_path`, `C03_always`,
    `C03_sometimes`, `C03_eventually`** for one reported discovery `(i, p)` -/
theorem C03_oracle_witness (c : Case) (i : Nat) (p : List Nat) :
    witnessOk c i p false = [] ↔
      ∃ pr, c.props[i]? = some pr ∧ c.g.toSys.IsPath p ∧
        (pr.exp = .always → ∃ s, p.getLast? = some s ∧ pr.toProp.cond s = false) ∧
        (pr.exp = .sometimes → ∃ s, p.getLast? = some s ∧ pr.toProp.cond s = true) ∧
        (pr.exp = .eventually → (∀ t ∈ p, pr.toProp.cond t = false) ∧ ∃ s, p.getLast? = some s ∧ c.g.toSys.succB s = []) := by
  unfold witnessOk
  cases hpr : c.props[i]? with
  | none => simp
  | some pr =>
    simp only [Option.some.injEq, exists_eq_left', List.append_eq_nil_iff, ite_singleton_eq_nil, Graph.isPathB_iff]
    refine and_congr_right fun hp => ?_
    -- on a path the last state exists, and is `lastOf p`
    have hl := CCompleteRun.getLast?_lastOf (Sys.isPath_ne_nil hp)
    cases hexp : pr.exp with
    | always => simp [hl, GProp.toProp]
    | sometimes => simp [hl, GProp.toProp]
    | eventually => simp [hl, GProp.toProp, Graph.succB]

/-- the existential the verdict lines of `oracleC02` compute (`reach.any …`) ranges over exactly the reachable states -/
theorem C02_oracle_reach_any (g : Graph) (hwf : g.WF) (f : Nat → Bool) :
    g.reachList.any f = true ↔ ∃ t, g.toSys.Reach t ∧ f t = true :=
  Graph.reachList_any hwf f
end Chk

end SR.COracleAudit
