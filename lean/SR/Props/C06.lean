import SR.Proofs.ActorActions
/-!
# C06 — an actor-model transition is exactly one atomic handler step of one actor

Model: `SR/Actor/Sys.lean` (`init`, `actions`, `step` = transcription of
`ActorModel::{init_states, actions, next_state, process_commands}`), specification side: `SR/Actor/Spec.lean`.
Every theorem quantifies over ALL actor systems `sys` (any handler functions, any alphabets encoded in `Nat`,
any number of actors, each network kind, lossy or not, any history hooks) and all well-formed states
(`St.WF`: one entry per actor in every per-actor vector — an invariant of reachable states, `C06_reach_wf`).

`HandlerStep sys st a st' i ev s ns cmds` is the context shared by the clauses: from the well-formed state
`st` the action `a`, which hands event `ev` to actor `i` in local state `s`, is a transition to `st'`, and
the handler answered `ns` (`some` = `Cow::Owned`, `none` = left borrowed) and the commands `cmds`.
-/
namespace SR.C06
open SR SR.Actor

variable {σ η : Type}

structure HandlerStep (sys : ActorSys σ η) (st : St σ η) (a : Action) (st' : St σ η)
    (i : Nat) (ev : Event) (s : σ) (ns : Option σ) (cmds : List Cmd) : Prop where
  wf : st.WF sys
  trans : step sys st a = .next st'
  event : eventOf a = some (i, ev)
  actor : st.actors[i]? = some s
  result : handler sys i s ev = .ok ns cmds

/-- On well-formed states `next_state` IS the specified step (`specStep`: the successor described component
by component), including where it ignores the action and where it panics. -/
theorem C06_step_spec (sys : ActorSys σ η) (st : St σ η) (a : Action) (hwf : st.WF sys) :
    step sys st a = specStep sys st a := step_eq_specStep sys st a hwf

theorem C06_spec_next {sys : ActorSys σ η} {st st' : St σ η} {a : Action} {i : Nat} {ev : Event} {s : σ}
    {ns : Option σ} {cmds : List Cmd} (c : HandlerStep sys st a st' i ev s ns cmds) :
    specNext sys st a i s ns cmds = some st' ∧ ignoredBy sys ns cmds a = false := by
  obtain ⟨s', ns', cmds', h1, _, h3, h4, h5⟩ :=
    specHandlerStep_next (specStep_handler c.event ▸ step_eq_specStep sys st a c.wf ▸ c.trans)
  rw [c.actor] at h1
  cases h1
  rw [c.result] at h3
  cases h3
  exact ⟨h5, h4⟩

/-- **One handler, one actor, atomically.** Every transition is a Drop (no handler; only the network changes),
a Crash (no handler), or exactly one invocation of the handler of one actor `i` — on the message, the timer
or the random choice the action names, in `i`'s current local state — and then the only actor state that
changes is `i`'s, replaced by the handler's new state (kept if the handler left it borrowed). -/
theorem C06_one_handler (sys : ActorSys σ η) (st st' : St σ η) (a : Action) (hwf : st.WF sys)
    (h : step sys st a = .next st') :
    (∃ e, a = .drop e ∧ st.net.onDrop e = some st'.net ∧ st' = { st with net := st'.net }) ∨
    (∃ i, a = .crash i) ∨
    (∃ i key ev s ns cmds, a = actionOf i key ev ∧ HandlerStep sys st a st' i ev s ns cmds ∧
        st'.actors = st.actors.set i (ns.getD s)) := by
  rcases specStep_next (step_eq_specStep sys st a hwf ▸ h) with ⟨e, net, rfl, hd, rfl⟩ | ⟨i, rfl, _⟩ | ⟨i, ev, hev, hh⟩
  · exact .inl ⟨e, rfl, hd, rfl⟩
  · exact .inr (.inl ⟨i, rfl⟩)
  · obtain ⟨s, ns, cmds, h1, _, h3, _, h5⟩ := specHandlerStep_next hh
    obtain ⟨_, _, _, _, _, _, rfl⟩ := specNext_eq_some h5
    obtain ⟨key, ha⟩ := actionOf_eventOf hev
    exact .inr (.inr ⟨i, key, ev, s, ns, cmds, ha, ⟨hwf, h, hev, h1, h3⟩, rfl⟩)

/-- **Nothing else changes.** The timers, pending choices and local states of every other actor, and all
crash flags, are untouched. -/
theorem C06_frame {sys : ActorSys σ η} {st st' : St σ η} {a : Action} {i : Nat} {ev : Event} {s : σ}
    {ns : Option σ} {cmds : List Cmd} (c : HandlerStep sys st a st' i ev s ns cmds) :
    st'.crashed = st.crashed ∧
    ∀ j, j ≠ i → st'.timers[j]? = st.timers[j]? ∧ st'.random[j]? = st.random[j]? ∧ st'.actors[j]? = st.actors[j]? := by
  obtain ⟨_, _, _, _, _, _, rfl⟩ := specNext_eq_some (C06_spec_next c).1
  refine ⟨rfl, fun j hj => ?_⟩
  simp [List.getElem?_set_ne (Ne.symm hj)]

/-- **Sends enter the network in emission order**: the network after the step is the network after the
action consumed its envelope (delivered: per kind; timeout / random: unchanged) with the handler's sends
applied one by one in the order of the command list. -/
theorem C06_sends_in_order {sys : ActorSys σ η} {st st' : St σ η} {a : Action} {i : Nat} {ev : Event} {s : σ}
    {ns : Option σ} {cmds : List Cmd} (c : HandlerStep sys st a st' i ev s ns cmds) :
    ∃ net, consume st.net a = some net ∧ st'.net = sendAll net (sendsOf i cmds) := by
  obtain ⟨net, _, _, hc, _, _, rfl⟩ := specNext_eq_some (C06_spec_next c).1
  exact ⟨net, hc, rfl⟩

/-- for ordered networks: every flow is its queue after the consumption followed by the messages the handler sent on it, in
emission order -/
theorem C06_sends_fifo {sys : ActorSys σ η} {st st' : St σ η} {a : Action} {i : Nat} {ev : Event} {s : σ}
    {ns : Option σ} {cmds : List Cmd} (c : HandlerStep sys st a st' i ev s ns cmds)
    (ho : st.net.isOrdered = true) :
    ∃ net, consume st.net a = some net ∧ ∀ f : Nat × Nat,
      st'.net.queue f = net.queue f ++ ((sendsOf i cmds).filter (fun e => flowOf e = f)).map (·.msg) := by
  obtain ⟨net, hc, hn⟩ := C06_sends_in_order c
  refine ⟨net, hc, fun f => ?_⟩
  rw [hn, queue_sendAll ((sameKind_isOrdered (sameKind_consume hc)).symm.trans ho)]

/-- **Timers**: the timer set of `i` is the fold of the handler's timer commands (set / cancel, in order) over
`i`'s timers without the fired one. -/
theorem C06_timers {sys : ActorSys σ η} {st st' : St σ η} {a : Action} {i : Nat} {ev : Event} {s : σ}
    {ns : Option σ} {cmds : List Cmd} (c : HandlerStep sys st a st' i ev s ns cmds) :
    ∃ ts, st.timers[i]? = some ts ∧ st'.timers[i]? = some (cmds.foldl applyTimerCmd (firedTimers ts a)) := by
  obtain ⟨_, ts, _, _, ht, _, rfl⟩ := specNext_eq_some (C06_spec_next c).1
  exact ⟨ts, ht, by simp [List.getElem?_set_self (lt_length_of_getElem? ht)]⟩

/-- **Random choices**: the pending choices of `i` are the fold of the handler's choice commands (open /
overwrite a key, remove it when the vector is empty) over `i`'s pending choices without the selected key. -/
theorem C06_random {sys : ActorSys σ η} {st st' : St σ η} {a : Action} {i : Nat} {ev : Event} {s : σ}
    {ns : Option σ} {cmds : List Cmd} (c : HandlerStep sys st a st' i ev s ns cmds) :
    ∃ m, st.random[i]? = some m ∧ st'.random[i]? = some (cmds.foldl applyRandomCmd (selectedRandom m a)) := by
  obtain ⟨_, _, m, _, _, hr, rfl⟩ := specNext_eq_some (C06_spec_next c).1
  exact ⟨m, hr, by simp [List.getElem?_set_self (lt_length_of_getElem? hr)]⟩

/-- declarative reading of the timer fold: after the step a timer is set iff the last command about it sets
it, or no command mentions it and it was set before and did not fire -/
theorem C06_timers_decl (ts : List Nat) (cmds : List Cmd) (t : Nat) :
    t ∈ cmds.foldl applyTimerCmd ts ↔
      match (cmds.filter (fun c => c = .setTimer t || c = .cancelTimer t)).getLast? with
      | some (.setTimer _) => True
      | some _ => False
      | none => t ∈ ts := by
  have := foldl_last_writer applyTimerCmd (t ∈ ·)
    (Option.guard (fun c => c = .setTimer t || c = .cancelTimer t)) (fun c => c matches .setTimer _)
    (fun ts c => ?_) cmds ts
  · rw [this, List.filterMap_eq_filter]
    cases (cmds.filter _).getLast? with
    | none => exact Iff.rfl
    | some x => cases x <;> simp
  -- the hypothesis of `foldl_last_writer`: a `setTimer t` / `cancelTimer t` decides `t ∈ ·` whatever the set was, any other
  -- command leaves it as it was
  · cases c <;> simp [applyTimerCmd, mem_sins, mem_srem, Option.guard] <;> grind

/-- declarative reading of the choice fold: after the step the choices pending under key `k` are those of the
last `choose_random(k, …)` command (none if that vector was empty = `remove_random`), or the old ones (minus the
selected key) if no command mentions `k` -/
theorem C06_random_decl (m : List (Nat × List Nat)) (cmds : List Cmd) (k : Nat) :
    alookup k (cmds.foldl applyRandomCmd m) =
      match (cmds.filterMap (fun c => match c with
          | .chooseRandom k' cs => if k' = k then some cs else none
          | _ => none)).getLast? with
      | some cs => if cs.isEmpty then none else some cs
      | none => alookup k m := by
  -- the `match` of the statement and `Option.elim` are different matchers, so the lemma is met by `cases`, not by unification
  refine (foldl_last_writer applyRandomCmd (alookup k)
    (fun c => match c with | .chooseRandom k' cs => if k' = k then some cs else none | _ => none)
    (fun cs => if cs.isEmpty then none else some cs) (fun m c => ?_) cmds m).trans ?_
  · cases c with
    | chooseRandom k' ch =>
      by_cases hk : k' = k
      · cases ch <;> simp [applyRandomCmd, hk, alookup_aremove, alookup_ainsert]
      · cases ch <;> simp [applyRandomCmd, hk, Ne.symm hk, alookup_aremove, alookup_ainsert]
    | _ => rfl
  · cases (cmds.filterMap _).getLast? <;> rfl

/-- **History**: the hook for received messages sees the delivered envelope first, then the hook for sent
messages sees each sent envelope in emission order (a hook answering `None` leaves the history as it is). -/
theorem C06_history {sys : ActorSys σ η} {st st' : St σ η} {a : Action} {i : Nat} {ev : Event} {s : σ}
    {ns : Option σ} {cmds : List Cmd} (c : HandlerStep sys st a st' i ev s ns cmds) :
    st'.hist = recordOuts sys (recordIn? sys st.hist a) (sendsOf i cmds) := by
  obtain ⟨_, _, _, _, _, _, rfl⟩ := specNext_eq_some (C06_spec_next c).1
  rfl

/-- **A delivery that changes nothing yields no transition on unordered networks.** -/
theorem C06_noop (sys : ActorSys σ η) (st : St σ η) (e : Env) (s : σ) (cmds : List Cmd) (hwf : st.WF sys)
    (hs : st.actors[e.dst]? = some s) (hr : (sys.actor e.dst).msg e.dst s e.src e.msg = .ok none cmds)
    (hc : cmds = []) (hu : sys.initNet.isOrdered = false) :
    step sys st (.deliver e) = .ignored := by
  rw [step_eq_specStep sys st _ hwf]
  subst hc
  simp only [specStep, eventOf, specHandlerStep, hs, handler, hr, ignoredBy, isNoOp, hu]
  split <;> simp

/-- on an ordered network a no-op delivery is still a step: it consumes the head of its flow (and is recorded) -/
theorem C06_noop_ordered (sys : ActorSys σ η) (st : St σ η) (e : Env) (s : σ) (net : Net) (hwf : st.WF sys)
    (hs : st.actors[e.dst]? = some s) (hup : st.crashed[e.dst]? = some false)
    (hr : (sys.actor e.dst).msg e.dst s e.src e.msg = .ok none [])
    (ho : sys.initNet.isOrdered = true) (hd : st.net.onDeliver e = some net) :
    step sys st (.deliver e) = .next { st with net := net, hist := (sys.recordIn st.hist e).getD st.hist } := by
  simp only [step, hs, hup, hr, isNoOp, ho, hd, processCommands, ofOption, setActor]
  simp

/-- **A timeout whose handler only re-arms the same timer and keeps the state yields no transition.** -/
theorem C06_timer_noop (sys : ActorSys σ η) (st : St σ η) (i t : Nat) (s : σ) (hwf : st.WF sys)
    (hs : st.actors[i]? = some s) (hr : (sys.actor i).timeout i s t = .ok none [.setTimer t]) :
    step sys st (.timeout i t) = .ignored := by
  simp [step, hs, hr, isNoOpWithTimer]

/-- **Initial state**: every actor is started once, in index order; its commands are applied as above. -/
theorem C06_init (sys : ActorSys σ η) : init sys = some (specInit sys) := init_eq_specInit sys

/-- **Enabled actions** are exactly: delivery of a deliverable envelope to an existing actor; drop of a
deliverable envelope if the network is lossy; timeout of a timer that is set; crash of an actor that is up
while the budget lasts; selection of one of the pending choices. (Network of the configured kind, canonical:
invariant of reachable states, `C06_reach_wf`.) -/
theorem C06_actions_complete (sys : ActorSys σ η) (st : St σ η) (hn : st.NetOk sys) (a : Action) :
    a ∈ actions sys st ↔ enabledSpec sys st a := mem_actions_iff sys st hn a

/-- so all clauses above apply at every reachable state of the actor model -/
theorem C06_reach_wf (sys : ActorSys σ η) (inB : St σ η → Bool) (hc : sys.initNet.Canon) (st : St σ η)
    (h : (sys.toSys inB).Reach st) : st.WF sys ∧ st.NetOk sys :=
  let ⟨hwf, hn, _⟩ := reach_inv sys inB hc h
  ⟨hwf, hn⟩

/-- an enabled action never panics at a reachable state, provided the handlers do not -/
theorem C06_enabled_no_panic (sys : ActorSys σ η) (st : St σ η) (a : Action) (hwf : st.WF sys) (hn : st.NetOk sys)
    (hh : ∀ i s ev, handler sys i s ev ≠ .panic) (ha : a ∈ actions sys st) : step sys st a ≠ .panic := by
  rw [step_eq_specStep sys st a hwf]
  have hen := (C06_actions_complete sys st hn a).1 ha
  -- a handler step of an existing actor panics only if the handler does or the envelope cannot be consumed
  have hspec : ∀ (i : Nat) (ev : Event), i < sys.n → (∃ net, consume st.net a = some net) →
      specHandlerStep sys st a i ev ≠ .panic := by
    intro i ev hi ⟨net, hnet⟩
    obtain ⟨s, ts, m, _, hs, h1, h2, _⟩ := hwf.get hi
    unfold specHandlerStep
    rw [hs]
    simp only
    split
    · simp
    · cases hr : handler sys i s ev with
      | panic => exact absurd hr (hh i s ev)
      | ok ns cmds =>
        simp only
        split
        · simp
        · simp [specNext, hnet, h1, h2, ofOption]
  cases a with
  | deliver e => exact hspec e.dst _ hen.2 (apply_of_valid hn.1 (op := .deliver e) (decide_eq_true hen.1))
  | drop e =>
    obtain ⟨net, hnet⟩ := apply_of_valid hn.1 (op := .drop e) (decide_eq_true hen.2)
    simp [specStep, show st.net.onDrop e = some net from hnet]
  | timeout i t =>
    obtain ⟨ts, hts, _⟩ := hen
    exact hspec i _ (hwf.2.1 ▸ lt_length_of_getElem? hts) ⟨_, rfl⟩
  | crash i =>
    have hi : i < sys.n := hwf.2.2.2 ▸ lt_length_of_getElem? hen.2
    simp [specStep, hi]
  | selectRandom i k r =>
    obtain ⟨m, cs, hm, _, _⟩ := hen
    exact hspec i _ (hwf.2.2.1 ▸ lt_length_of_getElem? hm) ⟨_, rfl⟩

/-! ## the hypotheses are satisfiable: a concrete two-actor system using every command kind -/

def exActor : Actor Nat where
  start _ := (5, [.send 1 9, .setTimer 2])
  msg _ s src m := if s = 5 ∧ src = 1 ∧ m = 1 then
      .ok (some 6) [.send 1 7, .setTimer 3, .cancelTimer 2, .send 1 8, .chooseRandom 0 [4, 5]] else .ok none []
  timeout _ _ _ := .ok none []
  random _ _ _ := .ok none []

def exSys : ActorSys Nat (List Nat) where
  n := 2
  actor _ := exActor
  lossy := true
  maxCrashes := 1
  initNet := Net.ord []
  initHist := []
  recordIn h e := some (h ++ [100 + e.msg])
  recordOut h e := some (h ++ [200 + e.msg])

def exSt : St Nat (List Nat) :=
  { actors := [5, 5], net := Net.ord [((1, 0), [1])], timers := [[2], []], random := [[], []],
    crashed := [false, false], hist := [] }

example : exSt.WF exSys := ⟨rfl, rfl, rfl, rfl⟩
example : step exSys exSt (.deliver ⟨1, 0, 1⟩) = .next
    { actors := [6, 5], net := Net.ord [((0, 1), [7, 8])], timers := [[3], []], random := [[(0, [4, 5])], []],
      crashed := [false, false], hist := [101, 207, 208] } := by decide
example : HandlerStep exSys exSt (.deliver ⟨1, 0, 1⟩)
    { actors := [6, 5], net := Net.ord [((0, 1), [7, 8])], timers := [[3], []], random := [[(0, [4, 5])], []],
      crashed := [false, false], hist := [101, 207, 208] } 0 (.msg 1 1) 5 (some 6)
    [.send 1 7, .setTimer 3, .cancelTimer 2, .send 1 8, .chooseRandom 0 [4, 5]] :=
  ⟨⟨rfl, rfl, rfl, rfl⟩, by decide, rfl, rfl, rfl⟩

end SR.C06
