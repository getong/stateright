import SR.Props.OracleRest
import SR.Props.C12Machine
import SR.Proofs.OracleLast
/-!
`oracleC12`, `oracleC13`, `oracleC01` (Drv/Chk.lean) pass every observation of a terminated run of the model — observation in
the sense of `ObservesAll`, which adds `state_count` and the discovery paths to `Observes`; `oNet` (Drv/C07.lean) answers `"ok"`
iff the model accepts the session.
-/
namespace SR.COracleLast
open SR SR.Checker SR.Drv.Chk SR.CCompleteRun

theorem C01_observesAll_obsOf (s : St Nat Nat) : ObservesAll (obsOf s) s :=
  ⟨C01_observes_obsOf s, rfl, List.mergeSort_perm _ _⟩

theorem C01_observesAll_obsRaw (s : St Nat Nat) : ObservesAll (obsRaw s) s :=
  ⟨C01_observes_obsRaw s, rfl, List.Perm.refl _⟩

/-- the target line is the last of `oracleC12`, whatever stands before it (the whole equation: `C12_oracle_lines`) -/
theorem C12_oracle_target_handle (c : Case) (o : Obs) (strat : String) :
    ∃ pre : List String, oracleC12 c o strat = pre ++ c12Target c o := ⟨_, rfl⟩

/-- **when the target line fires**: too few states generated, and no other reason to stop present -/
theorem C12_oracle_target_fires_iff (c : Case) (o : Obs) :
    c12Target c o ≠ [] ↔ ∃ t, c.cfg.target = some t ∧ o.count < t ∧ o.count < c.g.reachList.length ∧
      c.cfg.maxDepth = none ∧ c.finish.matches c.props (o.disc.map (·.1)) = false ∧
      (o.disc.map (·.1)).eraseDups.length ≠ c.props.length := by
  unfold c12Target
  cases ht : c.cfg.target with
  | none => simp
  | some t =>
    simp only [ne_eq, ite_singleton_eq_nil, Bool.not_eq_true, Option.some.injEq, exists_eq_left', Bool.or_eq_false_iff, decide_eq_false_iff_not, ge_iff_le, Nat.not_le,
      Nat.lt_min, Bool.not_eq_false', Option.isNone_iff_eq_none, beq_eq_false_iff_ne, ne_eq, and_assoc]

/-- **what a firing line detects** (tie to `C12_target`, `C12_no_stop_all_generated`).  If the line fires on an observation `o`
    then (a) the conclusion `t ≤ state_count` of `C12_target` fails: the implementation cannot have stopped for the target;
    (b) whatever its set `gen` of generated states is, as long as `unique_state_count ≤ state_count` (`C01_counts`), some
    reachable state was NOT generated: the conclusion of `C12_no_stop_all_generated` fails, so work was discarded;
    (c) and none of the legitimate reasons to discard work (depth limit, finish condition, everything discovered —
    `C12_early_only_if`, `C12_stop_only_if`) is present at the end, hence (monotonicity, `C01_complete_run_no_early`) at any
    earlier moment: the implementation stopped, or lost jobs, without a reason. -/
theorem C12_oracle_target_detects (c : Case) (hwf : c.g.WF) (o : Obs) (h : c12Target c o ≠ []) :
    ∃ t, c.cfg.target = some t ∧ ¬ t ≤ o.count ∧
      (∀ gen : List Nat, gen.length ≤ o.count → ¬ ∀ x, c.g.toSys.Reach x → x ∈ gen) ∧
      c.cfg.maxDepth = none ∧ c.finish.matches c.props (o.disc.map (·.1)) = false ∧
      (o.disc.map (·.1)).eraseDups.length ≠ c.props.length := by
  obtain ⟨t, ht, h1, h2, hd, hm, hl⟩ := (C12_oracle_target_fires_iff c o).1 h
  refine ⟨t, ht, by omega, ?_, hd, hm, hl⟩
  intro gen hg hall
  obtain ⟨hrl, hrnd⟩ := COracle.C13_oracle_reach c.g hwf
  have := List.Nodup.length_le_of_subset hrnd (fun k hk => hall k ((hrl k).1 hk))
  omega

/-- **the target line is silent on every observation of a terminated run of the model** — any schedule, any strategy, any
    number of workers (in particular the single-worker schedulers `runSingle`); no timeout configured (`parseCfg`), model code
    does not panic (the driver answers `implementation-panicked` first).  Why: the run refutes what a firing line would detect
    (`C12_oracle_target_detects`): either nothing was dropped (`early = false`) and then every reachable state was generated
    (`C12_no_stop_all_generated`, `C01_counts`), against (b); or a worker stopped, and the only stop reason left (c) is the
    target, reached at that moment (`C12_stop_only_if`, `C12_target`), against (a). -/
theorem C12_oracle_target_line (c : Case) (hwf : c.g.WF) (hto : c.cfg.timeout = false) (cs : List Choice)
    (hnp : ∀ ch ∈ cs, ch ≠ Choice.stop .panic) (hq : Quiescent (run c.params cs))
    (o : Obs) (ho : ObservesAll o (run c.params cs)) : c12Target c o = [] := by
  apply Classical.byContradiction
  intro hne
  obtain ⟨t, ht, h1, hgen, hd, hm, hl⟩ := C12_oracle_target_detects c hwf o hne
  rw [matches_of_observes ho.base] at hm
  rw [eraseDups_length_of_observes ho.base] at hl
  rw [ho.count] at h1 hgen
  cases he : (run c.params cs).early with
  | false =>
    exact hgen _ (C01.C01_counts c.params cs) (C12M.C12_no_stop_all_generated c.params (fun _ _ _ _ h => h) cs hq he)
  | true =>
    have hs : (run c.params cs).stopped = true := early_only_stopped_of_final (P := c.params) hd cs []
      (by rw [List.append_nil, C01_case_props_length]; exact hl) he
    obtain ⟨pre, why, post, hcs, hen⟩ := C12M.C12_stop_only_if c.params cs hs
    rw [hcs] at h1 hm
    cases why with
    | panic => exact hnp (Choice.stop .panic) (by rw [hcs]; simp) rfl
    | timeout => simp [stopEnabled, Case.params, hto] at hen
    | target => exact h1 (C12M.C12_target c.params pre post t ht hen)
    | finish => exact Bool.eq_false_iff.1 (finishMatches_false_of_final (C12_finish_mono_case c) pre _ hm) hen

/-- the same for the single-worker executables of `SR/Checker/Sched.lean` (what `chk` runs) -/
theorem C12_oracle_target_line_single (c : Case) (hwf : c.g.WF) (hto : c.cfg.timeout = false) (d : Discipline) (fuel : Nat)
    (hnp : ∀ ch ∈ schedule c.params d fuel (init c.params.M c.params.props c.params.key) (if d == .ondemand then 0 else blockSize),
      ch ≠ Choice.stop .panic)
    (hq : Quiescent (runSingle c.params d fuel)) : c12Target c (obsOf (runSingle c.params d fuel)) = [] :=
  C12_oracle_target_line c hwf hto _ hnp hq _ (C01_observesAll_obsOf _)

/-! non-vacuity: the 4-state graph of `exCase` with target 3: the single-worker BFS tests the target between blocks of 1500
jobs only, so it runs to the end (6 states generated); a two-choice run with target 1 that stops at once for the target and
discards the pending job (`early = true`, 1 state generated).  Both terminate and the line is silent; on a made-up
observation with `count = 2` (< 3, < 4 reachable) it fires.  Fuel 200 is ample: the run is checked to have ended (empty
frontier, no active job). -/
def exCaseT (t : Nat) : Case := { exCase with cfg := { target := some t } }

theorem C12_oracle_target_ex :
    (runSingle (exCaseT 3).params .bfs 200).frontier.length = 0 ∧ (runSingle (exCaseT 3).params .bfs 200).active.length = 0 ∧
    (runSingle (exCaseT 3).params .bfs 200).early = false ∧ (runSingle (exCaseT 3).params .bfs 200).stateCount = 6 ∧
    noPanic (schedule (exCaseT 3).params .bfs 200 (init (exCaseT 3).params.M (exCaseT 3).params.props (exCaseT 3).params.key)
      blockSize) = true ∧
    (run (exCaseT 1).params [.stop .target, .dropJob 0]).frontier.length = 0 ∧
    (run (exCaseT 1).params [.stop .target, .dropJob 0]).active.length = 0 ∧
    (run (exCaseT 1).params [.stop .target, .dropJob 0]).early = true ∧
    (run (exCaseT 1).params [.stop .target, .dropJob 0]).stateCount = 1 ∧
    c12Target (exCaseT 1) (obsRaw (run (exCaseT 1).params [.stop .target, .dropJob 0])) = [] ∧
    decide (exCaseT 3).g.WF = true ∧
    c12Target (exCaseT 3) ⟨[], 2, 2, 0, []⟩ = ["generated-fewer-states-than-target-although-more-exist"] :=
  -- `rfl`, not `decide`: both sides compute to the same literals, whereas `decide` would run `String.decEq` on the oracle's
  -- line, which compares the UTF-8 byte lists through `UInt8`/`BitVec` (about 20 000 heartbeats a character)
  ⟨rfl, rfl, rfl, rfl, rfl, rfl, rfl, rfl, rfl, rfl, rfl, rfl⟩

/-- the hypotheses of `C12_oracle_target_line` hold for the run that stops for the target -/
example : (exCaseT 1).g.WF ∧ (exCaseT 1).cfg.timeout = false ∧
    (∀ ch ∈ [Choice.stop .target, .dropJob 0], ch ≠ Choice.stop .panic) ∧
    Quiescent (run (exCaseT 1).params [.stop .target, .dropJob 0]) ∧ (exCaseT 1).cfg.target = some 1 :=
  ⟨of_decide_eq_true (by decide), rfl, C01_noPanic_iff _ (by decide),
   ⟨List.length_eq_zero_iff.1 C12_oracle_target_ex.2.2.2.2.2.1, List.length_eq_zero_iff.1 C12_oracle_target_ex.2.2.2.2.2.2.1⟩, rfl⟩

theorem C12_oracle_lines (c : Case) (o : Obs) (strat : String) :
    oracleC12 c o strat = c12Depth c o strat ++ c12Target c o := rfl

/-- **the side condition "no other stop reason" of `bfs-missed-a-state-nearer-than-max-depth`**: if the guard of that line holds
    on an observation of a terminated run of the model (no target, the FINAL discoveries neither match the finish condition
    nor cover all properties; no timeout, no panic), then no worker ever stopped and not everything is discovered — the
    hypotheses `hstop`, `hall` of `C12_bfs_depth_complete` -/
theorem C12_oracle_no_other_stop (c : Case) (hto : c.cfg.timeout = false) (cs : List Choice)
    (hnp : ∀ ch ∈ cs, ch ≠ Choice.stop .panic) (o : Obs) (ho : Observes o (run c.params cs))
    (ht : c.cfg.target = none) (hm : c.finish.matches c.props (o.disc.map (·.1)) = false)
    (hl : (o.disc.map (·.1)).eraseDups.length ≠ c.props.length) :
    (run c.params cs).stopped = false ∧ allDiscovered c.params (run c.params cs) = false := by
  rw [matches_of_observes ho] at hm
  rw [eraseDups_length_of_observes ho] at hl
  constructor
  · cases hs : (run c.params cs).stopped with
    | false => rfl
    | true =>
      obtain ⟨a, b, hab⟩ := stopped_is_panic_of_final (C12_finish_mono_case c) ht hto cs []
        (by rw [List.append_nil]; exact hm) hs
      exact absurd rfl (hnp _ (by rw [hab]; simp))
  · exact allDiscovered_false_of_final (P := c.params) cs [] (by rw [List.append_nil, C01_case_props_length]; exact hl)

/-- **`oracleC12` passes every observation of a terminated run of the model on a well-formed graph** (any schedule; for the
    line `bfs-missed-a-state-nearer-than-max-depth`, which is raised under `strat = "bfs"` only, a FIFO single-worker run):
    `C12_depth`, `C12_bfs_depth_complete` (+ `C13_oracle_dist`), `C12_oracle_target_line` -/
theorem C12_oracle_passes (c : Case) (hwf : c.g.WF) (hto : c.cfg.timeout = false) (cs : List Choice)
    (hnp : ∀ ch ∈ cs, ch ≠ Choice.stop .panic) (hq : Quiescent (run c.params cs)) (strat : String)
    (hf : strat = "bfs" → FifoRun c.params (init c.params.M c.params.props c.params.key) cs)
    (o : Obs) (ho : ObservesAll o (run c.params cs)) : oracleC12 c o strat = [] := by
  rw [C12_oracle_lines, C12_oracle_target_line c hwf hto cs hnp hq o ho, List.append_nil]
  unfold c12Depth
  cases hd : c.cfg.maxDepth with
  | none => rfl
  | some d =>
    simp only [List.append_eq_nil_iff, ite_singleton_eq_nil, List.all_eq_true]
    constructor
    · intro p hp
      have := C12M.C12_depth c.params cs d hd p ((mem_visits_of_observes ho.base p).1 hp)
      split <;> simp <;> omega
    split
    · rename_i hg
      simp only [Bool.and_eq_true, beq_iff_eq, Option.isNone_iff_eq_none, Bool.not_eq_true', bne_iff_ne, ne_eq] at hg
      obtain ⟨⟨⟨hs, ht⟩, hm⟩, hl⟩ := hg
      obtain ⟨hst, hall⟩ := C12_oracle_no_other_stop c hto cs hnp o ho.base ht hm hl
      have hcomp := C12M.C12_bfs_depth_complete c.params (fun _ _ _ _ h => h) cs (hf hs) hq hst hall d hd
      rw [ite_singleton_eq_nil]
      intro t _
      split
      · rename_i k hk
        simp only [decide_eq_true_eq]
        intro hlt
        obtain ⟨⟨q, hq', hlast, hlen⟩, _⟩ := (COracle.C13_oracle_dist c.g hwf t k).1 hk
        simp only [List.contains_eq_mem, decide_eq_true_eq]
        exact (lasts_iff_visited ho.base t).2 (hcomp q t hq' hlast (by omega))
      · rfl
    · rfl

/-! non-vacuity: depth limit 3 on the join graph of `exCase13` (no finish match: the witness state 4 is at depth 3 and is
cut off); the BFS scheduler is a FIFO run; fuel 300 is ample, the run is checked to have ended -/
def exCaseD : Case := { exCase13 with cfg := { maxDepth := some 3 } }
example : exCaseD.cfg.timeout = false ∧ decide exCaseD.g.WF = true ∧
    (runSingle exCaseD.params .bfs 300).frontier.length = 0 ∧ (runSingle exCaseD.params .bfs 300).active.length = 0 ∧
    (runSingle exCaseD.params .bfs 300).early = true ∧ (runSingle exCaseD.params .bfs 300).visits.length = 3 ∧
    oracleC12 exCaseD (obsRaw (runSingle exCaseD.params .bfs 300)) "bfs" = [] ∧
    oracleC12 exCaseD ⟨[[0], [0, 1]], 2, 2, 2, []⟩ "bfs" = ["bfs-missed-a-state-nearer-than-max-depth"] ∧
    FifoRun exCaseD.params (init exCaseD.params.M exCaseD.params.props exCaseD.params.key)
      (schedule exCaseD.params .bfs 300 (init exCaseD.params.M exCaseD.params.props exCaseD.params.key) blockSize) :=
  ⟨rfl, rfl, rfl, rfl, rfl, rfl, rfl, rfl, C13.C13_scheduler_is_fifo _ _ _ _⟩

theorem C13_oracle_nondecr_iff (l : List Nat) : oracleC13.nondecr l = true ↔ l.Pairwise (· ≤ ·) :=
  match l with
  | [] => by simp [oracleC13.nondecr]
  | [a] => by simp [oracleC13.nondecr]
  | a :: b :: r => by
    rw [oracleC13.nondecr, Bool.and_eq_true, C13_oracle_nondecr_iff (b :: r), List.pairwise_cons (a := a), decide_eq_true_eq]
    constructor
    · rintro ⟨hab, hp⟩
      refine ⟨?_, hp⟩
      intro x hx
      rcases List.mem_cons.1 hx with rfl | hx
      · exact hab
      · exact Nat.le_trans hab ((List.pairwise_cons.1 hp).1 x hx)
    · rintro ⟨hall, hp⟩
      exact ⟨hall b List.mem_cons_self, hp⟩

example : oracleC13.nondecr [1, 2, 2, 3, 3] = true ∧ oracleC13.nondecr [1, 3, 2] = false := by decide

theorem C13_oracle_lines (c : Case) (o : Obs) : oracleC13 c "bfs" o =
    (if oracleC13.nondecr (o.visits.map fun p => p.length) then [] else ["bfs-visit-depths-decrease"]) ++
    (if o.visits.all (fun p => c.g.distOf (lastOf p) == some (p.length - 1)) then [] else ["bfs-visit-path-not-shortest"]) ++
    (o.disc.flatMap fun (i, p) =>
      match c.props[i]? with
      | none => []
      | some pr =>
        if pr.exp == .eventually then [] else
        if p.length - 1 ≤ c13Best c.g pr p then [] else [s!"bfs-discovery-not-shortest-p{i}"]) := rfl

/-- **`bfs-visit-depths-decrease` is the first conclusion of `C13_order`** -/
theorem C13_oracle_nondecr_is_order (o : Obs) (s : St Nat Nat) (ho : Observes o s) :
    oracleC13.nondecr (o.visits.map fun p => p.length) = true ↔ (s.visits.reverse.map List.length).Pairwise (· ≤ ·) := by
  rw [C13_oracle_nondecr_iff, ho.visits]

/-- **the line is silent on every FIFO single-worker run** without depth limit (the BFS scheduler is one:
    `C13_scheduler_is_fifo`) -/
theorem C13_oracle_nondecr (c : Case) (hnd : c.cfg.maxDepth = none) (cs : List Choice)
    (hf : FifoRun c.params (init c.params.M c.params.props c.params.key) cs)
    (o : Obs) (ho : Observes o (run c.params cs)) :
    oracleC13.nondecr (o.visits.map fun p => p.length) = true :=
  (C13_oracle_nondecr_is_order o _ ho).2 (C13.C13_order c.params hnd (fun _ _ _ _ h => h) cs hf).1

/-- **`oracleC13` as a whole passes every observation of a FIFO single-worker run of the model** on a well-formed graph
    without depth limit: order (`C13_order`), shortest visited paths (`C13_order`, `C13_oracle_visit_test`), shortest witnesses
    (`C13_shortest`, `C13_oracle_best_run`) -/
theorem C13_oracle_passes (c : Case) (hwf : c.g.WF) (hnd : c.cfg.maxDepth = none) (cs : List Choice)
    (hf : FifoRun c.params (init c.params.M c.params.props c.params.key) cs)
    (o : Obs) (ho : ObservesAll o (run c.params cs)) (strat : String) : oracleC13 c strat o = [] := by
  by_cases hs : strat = "bfs"
  case neg =>
    unfold oracleC13
    simp [hs]
  subst hs
  have hord := C13.C13_order c.params hnd (fun _ _ _ _ h => h) cs hf
  rw [C13_oracle_lines]
  simp only [List.append_eq_nil_iff, ite_singleton_eq_nil, List.all_eq_true, List.flatMap_eq_nil_iff, and_assoc]
  refine ⟨C13_oracle_nondecr c hnd cs hf o ho.base, ?_, ?_⟩
  · intro p hp
    rw [mem_visits_of_observes ho.base] at hp
    exact (COracle.C13_oracle_visit_test c.g hwf p (C01.C01_sound c.params cs p hp)).2 (hord.2 p hp)
  · rintro ⟨i, p⟩ he
    have he' := ho.disc.mem_iff.1 he
    cases hpr : c.props[i]? with
    | none => rfl
    | some pr =>
      simp only []
      by_cases hexp : pr.exp = .eventually
      · simp [hexp]
      · have hne : (pr.exp == Expect.eventually) = false := by simpa using hexp
        have := C13_oracle_best_run c hwf hnd cs hf (i, p) he' pr hpr hexp
        simp only [hne, Bool.false_eq_true, if_false]
        rw [if_pos this]

/-- non-vacuity: the BFS scheduler on the join graph of `exCase13` -/
example : exCase13.cfg.maxDepth = none ∧ decide exCase13.g.WF = true ∧
    FifoRun exCase13.params (init exCase13.params.M exCase13.params.props exCase13.params.key)
      (schedule exCase13.params .bfs 300 (init exCase13.params.M exCase13.params.props exCase13.params.key) blockSize) :=
  ⟨rfl, by decide, C13.C13_scheduler_is_fifo _ _ _ _⟩

/-- **`oracleC01` passes every observation of a terminated run of the model on a well-formed graph** (any schedule; no
    timeout configured, no panic of model code): the five unguarded lines — `C01_sound`, `C01_evaluated_reachable`, `C01_once`,
    every generated state is reachable (`genReach_run`) and `C01_counts` — and the two lines guarded by `completeRun`
    (`C01_complete_run_oracle_lines`) -/
theorem C01_oracle_passes (c : Case) (hwf : c.g.WF) (hto : c.cfg.timeout = false) (cs : List Choice)
    (hnp : ∀ ch ∈ cs, ch ≠ Choice.stop .panic) (hq : Quiescent (run c.params cs))
    (o : Obs) (ho : ObservesAll o (run c.params cs)) : oracleC01 c o = [] := by
  obtain ⟨hrl, hrnd⟩ := COracle.C13_oracle_reach c.g hwf
  unfold oracleC01
  -- one goal per line of the oracle, in its order: the line's test
  simp only [List.append_eq_nil_iff, ite_singleton_eq_nil, ite_singleton_eq_nil', List.all_eq_true, and_assoc]
  refine ⟨?_, ?_, ?_, ?_, ?_, ?_⟩
  · intro p hp
    rw [mem_visits_of_observes ho.base] at hp
    exact (Graph.isPathB_iff c.g p).2 (C01.C01_sound c.params cs p hp)
  · intro x hx
    obtain ⟨_, _, _, _, hr⟩ := C01.C01_evaluated_reachable c.params cs x ((lasts_iff_visited ho.base x).1 hx)
    simp only [List.contains_eq_mem, decide_eq_true_eq]
    exact (hrl _).2 hr
  · simp only [Bool.and_eq_true, beq_iff_eq, bne_iff_ne, ne_eq, not_and, Decidable.not_not, eraseDups_length_eq_iff]
    intro hnd
    rw [lasts_eq_visited ho.base, (List.reverse_perm _).nodup_iff]
    exact (C01.C01_once c.params (by simpa [Case.params, Graph.initB] using hnd) cs).2
  · rw [ho.base.uniq]
    apply List.Nodup.length_le_of_subset (ninv_run (P := c.params) cs).genNodup
    intro k hk
    obtain ⟨t, ht, rfl⟩ := genReach_run (P := c.params) cs k hk
    exact (hrl _).2 ht
  · rw [ho.base.uniq, ho.count]
    exact C01.C01_counts c.params cs
  · split
    · rename_i hc
      obtain ⟨h6, h7⟩ := C01_complete_run_oracle_lines c hwf hto cs hnp hq o ho.base hc
      rw [List.all_eq_true] at h6
      rw [if_pos h6, if_pos h7]
      rfl
    · rfl

/-- non-vacuity: the hypotheses hold for the BFS run of `exCase` (Props/C01CompleteRun), whose guard `completeRun` is true -/
example : exCase.g.WF ∧ exCase.cfg.timeout = false ∧ (∀ ch ∈ exChoices, ch ≠ Choice.stop .panic) ∧
    Quiescent (run exCase.params exChoices) ∧ ObservesAll (obsOf (run exCase.params exChoices)) (run exCase.params exChoices) :=
  ⟨of_decide_eq_true C01_complete_run_ex.2.2.2.2.2.2, rfl, C01_noPanic_iff _ C01_complete_run_ex.2.1,
   ⟨List.length_eq_zero_iff.1 C01_complete_run_ex.2.2.1, List.length_eq_zero_iff.1 C01_complete_run_ex.2.2.2.1⟩,
   C01_observesAll_obsOf _⟩

section C07
open SR.Actor SR.Actor.Codec SR.Drv.C07 SR.C07 SR.COracleRest

/-- **`oNet` is the structural recursion `oNetF`**: the `do` block unfolds (`List.forIn_cons`), nothing blocks it -/
theorem C07_oracle_oNet_fold (kind : String) (nActors : Nat) (lossy : Bool) (last0 : Option Env) (h0 : Hist')
    (steps : List (List NetOp × Drv.C07.Obs)) : oNet kind nActors lossy last0 h0 steps = oNetF kind nActors lossy last0 h0 steps := by
  unfold oNet oNetF
  simp only []
  generalize 0 = k
  -- the elaborated `for` bodies stay in the goal; the inner induction runs inside a step of the outer one: at the end of a
  -- group of operations comes the observation, then the outer hypothesis
  induction steps generalizing h0 k with
  | nil => rfl
  | cons s rest ih =>
    obtain ⟨ops, o⟩ := s
    simp only [List.forIn_cons, stepsF]
    induction ops generalizing h0 with
    | nil =>
      simp only [List.forIn_nil, opsF, pure_bind]
      cases checkObs kind nActors lossy last0 h0 o with
      | none => exact ih h0 (k + 1)
      | some err => rfl
    | cons op ops ihops =>
      simp only [List.forIn_cons, opsF]
      cases checkOp kind h0 op with
      | none => exact ihops (h0 ++ [op])
      | some err => rfl

theorem C07_oracle_oNet_unfold (kind : String) (nActors : Nat) (lossy : Bool) (last0 : Option Env) (h : Hist') (k : Nat) :
    stepsF kind nActors lossy last0 h k [] = none ∧
    ∀ ops o rest, stepsF kind nActors lossy last0 h k ((ops, o) :: rest) =
      match opsF kind k h ops with
      | (some r, _) => some r
      | (none, h') =>
        match checkObs kind nActors lossy last0 h' o with
        | some err => some s!"step {k}: {err}"
        | none => stepsF kind nActors lossy last0 h' (k + 1) rest :=
  ⟨rfl, fun _ _ _ => rfl⟩

/-- **`oNet … = "ok"` ⇔ every step passes `checkOp` and `checkObs` along the history** (`Passes`); an error answer is never the
    string `"ok"` -/
theorem C07_oracle_oNet (kind : String) (nActors : Nat) (lossy : Bool) (last0 : Option Env) (h0 : Hist')
    (steps : List (List NetOp × Drv.C07.Obs)) :
    oNet kind nActors lossy last0 h0 steps = "ok" ↔ Passes kind nActors lossy last0 h0 steps := by
  rw [C07_oracle_oNet_fold]
  unfold oNetF
  generalize 0 = k
  -- the nested induction of `C07_oracle_oNet_fold`; where a check refuses, the answer is a `stepMsg`
  induction steps generalizing h0 k with
  | nil => exact ⟨fun _ => trivial, fun _ => rfl⟩
  | cons s rest ih =>
    obtain ⟨ops, o⟩ := s
    simp only [stepsF, Passes]
    induction ops generalizing h0 with
    | nil =>
      simp only [opsF, OpsOk, List.append_nil, true_and]
      cases checkObs kind nActors lossy last0 h0 o with
      | none => simpa using ih h0 (k + 1)
      | some err => simpa using stepMsg_ne_ok k err
    | cons op ops ihops =>
      simp only [opsF, OpsOk]
      cases checkOp kind h0 op with
      | none => simpa using ihops (h0 ++ [op])
      | some err => simpa using stepMsg_ne_ok k err

theorem C07_oracle_oNet_passes (kind : String) (nActors : Nat) (lossy : Bool) (last0 : Option Env) (h : Hist') :
    (Passes kind nActors lossy last0 h [] ↔ True) ∧
    (∀ ops o rest, Passes kind nActors lossy last0 h ((ops, o) :: rest) ↔
      OpsOk kind h ops ∧ checkObs kind nActors lossy last0 (h ++ ops) o = none ∧
      Passes kind nActors lossy last0 (h ++ ops) rest) ∧
    (OpsOk kind h [] ↔ True) ∧
    (∀ op ops, OpsOk kind h (op :: ops) ↔ checkOp kind h op = none ∧ OpsOk kind (h ++ [op]) ops) :=
  ⟨Iff.rfl, fun _ _ _ => Iff.rfl, Iff.rfl, fun _ _ => Iff.rfl⟩

/-- a `valid` operation never panics on a canonical network (so `Net.run` fails only on an invalid operation) -/
theorem C07_oracle_valid_no_panic (n : Net) (hc : n.Canon) (op : NetOp) (hv : n.valid op = true) :
    ∃ n', n.apply op = some n' := apply_of_valid hc hv

/-- **`oNet … = "ok"` ⇔ the model accepts the whole session** (`ModelPasses`): step after step, the group of operations is a
    valid run of the model and the observation satisfies `ObsSpec` for the network reached -/
theorem C07_oracle_oNet_model (kind : String) (nActors : Nat) (lossy : Bool) (last0 : Option Env) (h0 : Hist') (n : Net)
    (hr : Net.run (emptyNet kind last0) h0 = some n) (steps : List (List NetOp × Drv.C07.Obs)) :
    oNet kind nActors lossy last0 h0 steps = "ok" ↔ ModelPasses kind nActors lossy n steps := by
  rw [C07_oracle_oNet]
  induction steps generalizing h0 n with
  | nil => simp [Passes, ModelPasses]
  | cons s rest ih =>
    obtain ⟨ops, o⟩ := s
    simp only [Passes, ModelPasses]
    rw [opsOk_iff_run ops h0 n hr]
    cases hn' : Net.run n ops with
    | none => simp
    | some n' =>
      have hr' := run_append_some hr hn'
      simp [checkObs_iff hr' o, ih (h0 ++ ops) n' hr']

/-- about the driver's own call: `o-net` passes `envs.map NetOp.send` as `h0`, and the model network of the request is
    `mkNet kind envs last` (`C07_oracle_initial`) -/
theorem C07_oracle_oNet_driver (kind : String) (nActors : Nat) (lossy : Bool) (envs : List Env) (last : Option Env) (n₀ : Net)
    (hm : mkNet kind envs last = some n₀) (steps : List (List NetOp × Drv.C07.Obs)) :
    oNet kind nActors lossy last (envs.map NetOp.send) steps = "ok" ↔ ModelPasses kind nActors lossy n₀ steps := by
  apply C07_oracle_oNet_model
  have := C07_oracle_initial kind envs last n₀ hm []
  rw [List.append_nil] at this
  rw [this]
  rfl

/-- **no false alarm**: the model's own session (its own observations after each group of a valid run) is answered `"ok"` -/
theorem C07_oracle_oNet_model_passes (kind : String) (last0 : Option Env) (h0 : Hist') (n : Net)
    (hr : Net.run (emptyNet kind last0) h0 = some n) (ops : List NetOp) (n' : Net) (hr' : Net.run n ops = some n') :
    oNet kind 0 false last0 h0 [(ops, ⟨n', n'.len, n'.iterAll, n'.iterDeliverable, none⟩)] = "ok" := by
  rw [C07_oracle_oNet_model kind 0 false last0 h0 n hr]
  refine ⟨n', hr', ?_, trivial⟩
  have hr2 := run_append_some hr hr'
  exact (C07_oracle_checkObs kind 0 false last0 _ n' hr2 _).1 (C07_oracle_model_passes kind last0 _ n' hr2).1

/-! non-vacuity, on the ordered network after one send: a valid group of operations passes `OpsOk`, an un-deliverable delivery
does not -/
example : Net.run (emptyNet "o" none) [.send ⟨0, 1, 7⟩] = some (Net.ord [((0, 1), [7])]) ∧
    Net.run (Net.ord [((0, 1), [7])]) [.send ⟨0, 1, 8⟩, .deliver ⟨0, 1, 7⟩] = some (Net.ord [((0, 1), [8])]) := by decide

example : OpsOk "o" [.send ⟨0, 1, 7⟩] [.send ⟨0, 1, 8⟩, .deliver ⟨0, 1, 7⟩] :=
  (opsOk_iff_run (last0 := none) _ _ (Net.ord [((0, 1), [7])]) (by decide)).2 ⟨Net.ord [((0, 1), [8])], by decide⟩

example : ¬ OpsOk "o" [.send ⟨0, 1, 7⟩] [.deliver ⟨0, 1, 8⟩] := by
  rw [opsOk_iff_run (last0 := none) _ _ (Net.ord [((0, 1), [7])]) (by decide)]
  rintro ⟨n', h⟩
  have hn : Net.run (Net.ord [((0, 1), [7])]) [.deliver ⟨0, 1, 8⟩] = none := by decide
  rw [hn] at h
  cases h

end C07

end SR.COracleLast
