import SR.Actor.WalkT
import SR.Proofs.ActorSys
/-!
# A total reference for the bounded reachable set of an actor system (`graph` of C06; `reach`, `o-reach` of C09)

`walkF` is the bounded breadth-first walk of `SR/Actor/Codec.lean` (`walk` / `walkLoop`: same successor enumeration
`sortActions (actions sys st)`, same `step`, same records, same meaning of `bound` = maximal number of EXPANDED
states) made total by a fuel argument, with the visited set kept by STRUCTURAL equality of states (`DecidableEq`)
instead of a `HashMap` keyed by the canonical text.  What the drivers run is `walkT` = `walkK` with a fingerprint beside
every state (`SR/Actor/WalkT.lean`); it computes what `walkF` computes (`walkK_eq`).
-/
namespace SR.ReachRef
open SR SR.Actor SR.Actor.Codec

variable {σ η : Type}

/-- the transition system of `C09_explored` without boundary -/
abbrev M (sys : ActorSys σ η) : Sys (St σ η) Action := sys.toSys (fun _ => true)

theorem mem_sortActions (l : List Action) (a : Action) : a ∈ sortActions l ↔ a ∈ l := by
  simp [sortActions, List.mem_mergeSort]

variable [DecidableEq σ] [DecidableEq η]

def scan {α : Type} [DecidableEq α] (xs : Array α) (a : α) : Nat → Nat → Option Nat
  | 0, _ => none
  | n + 1, i => if xs[i]? = some a then some i else scan xs a n (i + 1)

/-- the body of the `foldl` of `walkLoop` -/
def visit (sys : ActorSys σ η) (st : St σ η) (acc : Array (St σ η) × List (Action × String)) (a : Action) :
    Array (St σ η) × List (Action × String) :=
  match step sys st a with
  | .panic => (acc.1, (a, "!") :: acc.2)
  | .ignored => (acc.1, (a, "-") :: acc.2)
  | .next s' =>
    match scan acc.1 s' acc.1.size 0 with
    | some j => (acc.1, (a, toString j) :: acc.2)
    | none => (acc.1.push s', (a, toString acc.1.size) :: acc.2)

def expand (sys : ActorSys σ η) (st : St σ η) (states : Array (St σ η)) :
    Array (St σ η) × List (Action × String) :=
  (sortActions (actions sys st)).foldl (visit sys st) (states, [])

def loopF (sys : ActorSys σ η) (bound : Nat) : Nat → WalkR σ η → Option (WalkR σ η)
  | 0, _ => none
  | fuel + 1, w =>
    if w.records.size ≥ bound then some w else
    match w.states[w.records.size]? with
    | none => some w
    | some st =>
      let r := expand sys st w.states
      loopF sys bound fuel { states := r.1, records := w.records.push r.2.reverse }

/-- `none` = the initial state panics, or the fuel ran out (never with `fuel = bound + 1`) -/
def walkF (fuel : Nat) (sys : ActorSys σ η) (bound : Nat) : Option (WalkR σ η) :=
  match init sys with
  | none => none
  | some st0 => loopF sys bound fuel { states := #[st0], records := #[] }

/-- every discovered state was expanded; the drivers and the theorems spell the test out as `records.size = states.size` -/
def WalkR.closed (w : WalkR σ η) : Bool := w.records.size == w.states.size

theorem scan_some {α : Type} [DecidableEq α] (xs : Array α) (a : α) (n i j : Nat) (h : scan xs a n i = some j) :
    xs[j]? = some a := by
  fun_induction scan xs a n i with
  | case1 => cases h
  | case2 n i he =>
    cases h
    exact he
  | case3 n i _ ih => exact ih h

theorem scan_none {α : Type} [DecidableEq α] (xs : Array α) (a : α) (n i : Nat) (h : scan xs a n i = none)
    (j : Nat) (h1 : i ≤ j) (h2 : j < i + n) : xs[j]? ≠ some a := by
  fun_induction scan xs a n i with
  | case1 => omega
  | case2 => cases h
  | case3 n i hne ih =>
    rcases Nat.eq_or_lt_of_le h1 with rfl | hlt
    · exact hne
    · exact ih h hlt (by omega)

theorem scan_of_size_le {α : Type} [DecidableEq α] (xs : Array α) (a : α) (n i : Nat) (h : xs.size ≤ i) :
    scan xs a n i = none := by
  fun_induction scan xs a n i with
  | case1 => rfl
  | case2 n i he =>
    rw [Array.getElem?_eq_none h] at he
    cases he
  | case3 n i _ ih => exact ih (by omega)

theorem scan_some_mem {α : Type} [DecidableEq α] (xs : Array α) (a : α) (n i j : Nat) (h : scan xs a n i = some j) :
    a ∈ xs.toList :=
  Array.mem_toList_iff.2 (Array.mem_of_getElem? (scan_some xs a n i j h))

theorem scan_none_not_mem {α : Type} [DecidableEq α] (xs : Array α) (a : α) (h : scan xs a xs.size 0 = none) :
    a ∉ xs.toList := by
  intro hm
  obtain ⟨j, hj, he⟩ := Array.getElem_of_mem (Array.mem_toList_iff.1 hm)
  exact scan_none xs a xs.size 0 h j (Nat.zero_le _) (by omega) (by rw [Array.getElem?_eq_getElem hj, he])

theorem visit_toList (sys : ActorSys σ η) (st : St σ η) (acc : Array (St σ η) × List (Action × String)) (a : Action) :
    (visit sys st acc a).1.toList = ((step sys st a).toOption.toList).foldl insertNew acc.1.toList := by
  unfold visit
  cases step sys st a with
  | panic => rfl
  | ignored => rfl
  | next s' =>
    show _ = insertNew acc.1.toList s'
    unfold insertNew
    dsimp only
    cases hj : scan acc.1 s' acc.1.size 0 with
    | some j => exact (if_pos (scan_some_mem _ _ _ _ _ hj)).symm
    | none => exact Array.toList_push.trans (if_neg (scan_none_not_mem _ _ hj)).symm

theorem fold_toList (sys : ActorSys σ η) (st : St σ η) (as : List Action) :
    ∀ acc : Array (St σ η) × List (Action × String), (as.foldl (visit sys st) acc).1.toList =
      (as.flatMap fun a => (step sys st a).toOption.toList).foldl insertNew acc.1.toList := by
  induction as with
  | nil => exact fun _ => rfl
  | cons a as ih =>
    intro acc
    rw [List.foldl_cons, ih, visit_toList, List.flatMap_cons, List.foldl_append]

theorem expand_spec (sys : ActorSys σ η) (st : St σ η) (xs : Array (St σ η)) :
    xs.toList <+: (expand sys st xs).1.toList ∧ (xs.toList.Nodup → (expand sys st xs).1.toList.Nodup) ∧
      ∀ t, t ∈ (expand sys st xs).1.toList ↔ t ∈ xs.toList ∨ t ∈ (M sys).succB st := by
  rw [expand, fold_toList]
  refine ⟨prefix_foldl_insertNew _ _, nodup_foldl_insertNew _ _, fun t => ?_⟩
  rw [mem_foldl_insertNew, mem_succB_toSys]
  simp only [List.mem_flatMap, Option.mem_toList, toOption_eq_some, mem_sortActions, and_true]

/-- the field `closed` (not `WalkR.closed`) speaks of the expanded prefix `take records.size` only; the states behind it
    are still to be expanded -/
structure WInv (sys : ActorSys σ η) (st0 : St σ η) (bound : Nat) (w : WalkR σ η) : Prop where
  nodup : w.states.toList.Nodup
  reach : ∀ s ∈ w.states.toList, (M sys).Reach s
  init : st0 ∈ w.states.toList
  le : w.records.size ≤ w.states.size
  leB : w.records.size ≤ bound
  closed : ∀ s ∈ w.states.toList.take w.records.size, ∀ t ∈ (M sys).succB s, t ∈ w.states.toList

omit [DecidableEq σ] [DecidableEq η] in
theorem winv_init (sys : ActorSys σ η) (st0 : St σ η) (bound : Nat) (h : init sys = some st0) :
    WInv sys st0 bound { states := #[st0], records := #[] } where
  nodup := by simp
  reach := by
    intro s hs
    rw [List.mem_singleton.1 hs]
    exact Sys.Reach.init (mem_initB_toSys.2 ⟨Option.some.inj (h ▸ init_eq_specInit sys), rfl⟩)
  init := by simp
  le := by simp
  leB := by simp
  closed := by simp

theorem winv_expand (sys : ActorSys σ η) (st0 : St σ η) (bound : Nat) (w : WalkR σ η) (st : St σ η)
    (hw : WInv sys st0 bound w) (hb : w.records.size < bound) (hst : w.states[w.records.size]? = some st) :
    WInv sys st0 bound
      { states := (expand sys st w.states).1, records := w.records.push (expand sys st w.states).2.reverse } := by
  obtain ⟨hpre, hnd, hmem⟩ := expand_spec sys st w.states
  have hstl : w.states.toList[w.records.size]? = some st := by
    rw [Array.getElem?_toList]
    exact hst
  have hlt : w.records.size < w.states.toList.length := lt_length_of_getElem? hstl
  refine ⟨hnd hw.nodup, fun s hs => ?_, (hmem _).2 (Or.inl hw.init), ?_, ?_, ?_⟩
  · rcases (hmem s).1 hs with hs | hs
    · exact hw.reach s hs
    · exact Sys.Reach.step (hw.reach st (List.mem_of_getElem? hstl)) hs
  · have := hpre.length_le
    simp only [Array.length_toList] at this hlt
    simp only [Array.size_push]
    omega
  · simp only [Array.size_push]
    omega
  · simp only [Array.size_push]
    intro s hs t ht
    rw [take_of_prefix hpre hlt, List.take_add_one, hstl] at hs
    rcases List.mem_append.1 hs with hs | hs
    · exact (hmem t).2 (Or.inl (hw.closed s hs t ht))
    · rw [Option.toList_some, List.mem_singleton] at hs
      exact (hmem t).2 (Or.inr (hs ▸ ht))

theorem loopF_spec (sys : ActorSys σ η) (st0 : St σ η) (bound fuel : Nat) (w w' : WalkR σ η)
    (hw : WInv sys st0 bound w) (h0 : w.states.toList[0]? = some st0) (h : loopF sys bound fuel w = some w') :
    WInv sys st0 bound w' ∧ w'.states.toList[0]? = some st0 ∧
      (w'.records.size = bound ∨ w'.records.size = w'.states.size) := by
  fun_induction loopF sys bound fuel w with
  | case1 => cases h
  | case2 fuel w hge =>
    cases h
    exact ⟨hw, h0, Or.inl (Nat.le_antisymm hw.leB hge)⟩
  | case3 fuel w _ hnone =>
    cases h
    exact ⟨hw, h0, Or.inr (Nat.le_antisymm hw.le (Array.getElem?_eq_none_iff.1 hnone))⟩
  | case4 fuel w hlt st hst r ih =>
    exact ih (winv_expand sys st0 bound w st hw (Nat.lt_of_not_ge hlt) hst)
      (getElem?_of_prefix (expand_spec sys st w.states).1 h0) h

theorem loopF_fuel (sys : ActorSys σ η) (bound fuel : Nat) (w : WalkR σ η) (hf : bound < w.records.size + fuel)
    (h0 : fuel ≠ 0) : (loopF sys bound fuel w).isSome = true := by
  fun_induction loopF sys bound fuel w with
  | case1 => exact absurd rfl h0
  | case2 => rfl
  | case3 => rfl
  | case4 fuel w hlt st hst r ih =>
    rw [Array.size_push] at ih
    exact ih (by omega) (by omega)

theorem loopF_add (sys : ActorSys σ η) (bound fuel : Nat) (w w' : WalkR σ η) (h : loopF sys bound fuel w = some w')
    (k : Nat) : loopF sys bound (fuel + k) w = some w' := by
  fun_induction loopF sys bound fuel w with
  | case1 => cases h
  | case2 fuel w hge =>
    rw [Nat.succ_add, loopF, if_pos hge]
    exact h
  | case3 fuel w hlt hnone =>
    rw [Nat.succ_add, loopF, if_neg hlt, hnone]
    exact h
  | case4 fuel w hlt st hst r ih =>
    rw [Nat.succ_add, loopF, if_neg hlt, hst]
    exact ih h

omit [DecidableEq σ] [DecidableEq η] in
theorem reach_mem_of_closed (sys : ActorSys σ η) (st0 : St σ η) (bound : Nat) (w : WalkR σ η)
    (hi : init sys = some st0) (hw : WInv sys st0 bound w) (hc : w.records.size = w.states.size)
    (s : St σ η) (hs : (M sys).Reach s) : s ∈ w.states.toList := by
  induction hs with
  | init h =>
    cases hi.symm.trans (init_eq_specInit sys)
    exact (mem_initB_toSys.1 h).1 ▸ hw.init
  | step _ ht ih =>
    refine hw.closed _ ?_ _ ht
    rw [hc, ← Array.length_toList, List.take_length]
    exact ih

theorem walkF_eq_some (sys : ActorSys σ η) (fuel bound : Nat) (w : WalkR σ η) :
    walkF fuel sys bound = some w ↔
      ∃ st0, init sys = some st0 ∧ loopF sys bound fuel { states := #[st0], records := #[] } = some w := by
  unfold walkF
  cases init sys <;> simp

theorem walkF_inv (sys : ActorSys σ η) (fuel bound : Nat) (w : WalkR σ η) (h : walkF fuel sys bound = some w) :
    ∃ st0, init sys = some st0 ∧ WInv sys st0 bound w ∧ w.states[0]? = some st0 ∧
      (w.records.size = bound ∨ w.records.size = w.states.size) := by
  obtain ⟨st0, hi, hl⟩ := (walkF_eq_some sys fuel bound w).1 h
  obtain ⟨hw, h0, hex⟩ := loopF_spec sys st0 bound fuel _ w (winv_init sys st0 bound hi) rfl hl
  exact ⟨st0, hi, hw, Array.getElem?_toList.symm.trans h0, hex⟩

section keyed
variable {κ : Type} [DecidableEq κ]

theorem scanK_eq {α : Type} [DecidableEq α] (fp : α → κ) (xs : Array α) (a : α) (n i : Nat) :
    scanK xs (xs.map fp) a (fp a) n i = scan xs a n i := by
  fun_induction scan xs a n i with
  | case1 => rfl
  | case2 n i he =>
    obtain ⟨hlt, he'⟩ := Array.getElem?_eq_some_iff.1 he
    rw [scanK, dif_pos (by simpa using hlt), if_pos (by simp [he']), if_pos he]
  | case3 n i hne ih =>
    rw [scanK]
    simp only [if_neg hne, ite_self]
    split
    · exact ih
    · rename_i hge
      -- past the end: nothing left to find
      exact (scan_of_size_le xs a n (i + 1) (by simp at hge; omega)).symm

theorem visitK_eq (sys : ActorSys σ η) (fp : St σ η → κ) (st : St σ η) (xs : Array (St σ η))
    (recs : List (Action × String)) (a : Action) :
    visitK sys fp st (xs, xs.map fp, recs) a =
      ((visit sys st (xs, recs) a).1, (visit sys st (xs, recs) a).1.map fp, (visit sys st (xs, recs) a).2) := by
  unfold visitK visit
  cases step sys st a with
  | panic => rfl
  | ignored => rfl
  | next s' =>
    dsimp only
    rw [scanK_eq]
    cases scan xs s' xs.size 0 with
    | none => simp
    | some j => rfl

theorem foldK_eq (sys : ActorSys σ η) (fp : St σ η → κ) (st : St σ η) (as : List Action)
    (xs : Array (St σ η)) (recs : List (Action × String)) :
    as.foldl (visitK sys fp st) (xs, xs.map fp, recs) =
      ((as.foldl (visit sys st) (xs, recs)).1, (as.foldl (visit sys st) (xs, recs)).1.map fp,
       (as.foldl (visit sys st) (xs, recs)).2) :=
  List.foldl_hom (fun acc => (acc.1, acc.1.map fp, acc.2)) (init := (xs, recs))
    (fun acc a => visitK_eq sys fp st acc.1 acc.2 a)

theorem loopK_eq (sys : ActorSys σ η) (fp : St σ η → κ) (bound fuel : Nat) (w : WalkR σ η) :
    loopK sys fp bound fuel w (w.states.map fp) = loopF sys bound fuel w := by
  fun_induction loopF sys bound fuel w with
  | case1 => rfl
  | case2 fuel w hge => rw [loopK, if_pos hge]
  | case3 fuel w hlt hnone => rw [loopK, if_neg hlt, hnone]
  | case4 fuel w hlt st hst r ih =>
    rw [loopK, if_neg hlt, hst]
    dsimp only
    rw [foldK_eq]
    exact ih

theorem walkK_eq (fp : St σ η → κ) (fuel : Nat) (sys : ActorSys σ η) (bound : Nat) :
    walkK fp fuel sys bound = walkF fuel sys bound := by
  unfold walkK walkF
  cases init sys with
  | none => rfl
  | some st0 => simpa using loopK_eq sys fp bound fuel { states := #[st0], records := #[] }

end keyed

/-! ## evaluation by `decide` (for the examples): `List.mergeSort` is defined by well-founded recursion and does not
reduce, so `walkU` skips the sort after CHECKING that the actions already come in canonical order -/

def sortedB (l : List Action) : Bool :=
  decide (l.Pairwise (fun a b => natsLe (actionKey a) (actionKey b) = true))

theorem sortActions_of_sortedB (l : List Action) (h : sortedB l = true) : sortActions l = l :=
  List.mergeSort_of_pairwise (of_decide_eq_true h)

def loopU (sys : ActorSys σ η) (bound : Nat) : Nat → WalkR σ η → Option (WalkR σ η)
  | 0, _ => none
  | fuel + 1, w =>
    if w.records.size ≥ bound then some w else
    match w.states[w.records.size]? with
    | none => some w
    | some st =>
      if sortedB (actions sys st) then
        let r := (actions sys st).foldl (visit sys st) (w.states, [])
        loopU sys bound fuel { states := r.1, records := w.records.push r.2.reverse }
      else none

def walkU (fuel : Nat) (sys : ActorSys σ η) (bound : Nat) : Option (WalkR σ η) :=
  match init sys with
  | none => none
  | some st0 => loopU sys bound fuel { states := #[st0], records := #[] }

theorem loopU_eq (sys : ActorSys σ η) (bound fuel : Nat) (w w' : WalkR σ η) (h : loopU sys bound fuel w = some w') :
    loopF sys bound fuel w = some w' := by
  fun_induction loopU sys bound fuel w with
  | case1 => cases h
  | case2 fuel w hge =>
    rw [loopF, if_pos hge]
    exact h
  | case3 fuel w hlt hnone =>
    rw [loopF, if_neg hlt, hnone]
    exact h
  | case4 fuel w hlt st hst hs r ih =>
    rw [loopF, if_neg hlt, hst]
    dsimp only
    rw [expand, sortActions_of_sortedB _ hs]
    exact ih h
  | case5 => cases h

theorem walkU_eq (sys : ActorSys σ η) (fuel bound : Nat) (w : WalkR σ η) (h : walkU fuel sys bound = some w) :
    walkF fuel sys bound = some w := by
  unfold walkU at h
  cases hi : init sys with
  | none =>
    rw [hi] at h
    cases h
  | some st0 =>
    rw [hi] at h
    exact (walkF_eq_some sys fuel bound w).2 ⟨st0, hi, loopU_eq sys bound fuel _ w h⟩

end SR.ReachRef
