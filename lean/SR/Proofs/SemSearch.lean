import SR.Sem.Spec
import SR.Proofs.SemAMap
/-!
The backtracking search of the testers against the declarative definition, on search states `(Q, F)` tied to
a history by `Link`. `Ser` says what is left to do in terms of the operations that must and may still be placed:
the definition, a state of this search and a state of the oracle's enumeration are instances. One loop body takes an
`Enabled` operation `b` out of the state (`Took`); `Ser` of `b :: ids` before is `Ser` of `ids` after (`Ser.cons_iff`).
-/
namespace SR.Sem
open AMap Tester
variable {S Op Ret : Type}

/- an `OpId` is (thread, index within the thread); the in-flight operation of `t` has index `(retsOf es t).length` -/
def PresentQ (Q : Queues Op Ret) (a : OpId) : Prop :=
  ∃ items e, find? a.1 Q = some items ∧ (a.2, e) ∈ items

def PresentF (es : List (Event Op Ret)) (F : InFlights Op) (a : OpId) : Prop :=
  ∃ x, find? a.1 F = some x ∧ a.2 = (retsOf es a.1).length

/-- the recorded map `lc` of operation `b` says exactly which operations of other threads
    precede `b` in real time (nothing, when `rt = false`) -/
structure LcOk (rt : Bool) (es : List (Event Op Ret)) (b : OpId) (lc : LC) : Prop where
  sorted : Sorted lc
  self : find? b.1 lc = none
  iff : ∀ a : OpId, a.1 ≠ b.1 → ((∃ m, find? a.1 lc = some m ∧ a.2 ≤ m) ↔ (rt = true ∧ PrecedesRT es a b))

/-- The entry `e = (lc, op, r)`, as `on_return` appends it to the thread's history, is operation `a` of `es`. -/
structure Recorded (rt : Bool) (es : List (Event Op Ret)) (a : OpId) (e : LC × Op × Ret) : Prop where
  op : opAt es a = some e.2.1
  ret : retAt es a = some e.2.2
  lc : LcOk rt es a e.1

/-- `MustPrecede` counts real-time precedence within a thread too, which the search never tests: `enabled_iff` needs
    this to discharge it. It holds of every well-formed history (`RInv.sameThread`). -/
def SameThread (es : List (Event Op Ret)) : Prop :=
  ∀ a b : OpId, a.1 = b.1 → PrecedesRT es a b → a.2 < b.2

/-- The search state `(Q, F)` read against the history: a queued item `(i, _)` of thread `t` is its completed operation
    `(t, i)`, and indices ascend along a queue, so the head is the thread's earliest remaining operation.
    `infl`: a thread with an in-flight operation has a queue, possibly empty (the loop runs over the queues only;
    `on_invoke` makes the entry), and the operation comes after everything in it. -/
structure Link (rt : Bool) (es : List (Event Op Ret)) (Q : Queues Op Ret) (F : InFlights Op) : Prop where
  sameThread : SameThread es
  qSorted : Sorted Q
  fSorted : Sorted F
  pairwise : ∀ t its, find? t Q = some its → its.Pairwise (fun x y => x.1 < y.1)
  items : ∀ t its, find? t Q = some its → ∀ i e, (i, e) ∈ its → Recorded rt es (t, i) e
  infl : ∀ t lc op, find? t F = some (lc, op) →
    (∃ its, find? t Q = some its ∧ ∀ x ∈ its, x.1 < (retsOf es t).length) ∧
    opAt es (t, (retsOf es t).length) = some op ∧ LcOk rt es (t, (retsOf es t).length) lc

structure Ser (rt : Bool) (spec : SeqSpec S Op Ret) (es : List (Event Op Ret)) (must may : OpId → Prop)
    (obj : S) (ids : List OpId) (l : List (Op × Ret)) : Prop where
  nodup : ids.Nodup
  present : ∀ a ∈ ids, may a
  all : ∀ a, must a → a ∈ ids
  order : ids.Pairwise (fun a b => ¬ MustPrecede rt es b a)
  legal : Legal spec es obj ids l

def Enabled (rt : Bool) (es : List (Event Op Ret)) (Q : Queues Op Ret) (b : OpId) : Prop :=
  ∀ a, PresentQ Q a → a ≠ b → ¬ MustPrecede rt es a b

structure Took (es : List (Event Op Ret)) (b : OpId) (Q : Queues Op Ret) (F : InFlights Op)
    (Q' : Queues Op Ret) (F' : InFlights Op) : Prop where
  here : PresentQ Q b ∨ PresentF es F b
  queued : ∀ a, PresentQ Q' a ↔ PresentQ Q a ∧ a ≠ b
  inflight : ∀ a, PresentF es F' a ↔ PresentF es F a ∧ a ≠ b

/-- equals `Tester.len` at the initial search state (`remaining_init` in `SemTester`); what the fuel of `serialize` bounds -/
def remaining (Q : Queues Op Ret) (F : InFlights Op) : Nat := (Q.map fun e => e.2.length).sum + F.length

variable {rt : Bool} {spec : SeqSpec S Op Ret} {es : List (Event Op Ret)} {Q Q' : Queues Op Ret} {F F' : InFlights Op}
  {obj obj' : S} {b : OpId} {ids : List OpId} {x : Op × Ret} {l : List (Op × Ret)} {must may must' may' : OpId → Prop}

theorem isSerializationOf_iff_ser :
    IsSerializationOf rt spec obj es ids l ↔ Ser rt spec es (IsCompleted es) (IsOp es) obj ids l :=
  ⟨fun ⟨h1, h2, h3, h4, h5⟩ => ⟨h1, h2, h3, h4, h5⟩, fun ⟨h1, h2, h3, h4, h5⟩ => ⟨h1, h2, h3, h4, h5⟩⟩

theorem Ser.imp (h1 : ∀ a, must' a → must a) (h2 : ∀ a, may a → may' a) (h : Ser rt spec es must may obj ids l) :
    Ser rt spec es must' may' obj ids l :=
  ⟨h.nodup, fun a ha => h2 a (h.present a ha), fun a ha => h.all a (h1 a ha), h.order, h.legal⟩

theorem Ser.congr (h1 : ∀ a, must' a ↔ must a) (h2 : ∀ a, may' a ↔ may a) :
    Ser rt spec es must' may' obj ids l ↔ Ser rt spec es must may obj ids l :=
  ⟨Ser.imp (fun a => (h1 a).2) (fun a => (h2 a).1), Ser.imp (fun a => (h1 a).1) (fun a => (h2 a).2)⟩

theorem Ser.nil_iff : Ser rt spec es must may obj [] [] ↔ ∀ a, ¬ must a :=
  ⟨fun h a ha => (nomatch h.all a ha),
   fun h => ⟨List.nodup_nil, (fun _ h => nomatch h), fun a ha => absurd ha (h a), List.Pairwise.nil, trivial⟩⟩

/-- `hfree`: an operation that may but need not be placed (an in-flight one) precedes nothing. -/
theorem Ser.cons_iff (hfree : ∀ a, may a → ¬ must a → ¬ MustPrecede rt es a b) :
    Ser rt spec es must may obj (b :: ids) (x :: l) ↔
      may b ∧ (∀ a, must a → a ≠ b → ¬ MustPrecede rt es a b) ∧
      opAt es b = some x.1 ∧ (spec.invoke obj x.1).2 = x.2 ∧ (∀ r, retAt es b = some r → r = x.2) ∧
      Ser rt spec es (fun a => must a ∧ a ≠ b) (fun a => may a ∧ a ≠ b) (spec.invoke obj x.1).1 ids l := by
  constructor
  · rintro ⟨hnd, hpres, hall, hpw, hop, hinv, hret, hleg⟩
    obtain ⟨hbn, hnd'⟩ := List.nodup_cons.1 hnd
    obtain ⟨hpb, hpw'⟩ := List.pairwise_cons.1 hpw
    exact ⟨hpres b List.mem_cons_self, fun a ha hab => hpb a ((List.mem_cons.1 (hall a ha)).resolve_left hab),
      hop, hinv, hret, hnd', fun a ha => ⟨hpres a (List.mem_cons_of_mem _ ha), fun e => hbn (e ▸ ha)⟩,
      fun a ha => (List.mem_cons.1 (hall a ha.1)).resolve_left ha.2, hpw', hleg⟩
  · rintro ⟨hb, hen, hop, hinv, hret, hnd, hpres, hall, hpw, hleg⟩
    refine ⟨List.nodup_cons.2 ⟨fun h => (hpres b h).2 rfl, hnd⟩, ?_, ?_, List.pairwise_cons.2 ⟨?_, hpw⟩,
      hop, hinv, hret, hleg⟩
    · intro a ha
      rcases List.mem_cons.1 ha with rfl | ha
      · exact hb
      · exact (hpres a ha).1
    · intro a ha
      by_cases hab : a = b
      · exact hab ▸ List.mem_cons_self
      · exact List.mem_cons_of_mem _ (hall a ⟨ha, hab⟩)
    · intro a ha
      by_cases hm : must a
      · exact hen a hm (hpres a ha).2
      · exact hfree a (hpres a ha).1 hm

theorem Took.ser_iff (hT : Took es b Q F Q' F') :
    Ser rt spec es (PresentQ Q') (fun a => PresentQ Q' a ∨ PresentF es F' a) obj ids l ↔
      Ser rt spec es (fun a => PresentQ Q a ∧ a ≠ b) (fun a => (PresentQ Q a ∨ PresentF es F a) ∧ a ≠ b) obj ids l :=
  Ser.congr hT.queued fun a => by rw [hT.queued, hT.inflight, or_and_right]

theorem ret_length (es : List (Event Op Ret)) (t : Nat) :
    retAt es (t, (retsOf es t).length) = none ∧ retPos es (t, (retsOf es t).length) = none := by
  unfold retAt retPos
  rw [List.getElem?_eq_none (Nat.le_refl _)]
  exact ⟨rfl, rfl⟩

theorem violation_iff {lc : LC}
    (hitems : ∀ t its, find? t Q = some its → its.Pairwise (fun x y => x.1 < y.1))
    (hlc : LcOk rt es b lc) :
    violation lc Q = true ↔ ∃ a, PresentQ Q a ∧ a.1 ≠ b.1 ∧ rt = true ∧ PrecedesRT es a b := by
  unfold violation
  rw [List.any_eq_true]
  constructor
  · rintro ⟨⟨p, m⟩, hmem, hv⟩
    have hf : find? p lc = some m := find?_of_mem hlc.sorted hmem
    have hpb : p ≠ b.1 := by
      intro e
      rw [e, hlc.self] at hf
      cases hf
    simp only at hv
    cases hq : find? p Q with
    | none => simp [hq] at hv
    | some its =>
      cases its with
      | nil => simp [hq] at hv
      | cons it rest =>
        simp only [hq, decide_eq_true_eq] at hv
        exact ⟨(p, it.1), ⟨it :: rest, it.2, hq, List.mem_cons_self⟩, hpb, (hlc.iff (p, it.1) hpb).1 ⟨m, hf, hv⟩⟩
  · rintro ⟨a, ⟨its, e, hq, hmem⟩, hab, hrt, hpre⟩
    obtain ⟨m, hf, hle⟩ := (hlc.iff a hab).2 ⟨hrt, hpre⟩
    refine ⟨(a.1, m), mem_of_find? hf, ?_⟩
    simp only [hq]
    cases its with
    | nil => cases hmem
    | cons it rest =>
      -- the head of the queue has the smallest index
      rw [decide_eq_true_eq]
      rcases List.mem_cons.1 hmem with h | h
      · rw [← h]
        exact hle
      · have := (List.pairwise_cons.1 (hitems a.1 _ hq)).1 _ h
        simp only at this
        omega

theorem violation_upsert {lc : LC} {t : Nat} (h : find? t lc = none) (rest : List (Item Op Ret)) (Q : Queues Op Ret) :
    violation lc (upsert t rest Q) = violation lc Q := by
  unfold violation
  rw [Bool.eq_iff_iff, List.any_eq_true, List.any_eq_true]
  refine exists_congr fun pm => and_congr_right fun hm => ?_
  have hne : t ≠ pm.1 := fun e => find?_eq_none_iff.1 h (e ▸ List.mem_map_of_mem hm)
  rw [find?_upsert_ne hne]

theorem enabled_iff (hst : SameThread es) :
    Enabled rt es Q b ↔ (∀ a, PresentQ Q a → a.1 = b.1 → b.2 ≤ a.2) ∧
      ¬ ∃ a, PresentQ Q a ∧ a.1 ≠ b.1 ∧ rt = true ∧ PrecedesRT es a b := by
  constructor
  · intro h
    constructor
    · intro a ha e
      apply Nat.le_of_not_lt
      intro hlt
      exact h a ha (fun e' => Nat.lt_irrefl _ (e' ▸ hlt)) (Or.inl ⟨e, hlt⟩)
    · rintro ⟨a, ha, hne, hrt, hp⟩
      exact h a ha (fun e' => hne (e' ▸ rfl)) (Or.inr ⟨hrt, hp⟩)
  · rintro ⟨h1, h2⟩ a ha _ hmp
    by_cases e : a.1 = b.1
    · have hle := h1 a ha e
      rcases hmp with ⟨_, hlt⟩ | ⟨_, hp⟩
      · omega
      · have := hst a b e hp
        omega
    · rcases hmp with ⟨e', _⟩ | ⟨hrt, hp⟩
      · exact e e'
      · exact h2 ⟨a, ha, e, hrt, hp⟩

theorem PresentQ.mem {a : OpId} {its : List (Item Op Ret)} (ha : PresentQ Q a)
    (hm : find? a.1 Q = some its) : ∃ e, (a.2, e) ∈ its := by
  obtain ⟨its', e, h1, h2⟩ := ha
  rw [hm] at h1
  cases h1
  exact ⟨e, h2⟩

/-- `hfree` of `Ser.cons_iff` at a search state: what may be placed and is not queued is in flight, so it has not
    returned and none of its thread's queued operations comes after it. -/
theorem Link.inflight_last (hL : Link rt es Q F) (hb : PresentQ Q b ∨ PresentF es F b) (a : OpId)
    (ha : PresentQ Q a ∨ PresentF es F a) (hn : ¬ PresentQ Q a) : ¬ MustPrecede rt es a b := by
  obtain ⟨t, i⟩ := a
  obtain ⟨⟨lc, op⟩, hfa, h2⟩ := ha.resolve_left hn
  dsimp only at hfa h2
  subst h2
  obtain ⟨⟨its, hq, hbound⟩, _⟩ := hL.infl t lc op hfa
  rintro (⟨e, hlt⟩ | ⟨_, q, p, hr, _⟩)
  · dsimp only at e hlt
    rcases hb with hb | ⟨_, _, hb2⟩
    · obtain ⟨e', hm'⟩ := hb.mem (e ▸ hq)
      have := hbound _ hm'
      dsimp only at this
      omega
    · rw [e] at hlt
      omega
  · exact nomatch (ret_length es t).2.symm.trans hr

/-- case 2 of the loop body -/
theorem Link.pop (hL : Link rt es Q F) {t i : Nat} {e : LC × Op × Ret} {rest : List (Item Op Ret)}
    (hm : find? t Q = some ((i, e) :: rest)) :
    Link rt es (upsert t rest Q) F ∧ remaining (upsert t rest Q) F + 1 = remaining Q F ∧
      Took es (t, i) Q F (upsert t rest Q) F := by
  obtain ⟨hhead, hpw'⟩ := List.pairwise_cons.1 (hL.pairwise t _ hm)
  refine ⟨⟨hL.sameThread, sorted_upsert hL.qSorted, hL.fSorted, ?_, ?_, ?_⟩, ?_, ⟨Or.inl ⟨_, e, hm, List.mem_cons_self⟩, ?_, ?_⟩⟩
  · intro t' its h'
    rw [find?_upsert] at h'
    split at h'
    · cases h'
      exact hpw'
    · exact hL.pairwise t' its h'
  · intro t' its h'
    rw [find?_upsert] at h'
    split at h'
    · subst t'
      cases h'
      exact fun i' e' hmem => hL.items t _ hm i' e' (List.mem_cons_of_mem _ hmem)
    · exact hL.items t' its h'
  · intro t' lc' op' h'
    obtain ⟨⟨its, h1, h2⟩, h3⟩ := hL.infl t' lc' op' h'
    refine ⟨?_, h3⟩
    rw [find?_upsert]
    split
    · subst t'
      rw [hm] at h1
      cases h1
      exact ⟨rest, rfl, fun x hx => h2 x (List.mem_cons_of_mem _ hx)⟩
    · exact ⟨its, h1, h2⟩
  · have := sum_upsert t rest hL.qSorted
    rw [hm, Option.getD_some, List.length_cons] at this
    unfold remaining
    omega
  · intro a
    unfold PresentQ
    rw [find?_upsert]
    by_cases h : t = a.1
    · subst h
      rw [if_pos rfl, hm]
      constructor
      · rintro ⟨_, e', h1, he'⟩
        cases h1
        refine ⟨⟨_, e', rfl, List.mem_cons_of_mem _ he'⟩, fun eq => ?_⟩
        have := hhead _ he'
        rw [eq] at this
        exact Nat.lt_irrefl _ this
      · rintro ⟨⟨_, e', h1, he'⟩, hne⟩
        cases h1
        rcases List.mem_cons.1 he' with h | h
        · exact absurd (Prod.ext rfl (Prod.mk.inj h).1 : a = (a.1, i)) hne
        · exact ⟨_, e', rfl, h⟩
    · rw [if_neg h]
      exact ⟨fun ha => ⟨ha, fun eq => h (eq ▸ rfl)⟩, And.left⟩
  · -- a thread's in-flight operation comes after everything in its queue
    intro a
    refine ⟨fun ha => ⟨ha, fun eq => ?_⟩, And.left⟩
    subst eq
    obtain ⟨⟨lc, op⟩, hfa, h2⟩ := ha
    obtain ⟨⟨its, hq, hbound⟩, _⟩ := hL.infl t lc op hfa
    rw [hm] at hq
    cases hq
    have := hbound _ List.mem_cons_self
    dsimp only at h2 this
    omega

/-- case 1 of the loop body -/
theorem Link.eraseF (hL : Link rt es Q F) {t : Nat} (hm : find? t Q = some []) {x : LC × Op} (hf : find? t F = some x) :
    Link rt es Q (erase t F) ∧ remaining Q (erase t F) + 1 = remaining Q F ∧
      Took es (t, (retsOf es t).length) Q F Q (erase t F) := by
  refine ⟨⟨hL.sameThread, hL.qSorted, sorted_erase hL.fSorted, hL.pairwise, hL.items, ?_⟩, ?_, ⟨Or.inr ⟨x, hf, rfl⟩, ?_, ?_⟩⟩
  · intro t' lc' op' h'
    rw [find?_erase hL.fSorted] at h'
    split at h'
    · cases h'
    · exact hL.infl t' lc' op' h'
  · have := length_erase (k := t) (m := F) (by rw [hf]; rfl)
    unfold remaining
    omega
  · intro a
    refine ⟨fun ha => ⟨ha, fun eq => ?_⟩, And.left⟩
    subst eq
    obtain ⟨_, he⟩ := ha.mem hm
    cases he
  · intro a
    unfold PresentF
    rw [find?_erase hL.fSorted]
    constructor
    · rintro ⟨y, h1, h2⟩
      split at h1
      · cases h1
      · rename_i hne
        exact ⟨⟨y, h1, h2⟩, fun eq => hne (eq ▸ rfl)⟩
    · rintro ⟨⟨y, h1, h2⟩, hne⟩
      rw [if_neg fun e => hne (Prod.ext e (by rw [h2, e]))]
      exact ⟨y, h1, h2⟩

theorem branch_sound (hL : Link rt es Q F) (hlaw : spec.Lawful) {t : Nat} {rem : List (Item Op Ret)}
    (hm : find? t Q = some rem) (hb : branch spec obj Q F t rem = some (obj', Q', F', x)) :
    ∃ b : OpId, Link rt es Q' F' ∧ Took es b Q F Q' F' ∧ Enabled rt es Q b ∧
      opAt es b = some x.1 ∧ (∀ r, retAt es b = some r → r = x.2) ∧ spec.invoke obj x.1 = (obj', x.2) := by
  cases rem with
  | nil =>
    simp only [branch] at hb
    cases hf : find? t F with
    | none => simp [hf] at hb
    | some lcop =>
      obtain ⟨lc, op⟩ := lcop
      simp only [hf] at hb
      split at hb
      · cases hb
      · rename_i hv
        cases hb
        obtain ⟨_, hop, hlc⟩ := hL.infl t lc op hf
        obtain ⟨hL', _, hT⟩ := hL.eraseF hm hf
        refine ⟨_, hL', hT, (enabled_iff hL.sameThread).2 ⟨?_, ?_⟩, hop, ?_, rfl⟩
        · intro a ha (e : a.1 = t)
          obtain ⟨_, he⟩ := ha.mem (e ▸ hm)
          cases he
        · exact fun h => hv ((violation_iff hL.pairwise hlc).2 h)
        · intro r hr
          rw [(ret_length es t).1] at hr
          cases hr
  | cons it rest =>
    obtain ⟨i, lc, op, ret⟩ := it
    simp only [branch] at hb
    split at hb
    · cases hb
    · rename_i hv
      split at hb
      · rename_i hst
        cases hb
        have hpw := hL.pairwise t _ hm
        obtain ⟨hop, hret, hlc⟩ := hL.items t _ hm i _ List.mem_cons_self
        obtain ⟨hL', _, hT⟩ := hL.pop hm
        refine ⟨_, hL', hT, (enabled_iff hL.sameThread).2 ⟨?_, ?_⟩, hop, ?_, ?_⟩
        · intro a ha (e : a.1 = t)
          obtain ⟨e', he'⟩ := ha.mem (e ▸ hm)
          rcases List.mem_cons.1 he' with h | h
          · exact Nat.le_of_eq (Prod.mk.inj h).1.symm
          · exact Nat.le_of_lt ((List.pairwise_cons.1 hpw).1 _ h)
        · intro h
          apply hv
          rw [violation_upsert hlc.self]
          exact (violation_iff hL.pairwise hlc).2 h
        · intro r hr
          rw [hret] at hr
          exact (Option.some.inj hr).symm
        · exact Prod.ext (hlaw.state obj op ret hst).symm ((hlaw.verdict obj op ret).1 hst)
      · cases hb

theorem branch_complete (hL : Link rt es Q F) (hlaw : spec.Lawful)
    (hpres : PresentQ Q b ∨ PresentF es F b) (hen : Enabled rt es Q b) (hop : opAt es b = some x.1)
    (hinv : (spec.invoke obj x.1).2 = x.2) (hret : ∀ r, retAt es b = some r → r = x.2) :
    ∃ rem Q' F', find? b.1 Q = some rem ∧ branch spec obj Q F b.1 rem = some ((spec.invoke obj x.1).1, Q', F', x) ∧
      Link rt es Q' F' ∧ remaining Q' F' + 1 = remaining Q F ∧ Took es b Q F Q' F' := by
  obtain ⟨t, i⟩ := b
  obtain ⟨hfirst, hnov⟩ := (enabled_iff hL.sameThread).1 hen
  rcases hpres with ⟨its, e, hq, hmem⟩ | ⟨⟨lc, op⟩, hfa, hf2⟩
  · -- `b` is queued: it is the head of its queue (case 2)
    dsimp only at hq hmem
    have hpw := hL.pairwise t its hq
    cases its with
    | nil => cases hmem
    | cons it rest =>
      have hit : it = (i, e) := by
        rcases List.mem_cons.1 hmem with h | h
        · exact h.symm
        · have h1 := hfirst (t, it.1) ⟨_, it.2, hq, List.mem_cons_self⟩ rfl
          have h2 := (List.pairwise_cons.1 hpw).1 _ h
          dsimp only at h1 h2
          omega
      subst hit
      obtain ⟨lc, op, ret⟩ := e
      obtain ⟨hop', hret', hlc⟩ := hL.items t _ hq i _ List.mem_cons_self
      have hx : x = (op, ret) := Prod.ext (Option.some.inj (hop.symm.trans hop')) (hret ret hret').symm
      subst hx
      have hst : (spec.isValidStep obj op ret).1 = true := (hlaw.verdict obj op ret).2 hinv
      have hv : violation lc (upsert t rest Q) = false := by
        rw [violation_upsert hlc.self, Bool.eq_false_iff]
        exact fun h => hnov ((violation_iff hL.pairwise hlc).1 h)
      refine ⟨_, upsert t rest Q, F, hq, ?_, hL.pop hq⟩
      simp only [branch, hv, hst, Bool.false_eq_true, if_false, if_true]
      rw [hlaw.state obj op ret hst]
  · -- `b` is an in-flight operation: its thread's queue is empty (case 1)
    dsimp only at hfa hf2
    subst hf2
    obtain ⟨⟨its, hq, hbound⟩, hop', hlc⟩ := hL.infl t lc op hfa
    have hits : its = [] := by
      cases its with
      | nil => rfl
      | cons it rest =>
        have h1 := hfirst (t, it.1) ⟨_, it.2, hq, List.mem_cons_self⟩ rfl
        have h2 := hbound it List.mem_cons_self
        dsimp only at h1
        omega
    subst hits
    have hx1 : op = x.1 := Option.some.inj (hop'.symm.trans hop)
    have hv : violation lc Q = false := by
      rw [Bool.eq_false_iff]
      exact fun h => hnov ((violation_iff hL.pairwise hlc).1 h)
    refine ⟨[], Q, erase t F, hq, ?_, hL.eraseF hq hfa⟩
    simp only [branch, hfa, hv, Bool.false_eq_true, if_false]
    rw [hx1, hinv]

theorem tryThreads_eq_findSome? (spec : SeqSpec S Op Ret)
    (rec : List (Op × Ret) → S → Queues Op Ret → InFlights Op → Option (List (Op × Ret)))
    (acc : List (Op × Ret)) (obj : S) (Q : Queues Op Ret) (F : InFlights Op) (entries : List (Nat × List (Item Op Ret))) :
    tryThreads spec rec acc obj Q F entries = entries.findSome? fun e =>
      (branch spec obj Q F e.1 e.2).bind fun r => rec (acc ++ [r.2.2.2]) r.1 r.2.1 r.2.2.1 := by
  fun_induction tryThreads spec rec acc obj Q F entries <;> simp_all

theorem not_presentQ_of_done (h : Q.all (fun e => e.2.isEmpty) = true) (a : OpId) : ¬ PresentQ Q a := by
  rintro ⟨its, e, h1, h2⟩
  have := List.all_eq_true.1 h _ (mem_of_find? h1)
  rw [List.isEmpty_iff] at this
  subst this
  cases h2

theorem serialize_sound (hlaw : spec.Lawful) :
    ∀ (fuel : Nat) (acc : List (Op × Ret)) (obj : S) (Q : Queues Op Ret) (F : InFlights Op) (l' : List (Op × Ret)),
      Link rt es Q F → serialize spec fuel acc obj Q F = some l' →
      ∃ ids l2, l' = acc ++ l2 ∧ Ser rt spec es (PresentQ Q) (fun a => PresentQ Q a ∨ PresentF es F a) obj ids l2 := by
  intro fuel
  induction fuel with
  | zero =>
    intro acc obj Q F l' _ h
    cases h
  | succ fuel ih =>
    intro acc obj Q F l' hL h
    rw [serialize] at h
    split at h
    · rename_i hd
      cases h
      exact ⟨[], [], (List.append_nil _).symm, Ser.nil_iff.2 (not_presentQ_of_done hd)⟩
    · rw [tryThreads_eq_findSome?] at h
      obtain ⟨⟨t, rem⟩, hmem, h⟩ := List.exists_of_findSome?_eq_some h
      obtain ⟨⟨obj', Q', F', x⟩, hb, hr⟩ := Option.bind_eq_some_iff.1 h
      obtain ⟨b, hL', hT, hen, hop, hret, hinv⟩ := branch_sound hL hlaw (find?_of_mem hL.qSorted hmem) hb
      obtain ⟨ids, l2, e1, hS⟩ := ih _ _ _ _ _ hL' hr
      exact ⟨b :: ids, x :: l2, by rw [e1, List.append_assoc]; rfl,
        (Ser.cons_iff (hL.inflight_last hT.here)).2 ⟨hT.here, hen, hop, congrArg Prod.snd hinv, hret,
          congrArg Prod.fst hinv ▸ hT.ser_iff.1 hS⟩⟩

/-- `remaining Q F < fuel`: one level per operation placed and one more for the level that finds every queue empty
    (`serializedHistory` passes `len + 1`). -/
theorem serialize_complete (hlaw : spec.Lawful) :
    ∀ (fuel : Nat) (acc : List (Op × Ret)) (obj : S) (Q : Queues Op Ret) (F : InFlights Op) (ids : List OpId)
      (l : List (Op × Ret)), Link rt es Q F →
      Ser rt spec es (PresentQ Q) (fun a => PresentQ Q a ∨ PresentF es F a) obj ids l → remaining Q F < fuel →
      (serialize spec fuel acc obj Q F).isSome = true := by
  intro fuel
  induction fuel with
  | zero =>
    intro acc obj Q F ids l _ _ h
    cases h
  | succ fuel ih =>
    intro acc obj Q F ids l hL hS hm
    rw [serialize]
    split
    · rfl
    · rename_i hd
      cases ids with
      | nil =>
        -- nothing to place: every queue is empty
        refine absurd (List.all_eq_true.2 ?_) hd
        rintro ⟨t, its⟩ he
        cases its with
        | nil => rfl
        | cons it rest =>
          cases hS.all (t, it.1) ⟨_, it.2, find?_of_mem hL.qSorted he, List.mem_cons_self⟩
      | cons b ids =>
        cases l with
        | nil => exact hS.legal.elim
        | cons x l =>
          have hb := hS.present b List.mem_cons_self
          obtain ⟨_, hen, hop, hinv, hret, hS'⟩ := (Ser.cons_iff (hL.inflight_last hb)).1 hS
          obtain ⟨rem, Q', F', hq, hbr, hL', hmeas, hT⟩ := branch_complete hL hlaw (obj := obj) hb hen hop hinv hret
          rw [tryThreads_eq_findSome?, List.findSome?_isSome_iff]
          refine ⟨(b.1, rem), mem_of_find? hq, ?_⟩
          rw [hbr]
          exact ih (acc ++ [x]) _ Q' F' ids l hL' (hT.ser_iff.2 hS') (by omega)

end SR.Sem
