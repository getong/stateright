import SR.Util.IdCodec
/-! The bytes of an id are read off by repeated division by 256 (`addrOf_eq`); the round trips are then: append a byte,
take it off again (`push_div`, `push_mod`, `mod_push`). -/
namespace SR.IdCodec

theorem idOf_eq_fromBe (a : Addr) :
    idOf a = fromBe [0, 0, a.o0, a.o1, a.o2, a.o3, a.port / 256, a.port % 256] := rfl

theorem beByte_seven (id : Nat) : beByte id 7 = id % 256 := rfl

/-- `i < 7`: beyond, the truncated `7 - i` stops the shift -/
theorem beByte_succ (id i : Nat) (h : i < 7) : beByte id i = beByte (id / 256) (i + 1) := by
  unfold beByte
  rw [show 8 * (7 - i) = 8 + 8 * (7 - (i + 1)) by omega, Nat.shiftRight_add, Nat.shiftRight_eq_div_pow id 8]

theorem addrOf_eq (id : Nat) :
    addrOf id = ⟨id / 256 / 256 / 256 / 256 / 256 % 256, id / 256 / 256 / 256 / 256 % 256,
      id / 256 / 256 / 256 % 256, id / 256 / 256 % 256, id / 256 % 256 * 256 + id % 256⟩ := by
  simp only [addrOf, beByte_succ, beByte_seven, Nat.reduceLT, Nat.reduceAdd]

theorem push_div (x : Nat) {b : Nat} (h : b < 256) : (x * 256 + b) / 256 = x := by
  rw [Nat.mul_comm, Nat.mul_add_div (by decide), Nat.div_eq_of_lt h, Nat.add_zero]

theorem push_mod (x : Nat) {b : Nat} (h : b < 256) : (x * 256 + b) % 256 = b := by
  rw [Nat.mul_comm, Nat.mul_add_mod, Nat.mod_eq_of_lt h]

theorem mod_push (x n : Nat) : x % (n * 256) = x / 256 % n * 256 + x % 256 := by
  rw [Nat.mul_comm n, Nat.mod_mul, Nat.add_comm, Nat.mul_comm]

theorem addrOf_valid (id : Nat) : (addrOf id).Valid := by
  simp only [addrOf_eq, Addr.Valid]
  omega

theorem addrOf_idOf (a : Addr) (h : a.Valid) : addrOf (idOf a) = a := by
  obtain ⟨h0, h1, h2, h3, hp⟩ := h
  have hl : a.port % 256 < 256 := Nat.mod_lt _ (by decide)
  have hh : a.port / 256 < 256 := Nat.div_lt_of_lt_mul hp
  simp only [addrOf_eq, idOf, Nat.zero_mul, Nat.zero_add, push_div, push_mod, hl, hh, h0, h1, h2, h3,
    Nat.mod_eq_of_lt, Nat.div_add_mod']

theorem idOf_addrOf_mod (id : Nat) : idOf (addrOf id) = id % 2 ^ 48 := by
  have hl : ∀ n : Nat, n % 256 < 256 := fun n => Nat.mod_lt n (by decide)
  rw [show 2 ^ 48 = 256 * 256 * 256 * 256 * 256 * 256 from rfl, mod_push, mod_push, mod_push, mod_push, mod_push]
  simp only [addrOf_eq, idOf, Nat.zero_mul, Nat.zero_add, push_div, push_mod, hl]

theorem idOf_addrOf (id : Nat) (h : id < 2 ^ 48) : idOf (addrOf id) = id := by
  rw [idOf_addrOf_mod, Nat.mod_eq_of_lt h]

theorem idOf_eq_spec (a : Addr) : idOf a = idSpec a := by
  simp only [idOf, idSpec]
  omega

theorem idOf_lt (a : Addr) (h : a.Valid) : idOf a < 2 ^ 48 := by
  obtain ⟨h0, h1, h2, h3, hp⟩ := h
  simp only [idOf]
  omega

end SR.IdCodec
