import SR.Drv.C18
import SR.SExpEq
import SR.Proofs.SemRegister
import SR.Proofs.SemBrute
import SR.Proofs.ListAux
/-!
Adequacy of the C18 mirror oracle (`SR/Drv/C18.lean`: `mirrorClient`, `oracleMirror`, command `o-c18`)
with respect to the model's history mirror `RC.mirror` (`SR/Sem/RegisterClient.lean`).

`mirrorClient` accepts exactly the logs that follow the per-client protocol `Alt`, answers the text of the
first violation `Viol` otherwise, and on a conforming log yields the `Render`ing of the model's mirror; every
log of the harness transition system `Step` is conforming (`ProtoInv`).
-/
namespace SR.C18Oracle
open SR SR.Sem SR.Sem.RC SR.Sem.AMap SR.Drv.Sem SR.Drv.C18

def cev : LogEv → CEv
  | .send c m => .send c m
  | .acc c m => .acc c m

def lev : CEv → LogEv
  | .send c m => .send c m
  | .acc c m => .acc c m

@[simp] theorem cev_lev (e : CEv) : cev (lev e) = e := by cases e <;> rfl
@[simp] theorem lev_cev (e : LogEv) : lev (cev e) = e := by cases e <;> rfl

theorem map_cev_map_lev (l : List CEv) : (l.map lev).map cev = l := by
  rw [List.map_map, show cev ∘ lev = id from funext cev_lev, List.map_id]

theorem client_cev (e : LogEv) : (cev e).client = e.client := by cases e <;> rfl

/-- the events of client `c` (what `oracleMirror` hands to `mirrorClient`) -/
def clog (c : Nat) (log : List LogEv) : List LogEv := log.filter fun e => e.client == c

theorem clog_append (c : Nat) (l1 l2 : List LogEv) : clog c (l1 ++ l2) = clog c l1 ++ clog c l2 :=
  List.filter_append l1 l2

theorem mem_clog {c : Nat} {l : List LogEv} {e : LogEv} : e ∈ clog c l ↔ e ∈ l ∧ e.client = c := by
  simp [clog]

theorem clog_of {c : Nat} {l : List LogEv} (h : ∀ e ∈ l, e.client = c) (k : Nat) :
    clog k l = if c = k then l else [] := by
  unfold clog
  split
  · next hk =>
    rw [List.filter_eq_self]
    intro e he
    simp [h e he, hk]
  · next hk =>
    rw [List.filter_eq_nil_iff]
    intro e he
    simp [h e he, hk]

/-- the clients that occur in a log, in order of first occurrence (as `oracleMirror` computes them) -/
def clientsOf (log : List LogEv) : List Nat :=
  (log.map LogEv.client).foldl (fun acc c => if acc.contains c then acc else acc ++ [c]) []

theorem mem_clientsOf {log : List LogEv} {c : Nat} : c ∈ clientsOf log ↔ ∃ e ∈ log, e.client = c := by
  unfold clientsOf
  rw [dedup_foldl_eq, mem_foldl_insertNew]
  simp

def IsRequest : RMsg → Prop
  | .put _ _ => True
  | .get _ => True
  | _ => False

instance : DecidablePred IsRequest := fun m => by cases m <;> unfold IsRequest <;> infer_instance
instance (wo : Bool) : DecidablePred (IsReply wo) := fun m => by cases m <;> unfold IsReply <;> infer_instance

theorem opSxOf_isSome_iff {m : RMsg} : (opSxOf m).isSome ↔ IsRequest m := by
  cases m <;> simp [opSxOf, IsRequest]

theorem retSxOf_isSome_iff {wo : Bool} {m : RMsg} : (retSxOf wo m).isSome ↔ IsReply wo m := by
  cases m <;> simp [retSxOf, IsReply]

theorem opOfMsg_isSome_iff {H Op Ret : Type} {I : Iface H Op Ret} {m : RMsg} : (opOfMsg I m).isSome ↔ IsRequest m := by
  cases m <;> simp [opOfMsg, IsRequest]

theorem request_ne_internal {m : RMsg} (h : IsRequest m) : m ≠ .internal := by
  intro e
  subst e
  exact h

theorem reply_ne_internal {wo : Bool} {m : RMsg} (h : IsReply wo m) : m ≠ .internal := by
  intro e
  subst e
  exact h

theorem ridOf_of_ne_internal {m : RMsg} (h : m ≠ .internal) : Drv.C18.ridOf m = some (RC.ridOf m) := by
  cases m <;> first | rfl | exact absurd rfl h

theorem ridOf_request {m : RMsg} (h : IsRequest m) : Drv.C18.ridOf m = some (RC.ridOf m) :=
  ridOf_of_ne_internal (request_ne_internal h)

theorem ridOf_reply {wo : Bool} {m : RMsg} (h : IsReply wo m) : Drv.C18.ridOf m = some (RC.ridOf m) :=
  ridOf_of_ne_internal (reply_ne_internal h)

/-- `Alt wo pend evs`: starting with `pend` outstanding, the events `evs` of one client follow the
    protocol: a request is sent only when none is outstanding and is a `Put`/`Get`; a message is
    accepted only when a request is outstanding, is a reply of the flavour and answers that request -/
inductive Alt (wo : Bool) : Option RMsg → List LogEv → Prop
  | nil (p : Option RMsg) : Alt wo p []
  | send {c : Nat} {m : RMsg} {rest : List LogEv} :
      IsRequest m → Alt wo (some m) rest → Alt wo none (.send c m :: rest)
  | acc {c : Nat} {p m : RMsg} {rest : List LogEv} :
      IsReply wo m → RC.ridOf p = RC.ridOf m → Alt wo none rest → Alt wo (some p) (.acc c m :: rest)

/-- the outstanding request after `evs` (starting from `p`): the last event if it is a `send` -/
def pendAfter (p : Option RMsg) (evs : List LogEv) : Option RMsg :=
  evs.foldl (fun _ e => match e with | .send _ m => some m | .acc _ _ => none) p

/-- `pendAfter none` without the fold (`pendAfter_none_eq`), for the statements about whole logs; the
    proofs use `pendAfter` -/
def pendOf (evs : List LogEv) : Option RMsg :=
  match evs.getLast? with
  | some (.send _ m) => some m
  | _ => none

theorem pendAfter_append (p : Option RMsg) (l1 l2 : List LogEv) :
    pendAfter p (l1 ++ l2) = pendAfter (pendAfter p l1) l2 :=
  List.foldl_append

theorem pendAfter_none_eq (evs : List LogEv) : pendAfter none evs = pendOf evs := by
  rcases List.eq_nil_or_concat evs with rfl | ⟨l, e, rfl⟩
  · rfl
  · rw [List.concat_eq_append, pendAfter_append, pendOf, List.getLast?_concat]
    cases e <;> rfl

/-- the first event that breaks the protocol, with `mirrorClient`'s error text -/
inductive Viol (wo : Bool) : Option RMsg → LogEv → String → Prop
  | second {c : Nat} {m p : RMsg} : Viol wo (some p) (.send c m) "second-request-while-one-outstanding"
  | nonRequest {c : Nat} {m : RMsg} : ¬ IsRequest m → Viol wo none (.send c m) "client-sent-non-request"
  | noOutstanding {c : Nat} {m : RMsg} : Viol wo none (.acc c m) "reply-accepted-without-outstanding-request"
  | otherId {c : Nat} {m p : RMsg} : (m = .internal ∨ RC.ridOf p ≠ RC.ridOf m) →
      Viol wo (some p) (.acc c m) "accepted-reply-for-other-request-id"
  | nonReply {c : Nat} {m p : RMsg} : m ≠ .internal → RC.ridOf p = RC.ridOf m → ¬ IsReply wo m →
      Viol wo (some p) (.acc c m) "accepted-non-reply"

/-- needed wherever `mirrorClient` starts from an arbitrary `pend`: on an outstanding `p` that is no request it
    answers `accepted-non-reply` to every reply, which `Alt` and `Viol` (they read only the id of `p`) do not foresee -/
def PendOk (pend : Option RMsg) : Prop := ∀ p, pend = some p → IsRequest p

theorem pendOk_none : PendOk none := fun _ h => nomatch h
theorem pendOk_some {m : RMsg} (h : IsRequest m) : PendOk (some m) := by
  intro p e
  cases e
  exact h

theorem alt_append {wo : Bool} {pend : Option RMsg} {l1 l2 : List LogEv} (h1 : Alt wo pend l1)
    (h2 : Alt wo (pendAfter pend l1) l2) : Alt wo pend (l1 ++ l2) := by
  induction h1 with
  | nil p => exact h2
  | send hm _ ih => exact Alt.send hm (ih h2)
  | acc hm hr _ ih => exact Alt.acc hm hr (ih h2)

theorem alt_prefix {wo : Bool} {pend : Option RMsg} {l1 l2 : List LogEv} (h : Alt wo pend (l1 ++ l2)) :
    Alt wo pend l1 ∧ Alt wo (pendAfter pend l1) l2 := by
  induction l1 generalizing pend with
  | nil => exact ⟨Alt.nil _, h⟩
  | cons e l ih =>
    cases h with
    | send hm hrest => exact ⟨Alt.send hm (ih hrest).1, (ih hrest).2⟩
    | acc hm hr hrest => exact ⟨Alt.acc hm hr (ih hrest).1, (ih hrest).2⟩

theorem viol_not_alt {wo : Bool} {pend : Option RMsg} {e : LogEv} {err : String} (hv : Viol wo pend e err)
    (rest : List LogEv) : ¬ Alt wo pend (e :: rest) := by
  intro ha
  cases hv with
  | second => cases ha
  | nonRequest hm => cases ha with | send h _ => exact hm h
  | noOutstanding => cases ha
  | otherId h =>
    cases ha with
    | acc hr hid _ =>
      rcases h with rfl | h
      · exact hr
      · exact h hid
  | nonReply _ _ hnr => cases ha with | acc hr _ _ => exact hnr hr

theorem step_cases (wo : Bool) (pend : Option RMsg) (e : LogEv) :
    (∃ err, Viol wo pend e err) ∨ Alt wo pend [e] := by
  cases e with
  | send c m =>
    cases pend with
    | some p => exact Or.inl ⟨_, Viol.second⟩
    | none =>
      by_cases hm : IsRequest m
      · exact Or.inr (Alt.send hm (Alt.nil _))
      · exact Or.inl ⟨_, Viol.nonRequest hm⟩
  | acc c m =>
    cases pend with
    | none => exact Or.inl ⟨_, Viol.noOutstanding⟩
    | some p =>
      by_cases hm : m = .internal
      · exact Or.inl ⟨_, Viol.otherId (Or.inl hm)⟩
      · by_cases hr : RC.ridOf p = RC.ridOf m
        · by_cases h2 : IsReply wo m
          · exact Or.inr (Alt.acc h2 hr (Alt.nil _))
          · exact Or.inl ⟨_, Viol.nonReply hm hr h2⟩
        · exact Or.inl ⟨_, Viol.otherId (Or.inr hr)⟩

theorem mc_nil (wo : Bool) (done : List SExp) (pend : Option RMsg) :
    mirrorClient wo [] done pend = .ok (done, pend.bind opSxOf) := by
  rw [mirrorClient]

theorem mc_send_ok {wo : Bool} {c : Nat} {m : RMsg} {rest : List LogEv} {done : List SExp} (hm : IsRequest m) :
    mirrorClient wo (.send c m :: rest) done none = mirrorClient wo rest done (some m) := by
  obtain ⟨o, ho⟩ := Option.isSome_iff_exists.1 (opSxOf_isSome_iff.2 hm)
  rw [mirrorClient, ho]

/-- for an outstanding request `p`, the id test of `mirrorClient` fails exactly on the condition of `Viol.otherId` -/
theorem ridOf_bne_iff {m p : RMsg} (hp : IsRequest p) :
    (Drv.C18.ridOf p != Drv.C18.ridOf m) = true ↔ m = .internal ∨ RC.ridOf p ≠ RC.ridOf m := by
  rw [ridOf_request hp]
  by_cases hm : m = .internal
  · simp [hm, Drv.C18.ridOf]
  · simp [hm, ridOf_of_ne_internal hm]

theorem mc_acc_ok {wo : Bool} {c : Nat} {m p : RMsg} {rest : List LogEv} {done : List SExp} (hp : IsRequest p)
    (hr : IsReply wo m) (h : RC.ridOf p = RC.ridOf m) {o r : SExp} (ho : opSxOf p = some o) (hrs : retSxOf wo m = some r) :
    mirrorClient wo (.acc c m :: rest) done (some p) = mirrorClient wo rest (done ++ [.list [o, r]]) none := by
  rw [mirrorClient, if_neg fun hne => ((ridOf_bne_iff hp).1 hne).elim (reply_ne_internal hr) (· h), ho, hrs]

theorem mc_viol {wo : Bool} {pend : Option RMsg} {e : LogEv} {err : String} (hv : Viol wo pend e err) (hp : PendOk pend)
    (rest : List LogEv) (done : List SExp) : mirrorClient wo (e :: rest) done pend = .error err := by
  cases hv with
  | second => rw [mirrorClient]
  | nonRequest hm => rw [mirrorClient, Option.not_isSome_iff_eq_none.1 (mt opSxOf_isSome_iff.1 hm)]
  | noOutstanding => rw [mirrorClient]
  | @otherId c m p h => rw [mirrorClient, if_pos ((ridOf_bne_iff (hp p rfl)).2 h)]
  | @nonReply c m p hm hr hnr =>
    rw [mirrorClient, if_neg fun hne => ((ridOf_bne_iff (hp p rfl)).1 hne).elim hm (· hr), Option.not_isSome_iff_eq_none.1 (mt retSxOf_isSome_iff.1 hnr)]
    -- the reply is rendered as `none`, so whatever the request is rendered as the pair does not match
    cases opSxOf p <;> rfl

theorem mc_step {wo : Bool} {pend : Option RMsg} {e : LogEv} (h : Alt wo pend [e]) (hp : PendOk pend)
    (rest : List LogEv) (done : List SExp) :
    PendOk (pendAfter pend [e]) ∧
    ∃ done', mirrorClient wo (e :: rest) done pend = mirrorClient wo rest done' (pendAfter pend [e]) := by
  cases h with
  | send hm _ => exact ⟨pendOk_some hm, done, mc_send_ok hm⟩
  | @acc c p m l hm hr _ =>
    obtain ⟨o, ho⟩ := Option.isSome_iff_exists.1 (opSxOf_isSome_iff.2 (hp p rfl))
    obtain ⟨r, hrs⟩ := Option.isSome_iff_exists.1 (retSxOf_isSome_iff.2 hm)
    exact ⟨pendOk_none, _, mc_acc_ok (hp p rfl) hm hr ho hrs⟩

theorem mc_error_iff (wo : Bool) (evs : List LogEv) (pend : Option RMsg) (hp : PendOk pend) (done : List SExp) (err : String) :
    mirrorClient wo evs done pend = .error err ↔
    ∃ pre e post, evs = pre ++ e :: post ∧ Alt wo pend pre ∧ Viol wo (pendAfter pend pre) e err := by
  induction evs generalizing pend done with
  | nil =>
    rw [mc_nil]
    exact ⟨nofun, fun ⟨pre, _, _, h, _⟩ => by cases pre <;> cases h⟩
  | cons e l ih =>
    rcases step_cases wo pend e with ⟨err', hv⟩ | ha
    -- `e` is a violation: the conforming prefix of a split can only be `[]`, and `mc_viol` computes both texts
    · rw [mc_viol hv hp]
      constructor
      · rintro ⟨⟩
        exact ⟨[], e, l, rfl, Alt.nil _, hv⟩
      · rintro ⟨pre, e', post, heq, h1, h2⟩
        cases pre with
        | nil =>
          cases heq
          exact (mc_viol hv hp l done).symm.trans (mc_viol h2 hp l done)
        | cons _ _ =>
          cases heq
          exact (viol_not_alt hv _ h1).elim
    -- `e` conforms: it belongs to the prefix of every split, and `l` is judged from the state after `e`
    · obtain ⟨hp', done', hd⟩ := mc_step ha hp l done
      rw [hd, ih _ hp']
      constructor
      · rintro ⟨pre, e', post, rfl, h1, h2⟩
        exact ⟨e :: pre, e', post, rfl, alt_append ha h1, h2⟩
      · rintro ⟨pre, e', post, heq, h1, h2⟩
        cases pre with
        | nil =>
          cases heq
          exact (viol_not_alt h2 [] ha).elim
        | cons _ pre' =>
          cases heq
          exact ⟨pre', e', post, rfl, (alt_prefix (l1 := [e]) h1).2, h2⟩

theorem mc_ok_iff (wo : Bool) (evs : List LogEv) (pend : Option RMsg) (hp : PendOk pend) (done : List SExp) :
    (∃ r, mirrorClient wo evs done pend = .ok r) ↔ Alt wo pend evs := by
  induction evs generalizing pend done with
  | nil => exact ⟨fun _ => Alt.nil _, fun _ => ⟨_, mc_nil wo done pend⟩⟩
  | cons e l ih =>
    rcases step_cases wo pend e with ⟨err', hv⟩ | ha
    · rw [mc_viol hv hp]
      exact ⟨nofun, fun h => (viol_not_alt hv l h).elim⟩
    · obtain ⟨hp', done', hd⟩ := mc_step ha hp l done
      rw [hd, ih _ hp']
      exact ⟨alt_append ha, fun h => (alt_prefix (l1 := [e]) h).2⟩

/-- decided by running `mirrorClient` (`mc_ok_iff`): an `Alt … := by decide` tests that run, it is no
    evidence about the protocol that is independent of the oracle -/
instance (wo : Bool) (evs : List LogEv) : Decidable (Alt wo none evs) :=
  decidable_of_iff ((mirrorClient wo evs [] none).toBool = true) (by
    rw [← mc_ok_iff wo evs none pendOk_none []]
    cases mirrorClient wo evs [] none <;> simp [Except.toBool])

/-- the wire rendering of the operations and returns of a tester interface, compatible with what the
    oracle reads off the messages (`opSxOf`, `retSxOf`) -/
structure Render {H Op Ret : Type} (I : Iface H Op Ret) (wo : Bool) where
  opSx : Op → SExp
  retSx : Ret → SExp
  op_ok : ∀ m, opSxOf m = (opOfMsg I m).map opSx
  ret_ok : ∀ m, retSxOf wo m = (retOfMsg I wo m).map retSx

section render
variable {H Op Ret : Type} {I : Iface H Op Ret} {wo : Bool}

def Render.pair (R : Render I wo) (x : Op × Ret) : SExp := .list [R.opSx x.1, R.retSx x.2]

def Render.content (R : Render I wo) (x : List (Op × Ret) × Option Op) : List SExp × Option SExp :=
  (x.1.map R.pair, x.2.map R.opSx)

theorem mc_mirror (R : Render I wo) (c : Nat) {pend : Option RMsg} {evs : List LogEv} (h : Alt wo pend evs)
    (hp : PendOk pend) (hc : ∀ e ∈ evs, e.client = c) (done : List (Op × Ret)) :
    mirrorClient wo evs (done.map R.pair) pend =
      .ok (R.content ((evs.map cev).foldl (mirrorStep I wo c) (done, pend.bind (opOfMsg I)))) := by
  induction h generalizing done with
  | nil p =>
    rw [mc_nil]
    cases p with
    | none => rfl
    | some p => simp [Render.content, R.op_ok]
  | @send c' m l hm _ ih =>
    have hc' : c' = c := hc _ List.mem_cons_self
    subst hc'
    rw [mc_send_ok hm, ih (pendOk_some hm) (fun e he => hc e (List.mem_cons_of_mem _ he))]
    simp [cev, mirrorStep]
  | @acc c' p m l hm hr _ ih =>
    have hc' : c' = c := hc _ List.mem_cons_self
    subst hc'
    obtain ⟨op, hop⟩ := Option.isSome_iff_exists.1 (opOfMsg_isSome_iff.2 (hp p rfl))
    obtain ⟨rr, hret⟩ := retOfMsg_isSome_of_isReply I hm
    have ho : opSxOf p = some (R.opSx op) := by rw [R.op_ok, hop]; rfl
    have hrs : retSxOf wo m = some (R.retSx rr) := by rw [R.ret_ok, hret]; rfl
    have := ih pendOk_none (fun e he => hc e (List.mem_cons_of_mem _ he)) (done ++ [(op, rr)])
    rw [List.map_append] at this
    rw [mc_acc_ok (hp p rfl) hm hr ho hrs]
    simpa [cev, mirrorStep, hop, hret, Render.pair] using this

theorem mirror_clog (I : Iface H Op Ret) (wo : Bool) (c : Nat) (log : List LogEv) (acc : List (Op × Ret) × Option Op) :
    (log.map cev).foldl (mirrorStep I wo c) acc = ((clog c log).map cev).foldl (mirrorStep I wo c) acc := by
  rw [clog, List.foldl_map, List.foldl_map, List.foldl_filter]
  congr
  funext x e
  split
  · rfl
  · next hne => exact mirrorStep_other I wo (client_cev e ▸ by simpa using hne) x

theorem mc_agrees (R : Render I wo) (c : Nat) (log : List LogEv) (h : Alt wo none (clog c log)) :
    mirrorClient wo (clog c log) [] none = .ok (R.content (mirror I wo c (log.map cev))) := by
  rw [mirror, mirror_clog I wo c log]
  exact mc_mirror R c h pendOk_none (fun e he => (mem_clog.1 he).2) []

theorem mirror_of_not_client (I : Iface H Op Ret) (wo : Bool) {c : Nat} {log : List LogEv} (h : c ∉ clientsOf log) :
    mirror I wo c (log.map cev) = ([], none) := by
  have hnil : clog c log = [] :=
    List.eq_nil_iff_forall_not_mem.2 fun e he => h (mem_clientsOf.2 ⟨e, mem_clog.1 he⟩)
  rw [mirror, mirror_clog I wo c log, hnil]
  rfl

end render

/-- the four harness flavours; `63` (`'?'`) and `none` are the initial register values of the driver's
    `rc-path` runs and play no part in the rendering -/
def renderRegLin : Render regLin false where
  opSx := (regCodec charShow 63).opSx
  retSx := (regCodec charShow 63).retSx
  op_ok := by intro m; cases m <;> rfl
  ret_ok := by intro m; cases m <;> rfl

def renderRegSC : Render regSC false where
  opSx := (regCodec charShow 63).opSx
  retSx := (regCodec charShow 63).retSx
  op_ok := by intro m; cases m <;> rfl
  ret_ok := by intro m; cases m <;> rfl

def renderWoLin : Render woLin true where
  opSx := (woCodec charShow none).opSx
  retSx := (woCodec charShow none).retSx
  op_ok := by intro m; cases m <;> rfl
  ret_ok := by intro m; cases m <;> rfl

def renderWoSC : Render woSC true where
  opSx := (woCodec charShow none).opSx
  retSx := (woCodec charShow none).retSx
  op_ok := by intro m; cases m <;> rfl
  ret_ok := by intro m; cases m <;> rfl

/-- the request ids `oracleMirror` tests for reuse: those of the sent messages, read by the driver's `ridOf` (`Internal` has
    none); on a conforming log they are the model's `ridsOf` (`alt_sendRids`) -/
def sendRids (evs : List LogEv) : List Nat :=
  evs.filterMap fun e => match e with | .send _ m => Drv.C18.ridOf m | _ => none

theorem alt_send_request {wo : Bool} {pend : Option RMsg} {evs : List LogEv} (h : Alt wo pend evs) {c : Nat} {m : RMsg}
    (hm : LogEv.send c m ∈ evs) : IsRequest m := by
  obtain ⟨l1, l2, rfl⟩ := List.append_of_mem hm
  have h2 := (alt_prefix h).2
  generalize pendAfter pend l1 = q at h2
  cases h2 with
  | send hreq _ => exact hreq

theorem sendRids_eq_ridsOf (c : Nat) (log : List LogEv)
    (h : ∀ c' m, LogEv.send c' m ∈ clog c log → m ≠ .internal) :
    sendRids (clog c log) = ridsOf c (log.map cev) := by
  rw [sendRids, ridsOf, clog, List.filterMap_filter, List.filterMap_map]
  refine filterMap_congr_mem fun e he => ?_
  cases e with
  | send c' m =>
    by_cases hc : c' = c
    · simp [cev, LogEv.client, hc, ridOf_of_ne_internal (h c' m (mem_clog.2 ⟨he, hc⟩))]
    · simp [cev, LogEv.client, hc]
  | acc c' m => simp [cev]

theorem alt_sendRids {wo : Bool} {c : Nat} {log : List LogEv} (h : Alt wo none (clog c log)) :
    sendRids (clog c log) = ridsOf c (log.map cev) :=
  sendRids_eq_ridsOf c log fun _ _ hm => request_ne_internal (alt_send_request h hm)

/-! `oracleMirror` written as an error list, the content comparison `eqv` a parameter: the lemmas below only need
`eqv … = true ↔ d = done ∧ p = pend`, which the driver's `sxEqv` satisfies (`sxEqv_iff`). -/
section oracle
variable (eqv : List SExp → List SExp → Option SExp → Option SExp → Bool)

def clientErrs (wo : Bool) (log : List LogEv) (content : List (Nat × List SExp × Option SExp)) (c : Nat) : List String :=
  (if nodupB (sendRids (clog c log)) then [] else [s!"request-id-reused-by-{c}"]) ++
  (match mirrorClient wo (clog c log) [] none with
   | .error e => [s!"{e}-client-{c}"]
   | .ok (done, pend) =>
     match content.find? (fun e => e.1 == c) with
     | none => [s!"tester-has-no-thread-{c}"]
     | some (_, d, p) => if eqv d done p pend then [] else [s!"tester-content-differs-from-mirror-client-{c}"])

def strayErrs (log : List LogEv) (e : Nat × List SExp × Option SExp) : List String :=
  if (clientsOf log).contains e.1 then [] else
    (if e.2.1.isEmpty && e.2.2.isNone then [] else [s!"tester-has-operations-of-non-client-{e.1}"])

def errsG (wo : Bool) (log : List LogEv) (valid : Bool) (content : List (Nat × List SExp × Option SExp)) : List String :=
  (if !valid then ["tester-history-invalid"] else []) ++
  ((clientsOf log).flatMap (clientErrs eqv wo log content)) ++
  (if nodupB (content.map (·.1)) then [] else ["tester-content-lists-a-thread-twice"]) ++
  (content.flatMap (strayErrs log))

def oracleMirrorG (wo : Bool) (log : List LogEv) (valid : Bool) (content : List (Nat × List SExp × Option SExp)) : String :=
  if (errsG eqv wo log valid content).isEmpty then "ok" else " ".intercalate (errsG eqv wo log valid content)

end oracle

theorem oracleMirror_eq_G (wo : Bool) (log : List LogEv) (valid : Bool) (content : List (Nat × List SExp × Option SExp)) :
    oracleMirror wo log valid content = oracleMirrorG sxEqv wo log valid content := rfl

def oracleMirrorD (wo : Bool) (log : List LogEv) (valid : Bool) (content : List (Nat × List SExp × Option SExp)) : String :=
  oracleMirrorG sxEqv wo log valid content

section verdict
variable {eqv : List SExp → List SExp → Option SExp → Option SExp → Bool}

/-! Every error text has more than two characters, so a nonempty error list never prints as `ok`.
Evaluating the length of a string literal is slow; instead the literal is unified with `String.ofList`
of its characters, of which `lit_long` only looks at the first three. -/
theorem lit_long (a b c : Char) (r : List Char) : 2 < (String.ofList (a :: b :: c :: r)).length := by
  rw [String.length_ofList]
  exact Nat.le_add_left 3 r.length

theorem long_append_left {s : String} (t : String) (h : 2 < s.length) : 2 < (s ++ t).length := by
  rw [String.length_append]
  exact Nat.lt_add_right _ h

theorem long_append_right (s : String) {t : String} (h : 2 < t.length) : 2 < (s ++ t).length := by
  rw [String.length_append]
  exact Nat.lt_add_left _ h

theorem intercalate_ne_ok {errs : List String} (hne : errs ≠ []) (hlen : ∀ e ∈ errs, 2 < e.length) :
    " ".intercalate errs ≠ "ok" := by
  cases errs with
  | nil => exact absurd rfl hne
  | cons e es =>
    have he := hlen e List.mem_cons_self
    intro h
    have hl := congrArg String.length h
    by_cases hes : es = []
    · rw [hes, String.intercalate_singleton] at hl
      exact absurd (hl ▸ he) (by decide)
    · rw [String.intercalate_cons_of_ne_nil hes, String.length_append, String.length_append] at hl
      exact absurd (show e.length + " ".length + (" ".intercalate es).length = 2 from hl) (by omega)

theorem clientErrs_len (wo : Bool) (log : List LogEv) (content : List (Nat × List SExp × Option SExp)) (c : Nat) :
    ∀ e ∈ clientErrs eqv wo log content c, 2 < e.length := by
  intro e he
  unfold clientErrs at he
  rcases List.mem_append.1 he with he | he
  · cases List.mem_singleton.1 (List.mem_ite_nil_left.1 he).2
    exact long_append_left _ (lit_long _ _ _ _)
  · split at he
    · cases List.mem_singleton.1 he
      exact long_append_left _ (long_append_right _ (lit_long _ _ _ _))
    · split at he
      · cases List.mem_singleton.1 he
        exact long_append_left _ (lit_long _ _ _ _)
      · cases List.mem_singleton.1 (List.mem_ite_nil_left.1 he).2
        exact long_append_left _ (lit_long _ _ _ _)

theorem strayErrs_len (log : List LogEv) (x : Nat × List SExp × Option SExp) :
    ∀ e ∈ strayErrs log x, 2 < e.length := by
  intro e he
  cases List.mem_singleton.1 (List.mem_ite_nil_left.1 (List.mem_ite_nil_left.1 he).2).2
  exact long_append_left _ (lit_long _ _ _ _)

theorem errsG_len (wo : Bool) (log : List LogEv) (valid : Bool) (content : List (Nat × List SExp × Option SExp)) :
    ∀ e ∈ errsG eqv wo log valid content, 2 < e.length := by
  intro e he
  unfold errsG at he
  rcases List.mem_append.1 he with he | he
  · rcases List.mem_append.1 he with he | he
    · rcases List.mem_append.1 he with he | he
      · split at he
        · cases List.mem_singleton.1 he
          exact lit_long _ _ _ _
        · cases he
      · obtain ⟨c, _, hc⟩ := List.mem_flatMap.1 he
        exact clientErrs_len wo log content c e hc
    · cases List.mem_singleton.1 (List.mem_ite_nil_left.1 he).2
      exact lit_long _ _ _ _
  · obtain ⟨x, _, hx⟩ := List.mem_flatMap.1 he
    exact strayErrs_len log x e hx

theorem oracleMirrorG_ok_iff (wo : Bool) (log : List LogEv) (valid : Bool) (content : List (Nat × List SExp × Option SExp)) :
    oracleMirrorG eqv wo log valid content = "ok" ↔ errsG eqv wo log valid content = [] := by
  unfold oracleMirrorG
  constructor
  · intro h
    by_cases he : errsG eqv wo log valid content = []
    · exact he
    · rw [if_neg (by simpa using he)] at h
      exact absurd h (intercalate_ne_ok he (errsG_len wo log valid content))
  · intro h
    rw [h]
    rfl

theorem errsG_nil_iff (wo : Bool) (log : List LogEv) (valid : Bool) (content : List (Nat × List SExp × Option SExp)) :
    errsG eqv wo log valid content = [] ↔
      valid = true ∧ (∀ c ∈ clientsOf log, clientErrs eqv wo log content c = []) ∧
      (content.map (·.1)).Nodup ∧ (∀ e ∈ content, strayErrs log e = []) := by
  unfold errsG
  rw [List.append_eq_nil_iff, List.append_eq_nil_iff, List.append_eq_nil_iff, List.flatMap_eq_nil_iff,
    List.flatMap_eq_nil_iff, ite_singleton_eq_nil, ite_singleton_eq_nil', nodupB_iff, and_assoc, and_assoc]
  cases valid <;> simp

theorem clientErrs_nil_iff (heq : ∀ d done p pend, eqv d done p pend = true ↔ d = done ∧ p = pend)
    (wo : Bool) (log : List LogEv) (content : List (Nat × List SExp × Option SExp)) (c : Nat) :
    clientErrs eqv wo log content c = [] ↔
      (sendRids (clog c log)).Nodup ∧
      ∃ done pend, mirrorClient wo (clog c log) [] none = .ok (done, pend) ∧
        content.find? (fun e => e.1 == c) = some (c, done, pend) := by
  unfold clientErrs
  rw [List.append_eq_nil_iff, ite_singleton_eq_nil, nodupB_iff]
  refine and_congr_right fun _ => ?_
  cases hm : mirrorClient wo (clog c log) [] none with
  | error e => simp
  | ok r =>
    obtain ⟨done, pend⟩ := r
    cases hf : content.find? (fun e => e.1 == c) with
    | none => simp
    | some x =>
      obtain ⟨c', d, p⟩ := x
      have hc' : c' = c := by simpa using List.find?_some hf
      subst hc'
      simp [heq, eq_comm]

theorem strayErrs_nil_iff (log : List LogEv) (e : Nat × List SExp × Option SExp) :
    strayErrs log e = [] ↔ (e.1 ∉ clientsOf log → e.2.1 = [] ∧ e.2.2 = none) := by
  unfold strayErrs
  by_cases h : e.1 ∈ clientsOf log
  · simp [h]
  · rw [if_neg (by simpa using h), ite_singleton_eq_nil]
    simp [h]

end verdict

section reach
variable {H Op Ret : Type} {cfg : Cfg} {I : Iface H Op Ret}

/-- `ost`: the state of a client, `none` before its start; `evs`: its events so far -/
structure Proto (wo : Bool) (ost : Option CState) (evs : List LogEv) : Prop where
  alt : Alt wo none evs
  await : ∀ st, ost = some st → st.awaiting = (pendAfter none evs).map RC.ridOf
  idle : ost = none → evs = []

def ProtoInv (cfg : Cfg) (s : HSt H) : Prop := ∀ k, Proto cfg.wo (find? k s.sys.clients) (clog k (s.log.map lev))

theorem proto_extend {wo : Bool} {cl cl' : List (Nat × CState)} {log log' : List LogEv}
    (hP : ∀ k, Proto wo (find? k cl) (clog k log)) (c : Nat) (st' : CState) (evs : List LogEv)
    (hlog : log' = log ++ evs) (hev : ∀ e ∈ evs, e.client = c)
    (hfind : ∀ k, find? k cl' = if c = k then some st' else find? k cl)
    (halt : Alt wo (pendAfter none (clog c log)) evs)
    (haw : st'.awaiting = (pendAfter none (clog c log ++ evs)).map RC.ridOf) (k : Nat) :
    Proto wo (find? k cl') (clog k log') := by
  rw [hfind, hlog, clog_append, clog_of hev]
  split
  · next hck =>
    subst hck
    exact ⟨alt_append (hP c).alt halt, fun _ e => Option.some.inj e ▸ haw, fun e => nomatch e⟩
  · rw [List.append_nil]
    exact hP k

theorem lev_logOf_client (c : Nat) (outs : List Send) : ∀ e ∈ (logOf c outs).map lev, e.client = c := by
  intro e he
  simp only [logOf, List.map_map, List.mem_map] at he
  obtain ⟨o, _, rfl⟩ := he
  rfl

theorem _root_.SR.Sem.RC.Sends.proto {c n : Nat} {st : CState} {outs : List Send} (hs : Sends I c n st outs) (wo : Bool) :
    Alt wo none ((logOf c outs).map lev) ∧
    st.awaiting = (pendAfter none ((logOf c outs).map lev)).map RC.ridOf := by
  cases hs with
  | idle => exact ⟨Alt.nil _, rfl⟩
  | request _ hop hrid => exact ⟨Alt.send (opOfMsg_isSome_iff.1 (Option.isSome_of_eq_some hop)) (Alt.nil _), congrArg some hrid.symm⟩

theorem proto_step (hcfg : cfg.Ok) (V : HistView I) {s s' : HSt H} (hI : HInv cfg I V s) (hP : ProtoInv cfg s)
    (hstep : Step cfg I s s') : ProtoInv cfg s' := by
  cases hstep with
  | @start c st outs hcl hstart =>
    have hnew := hI.find?_next
    have hup := upsert_of_lt st hI.cBound
    obtain ⟨n, _, hs⟩ := start_sends I hstart
    generalize cfg.nServers + s.sys.clients.length = i at *
    obtain ⟨halt, haw⟩ := hs.proto cfg.wo
    have hold := (hP i).idle hnew
    refine proto_extend hP i st ((logOf i outs).map lev) List.map_append (lev_logOf_client i outs)
      (fun k => hup ▸ find?_upsert i k st _) ?_ ?_
    · rw [hold]
      exact halt
    · rw [hold]
      exact haw
  | emit _ _ _ => exact hP
  | @deliver c m cl st st' outs sys' _ _ hfind hmsg hdel =>
    obtain ⟨haw, hrep, hs⟩ := onMsg_sends I hmsg
    obtain ⟨halt, haw'⟩ := hs.proto cfg.wo
    rw [deliverClient_acted I hfind hmsg] at hdel
    cases hdel
    have hold := (hP c).await st hfind
    rw [haw] at hold
    -- the awaited id is that of the log's outstanding request `p`, which `m` therefore answers
    cases hpend : pendAfter none (clog c (s.log.map lev)) with
    | none =>
      rw [hpend] at hold
      cases hold
    | some p =>
      rw [hpend] at hold
      refine proto_extend hP c st' (LogEv.acc c m :: (logOf c outs).map lev) (by simp [lev]) ?_ ?_ ?_ ?_
      · intro e he
        rcases List.mem_cons.1 he with rfl | he
        · rfl
        · exact lev_logOf_client c outs e he
      · exact fun k => find?_upsert c k st' _
      · rw [hpend]
        exact Alt.acc hrep (Option.some.inj hold).symm halt
      · rw [pendAfter_append]
        exact haw'
  | deliverIgnored hpool hcl hfind hmsg hdel => exact (no_ignored V hcfg hI hpool hfind hmsg hdel).elim
  | drop _ => exact hP

theorem reach_proto (hcfg : cfg.Ok) (V : HistView I) {h0 : H} (hf : C18.Fresh V h0) {s : HSt H} (hr : Reach cfg I h0 s) :
    ProtoInv cfg s := by
  induction hr with
  | init => exact fun _ => ⟨Alt.nil _, (fun _ h => nomatch h), fun _ => rfl⟩
  | step hr' hstep ih => exact proto_step hcfg V (reach_inv V hcfg hf hr') ih hstep

end reach

/-! `Alt wo none`, read without induction: complete rounds and at most one unanswered request. -/
abbrev Round := (Nat × RMsg) × (Nat × RMsg)

def roundsLog (rounds : List Round) (last : Option (Nat × RMsg)) : List LogEv :=
  rounds.flatMap (fun x => [LogEv.send x.1.1 x.1.2, LogEv.acc x.2.1 x.2.2]) ++
    last.toList.map (fun x => LogEv.send x.1 x.2)

def RoundOk (wo : Bool) (x : Round) : Prop := IsRequest x.1.2 ∧ IsReply wo x.2.2 ∧ RC.ridOf x.1.2 = RC.ridOf x.2.2

def RoundsOk (wo : Bool) (rounds : List Round) (last : Option (Nat × RMsg)) : Prop :=
  (∀ x ∈ rounds, RoundOk wo x) ∧ (∀ x, last = some x → IsRequest x.2)

theorem alt_roundsLog {wo : Bool} {rounds : List Round} {last : Option (Nat × RMsg)} (h : RoundsOk wo rounds last) :
    Alt wo none (roundsLog rounds last) := by
  induction rounds with
  | nil =>
    cases last with
    | none => exact Alt.nil _
    | some x => exact Alt.send (h.2 x rfl) (Alt.nil _)
  | cons x xs ih =>
    have hx := h.1 x List.mem_cons_self
    exact Alt.send hx.1 (Alt.acc hx.2.1 hx.2.2 (ih ⟨fun y hy => h.1 y (List.mem_cons_of_mem _ hy), h.2⟩))

/-- by recursion on the protocol two events at a time: a request, then its reply -/
theorem rounds_of_alt {wo : Bool} : ∀ {evs : List LogEv}, Alt wo none evs →
    ∃ rounds last, evs = roundsLog rounds last ∧ RoundsOk wo rounds last
  | _, .nil _ => ⟨[], none, rfl, ⟨(fun _ hx => nomatch hx), (fun _ hx => nomatch hx)⟩⟩
  | _, .send (c := c) (m := m) hm (.nil _) =>
    ⟨[], some (c, m), rfl, ⟨(fun _ hx => nomatch hx), fun _ hx => Option.some.inj hx ▸ hm⟩⟩
  | _, .send (c := c) (m := m) hm (.acc (c := c') (m := r) hr hid h) =>
    let ⟨rounds, last, e, hok⟩ := rounds_of_alt h
    ⟨((c, m), (c', r)) :: rounds, last, by rw [e]; rfl,
      ⟨fun x hx => (List.mem_cons.1 hx).elim (fun e => e ▸ ⟨hm, hr, hid⟩) (hok.1 x), hok.2⟩⟩

end SR.C18Oracle
