import SR.Util.Extras
namespace SR.DNM

theorem enumFrom_eq_zip {V} : ∀ (i : Nat) (m : List V), enumFrom i m = (List.range' i m.length).zip m
  | _, [] => rfl
  | i, v :: vs => by simp [enumFrom, List.range'_succ, enumFrom_eq_zip (i + 1) vs]

/-- `into_iter()` is the enumeration that `rewrite` and `planOf` walk -/
theorem intoIter_eq_zip {V} (m : List V) : intoIter m = (List.range m.length).zip m := by
  rw [intoIter, enumFrom_eq_zip, List.range_eq_range']

end SR.DNM
