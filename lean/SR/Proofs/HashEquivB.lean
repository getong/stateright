import SR.Hash.Univ
import SR.Proofs.ListAux
/-! The list relations of the universe: `All2` / `PermBy` (the `≈` of sequences and of hash tables), and `all2B` / `permByB`,
their counterparts in `equivB` (the `==` of the universe, run by the C04 oracle).  The greedy matching `permByB` is sound for any
element test, and complete when the test is "same image under a classifying map". -/
namespace SR.Hash
open List

theorem all2_imp {α β} {R S : α → β → Prop} :
    ∀ {l1 : List α} {l2 : List β}, (∀ a ∈ l1, ∀ b ∈ l2, R a b → S a b) → All2 R l1 l2 → All2 S l1 l2
  | [], [], _, _ => trivial
  | a :: l1, b :: l2, H, h =>
    ⟨H a (by simp) b (by simp) h.1, all2_imp (fun a' ha b' hb => H a' (by simp [ha]) b' (by simp [hb])) h.2⟩
  | [], _ :: _, _, h => by cases h
  | _ :: _, [], _, h => by cases h

theorem all2_map_iff {α β γ} {f : α → γ} {g : β → γ} :
    ∀ {l1 : List α} {l2 : List β}, All2 (fun a b => f a = g b) l1 l2 ↔ l1.map f = l2.map g
  | [], [] => by simp [All2]
  | a :: l1, b :: l2 => by simp [All2, all2_map_iff (l1 := l1) (l2 := l2)]
  | [], _ :: _ => by simp [All2]
  | _ :: _, [] => by simp [All2]

theorem all2_eq {α} {l1 l2 : List α} : All2 Eq l1 l2 ↔ l1 = l2 := by
  simpa using all2_map_iff (f := id) (g := id) (l1 := l1) (l2 := l2)

theorem all2_refl_eq {α} : ∀ (l : List α), All2 Eq l l
  | [] => trivial
  | _ :: l => ⟨rfl, all2_refl_eq l⟩

theorem map_eq_of_all2 {α β} {f : α → β} {R : α → α → Prop} {l1 l2 : List α}
    (H : ∀ a ∈ l1, ∀ b ∈ l2, R a b → f a = f b) (h : All2 R l1 l2) : l1.map f = l2.map f :=
  all2_map_iff.1 (all2_imp H h)

theorem all2B_eq_true {α β} {r : α → β → Bool} {l1 : List α} {l2 : List β} :
    all2B r l1 l2 = true ↔ All2 (fun a b => r a b = true) l1 l2 := by
  fun_induction all2B r l1 l2 <;> simp_all [All2]

theorem removeFirst_spec {α} {r : α → Bool} {l : List α} {o} (h : removeFirst r l = o) :
    match (generalizing := false) o with
    | none => ∀ b ∈ l, r b = false
    | some p => r p.1 = true ∧ l.Perm (p.1 :: p.2) := by
  subst h
  fun_induction removeFirst r l with
  | case1 => simp
  | case2 b l hb => exact ⟨hb, .refl _⟩
  | case3 b l hb ih =>
    -- the head `b` fails the test: the answer for the tail, with `b` put back
    cases hr : removeFirst r l with
    | none => simpa [hr, hb] using ih
    | some q =>
      rw [hr] at ih
      exact ⟨ih.1, (ih.2.cons b).trans (.swap _ _ _)⟩

theorem permByB_iff_map {α β} {r : α → α → Bool} (f : α → β) (l1 l2 : List α) :
    (∀ a ∈ l1, ∀ b ∈ l2, (r a b = true ↔ f a = f b)) →
      (permByB r l1 l2 = true ↔ (l1.map f).Perm (l2.map f)) := by
  fun_induction permByB r l1 l2 with
  | case1 l2 => cases l2 <;> simp
  | case2 a l1 l2 hr =>
    -- `removeFirst` finds no partner for `a`, so `f a` is not among the images of `l2`
    refine fun H => ⟨fun hf => (nomatch hf), fun hp => ?_⟩
    obtain ⟨b, hb, e⟩ := List.mem_map.1 (hp.subset (List.mem_cons_self ..))
    have := (H a (by simp) b hb).2 e.symm
    rw [removeFirst_spec hr b hb] at this
    cases this
  | case3 a l1 l2 p hr ih =>
    -- `p.1` is the partner found, `p.2` what is left of `l2`
    obtain ⟨hc, hp⟩ := removeFirst_spec hr
    intro H
    have e : f a = f p.1 := (H a (by simp) p.1 (hp.symm.subset (by simp))).1 hc
    rw [ih (fun a' ha b' hb => H a' (by simp [ha]) b' (hp.symm.subset (by simp [hb]))), List.map_cons, e]
    exact (((hp.map f).congr_right _).trans (List.perm_cons _)).symm

theorem permByB_sound {α} {r : α → α → Bool} {R : α → α → Prop} (s : ∀ a b, r a b = true → R a b)
    (l1 l2 : List α) : permByB r l1 l2 = true → PermBy R l1 l2 := by
  fun_induction permByB r l1 l2 with
  | case1 l2 => cases l2 <;> simp; exact ⟨[], [], .refl _, .refl _, trivial⟩
  | case2 => exact fun h => nomatch h
  | case3 a l1 l2 p hr ih =>
    obtain ⟨hc, hp⟩ := removeFirst_spec hr
    intro h
    obtain ⟨m1, m2, q1, q2, a2⟩ := ih h
    exact ⟨a :: m1, p.1 :: m2, q1.cons a, hp.trans (q2.cons _), s a p.1 hc, a2⟩

theorem PermBy.map_perm {α β} {R : α → α → Prop} (f : α → β) {l1 l2 : List α}
    (H : ∀ a ∈ l1, ∀ b ∈ l2, R a b → f a = f b) (hp : PermBy R l1 l2) : (l1.map f).Perm (l2.map f) := by
  obtain ⟨m1, m2, p1, p2, a2⟩ := hp
  have e : m1.map f = m2.map f :=
    map_eq_of_all2 (fun a ha b hb => H a (p1.symm.subset ha) b (p2.symm.subset hb)) a2
  exact (p1.map f).trans (e ▸ (p2.map f).symm)

/-- the greedy matcher, run with the test `f a = f b`, finds the matching -/
theorem permBy_of_map_perm {α β} [DecidableEq β] {R : α → α → Prop} (f : α → β) {l1 l2 : List α}
    (H : ∀ a ∈ l1, ∀ b ∈ l2, f a = f b → R a b) (hp : (l1.map f).Perm (l2.map f)) : PermBy R l1 l2 := by
  obtain ⟨m1, m2, p1, p2, a2⟩ := permByB_sound (r := fun a b => decide (f a = f b)) (fun _ _ => of_decide_eq_true) l1 l2
    ((permByB_iff_map f l1 l2 fun _ _ _ _ => decide_eq_true_iff).2 hp)
  exact ⟨m1, m2, p1, p2, all2_imp (fun a ha b hb => H a (p1.symm.subset ha) b (p2.symm.subset hb)) a2⟩

theorem leB_trans : ∀ (a b c : Nat), leB a b = true → leB b c = true → leB a c = true := by
  intro a b c
  simp [leB]
  omega
theorem leB_total : ∀ (a b : Nat), (leB a b || leB b a) = true := by
  intro a b
  simp [leB]
  omega

theorem sort_eq_iff_perm {l1 l2 : List Nat} : l1.mergeSort leB = l2.mergeSort leB ↔ l1.Perm l2 :=
  mergeSort_eq_iff_perm leB_trans leB_total (fun a b h1 h2 => by simp [leB] at h1 h2; omega) l1 l2

/-- `mergeSort` (well-founded recursion) does not evaluate: this is how the stream of a concrete set is computed -/
theorem setToks_of_sorted (h : List Tok → UInt64) (ss : List (List Tok))
    (hs : (ss.map fun s => (h s).toNat).Pairwise fun a b => leB a b = true) :
    setToks h ss = .usize ss.length :: ss.map fun s => .u64 (h s).toNat := by
  unfold setToks
  rw [List.mergeSort_of_pairwise hs, List.map_map]
  rfl

theorem setToks_congr {α} (h : List Tok → UInt64) (f : α → List Tok) (R : α → α → Prop) (l1 l2 : List α)
    (H : ∀ a ∈ l1, ∀ b ∈ l2, R a b → f a = f b) (hp : PermBy R l1 l2) :
    setToks h (l1.map f) = setToks h (l2.map f) := by
  have p := hp.map_perm f H
  unfold setToks
  rw [sort_eq_iff_perm.2 (p.map _), p.length_eq]

end SR.Hash
