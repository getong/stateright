import SR.Proofs.SemBrute
/-!
The enumerations of the run-time oracle (`SR/Sem/Brute.lean`) are sound and complete for the declarative
definition `IsSerializationOf` of `SR/Sem/Spec.lean`. A state of the pruned enumeration `dfsPerm` is `Ser` with
`must = may =` the remaining operations, and one level of it is `Ser.cons_iff`; its fuel, the number of candidate
operations, is enough, so `bruteDfs` needs no size guard. `brutePlainAll` rests on `permsOf` listing every
permutation and `sublistsOf` every sublist.
-/
namespace SR.Sem
variable {S Op Ret : Type}

theorem legal_isOp (spec : SeqSpec S Op Ret) (es : List (Event Op Ret)) :
    ∀ (s : S) (ids : List OpId) (l : List (Op × Ret)), Legal spec es s ids l → ∀ a ∈ ids, IsOp es a := by
  intro s ids
  induction ids generalizing s with
  | nil =>
    intro l _ a ha
    cases ha
  | cons b ids ih =>
    intro l hl a ha
    cases l with
    | nil => simp [Legal] at hl
    | cons x l =>
      obtain ⟨h1, _, _, h4⟩ := hl
      rcases List.mem_cons.1 ha with rfl | ha
      · exact isOp_of_opAt h1
      · exact ih _ _ h4 a ha

theorem execIds_of_legal (spec : SeqSpec S Op Ret) (es : List (Event Op Ret)) :
    ∀ (s : S) (ids : List OpId) (l : List (Op × Ret)), Legal spec es s ids l → execIds spec es s ids = some l := by
  intro s ids
  induction ids generalizing s with
  | nil => intro l h; cases l with | nil => rfl | cons _ _ => simp [Legal] at h
  | cons a ids ih =>
    intro l h
    cases l with
    | nil => simp [Legal] at h
    | cons x l =>
      obtain ⟨h1, h2, _, h4⟩ := h
      simp only [execIds, h1, ih _ _ h4, Option.map_some, h2]

theorem legal_unique (spec : SeqSpec S Op Ret) (es : List (Event Op Ret)) :
    ∀ (s : S) (ids : List OpId) (l l' : List (Op × Ret)), Legal spec es s ids l → Legal spec es s ids l' → l = l' :=
  fun s ids l l' h h' =>
    Option.some.inj ((execIds_of_legal spec es s ids l h).symm.trans (execIds_of_legal spec es s ids l' h'))

theorem mem_filter_ne (rem : List OpId) (a b : OpId) : b ∈ rem.filter (· != a) ↔ b ∈ rem ∧ b ≠ a := by
  rw [List.mem_filter, bne_iff_ne]

section dfs
variable [DecidableEq Op] [DecidableEq Ret] (rt : Bool) (spec : SeqSpec S Op Ret) (es : List (Event Op Ret))

/- `doneAns`, `okRetB`, `okWantB`, `dfsStep` are the body of `dfsPerm` in named pieces (`dfsPerm_succ` is `rfl`).
   `want = none`: any order will do; `want = some l`: the order must produce the labels `l`. -/
def doneAns (want : Option (List (Op × Ret))) (acc : List OpId) : Option (List OpId) :=
  match want with
  | some (_ :: _) => none
  | _ => some acc.reverse

theorem dfsPerm_done (fuel : Nat) (s : S) (want : Option (List (Op × Ret))) (acc : List OpId) :
    dfsPerm rt spec es fuel s [] want acc = doneAns want acc := by
  cases fuel <;> rcases want with _ | _ | _ <;> rfl

def okRetB (es : List (Event Op Ret)) (a : OpId) (r : Ret) : Bool :=
  match retAt es a with | some r' => decide (r' = r) | none => true

def okWantB (want : Option (List (Op × Ret))) (x : Op × Ret) : Bool :=
  match want with
  | none => true
  | some [] => false
  | some (y :: _) => decide (y = x)

omit [DecidableEq Op] in
theorem okRetB_iff (a : OpId) (r : Ret) : okRetB es a r = true ↔ ∀ r', retAt es a = some r' → r' = r := by
  unfold okRetB
  cases retAt es a with
  | none => simp
  | some r' => simp

theorem want_cons_iff {want : Option (List (Op × Ret))} {x : Op × Ret} {l : List (Op × Ret)} :
    (∀ w, want = some w → w = x :: l) ↔ okWantB want x = true ∧ ∀ w, want.map List.tail = some w → w = l := by
  rcases want with _ | _ | ⟨y, w⟩ <;> simp [okWantB]

def dfsStep (fuel : Nat) (s : S) (rem : List OpId) (want : Option (List (Op × Ret))) (acc : List OpId)
    (a : OpId) : Option (List OpId) :=
  if rem.any (fun b => b != a && mustPrecedeB rt es b a) then none
  else match opAt es a with
    | none => none
    | some op =>
      if okRetB es a (spec.invoke s op).2 && okWantB want (op, (spec.invoke s op).2) then
        dfsPerm rt spec es fuel (spec.invoke s op).1 (rem.filter (· != a)) (want.map List.tail) (a :: acc)
      else none

theorem dfsPerm_succ (fuel : Nat) (s : S) (b : OpId) (rem : List OpId) (want : Option (List (Op × Ret)))
    (acc : List OpId) : dfsPerm rt spec es (fuel + 1) s (b :: rem) want acc =
      (b :: rem).findSome? (dfsStep rt spec es fuel s (b :: rem) want acc) := rfl

theorem dfsStep_eq_some_iff {fuel : Nat} {s : S} {rem : List OpId} {want : Option (List (Op × Ret))} {acc : List OpId}
    {a : OpId} {res : List OpId} : dfsStep rt spec es fuel s rem want acc a = some res ↔
    (∀ b ∈ rem, b ≠ a → ¬ MustPrecede rt es b a) ∧
    ∃ op, opAt es a = some op ∧ (∀ r', retAt es a = some r' → r' = (spec.invoke s op).2) ∧
      okWantB want (op, (spec.invoke s op).2) = true ∧
      dfsPerm rt spec es fuel (spec.invoke s op).1 (rem.filter (· != a)) (want.map List.tail) (a :: acc) = some res := by
  unfold dfsStep
  rw [Option.ite_none_left_eq_some, List.any_eq_true]
  simp only [not_exists, not_and, Bool.and_eq_true, bne_iff_ne, mustPrecedeB_iff]
  refine and_congr_right fun _ => ?_
  cases opAt es a with
  | none => simp
  | some op => simp only [Option.ite_none_right_eq_some, okRetB_iff, Option.some.injEq, exists_eq_left', and_assoc]

theorem dfsPerm_spec : ∀ (fuel : Nat) (s : S) (rem : List OpId) (want : Option (List (Op × Ret))) (acc : List OpId),
    (∀ res, dfsPerm rt spec es fuel s rem want acc = some res →
      ∃ ids l, res = acc.reverse ++ ids ∧ Ser rt spec es (· ∈ rem) (· ∈ rem) s ids l ∧ ∀ w, want = some w → w = l) ∧
    (rem.length ≤ fuel → ∀ ids l, Ser rt spec es (· ∈ rem) (· ∈ rem) s ids l → (∀ w, want = some w → w = l) →
      (dfsPerm rt spec es fuel s rem want acc).isSome = true)
  | fuel, s, [], want, acc => by
    rw [dfsPerm_done]
    constructor
    · intro res h
      rcases want with _ | _ | _ <;> cases h <;>
        exact ⟨[], [], (List.append_nil _).symm, Ser.nil_iff.2 (fun _ h => nomatch h), by simp⟩
    · intro _ ids l h hw
      obtain rfl : ids = [] := List.eq_nil_iff_forall_not_mem.2 fun a ha => nomatch h.present a ha
      cases l with
      | nil =>
        rcases want with _ | _ | _
        · rfl
        · rfl
        · cases hw _ rfl
      | cons x l => exact h.legal.elim
  | 0, _, b :: rem, _, _ => ⟨nofun, nofun⟩
  | fuel + 1, s, b :: rem, want, acc => by
    rw [dfsPerm_succ]
    constructor
    · intro res h
      obtain ⟨a, ha, hstep⟩ := List.exists_of_findSome?_eq_some h
      obtain ⟨hprec, op, hop, hret, hwant, hrec⟩ := (dfsStep_eq_some_iff rt spec es).1 hstep
      obtain ⟨ids, l, hres, hok, hw⟩ := (dfsPerm_spec fuel _ _ _ _).1 _ hrec
      refine ⟨a :: ids, (op, (spec.invoke s op).2) :: l, ?_,
        (Ser.cons_iff fun _ h hn => absurd h hn).2
          ⟨ha, hprec, hop, rfl, hret, (Ser.congr (mem_filter_ne _ a) (mem_filter_ne _ a)).1 hok⟩,
        want_cons_iff.2 ⟨hwant, hw⟩⟩
      rw [hres, List.reverse_cons, List.append_assoc]
      rfl
    · intro hfuel ids l h hw
      cases ids with
      | nil => exact nomatch h.all b List.mem_cons_self
      | cons a ids =>
        cases l with
        | nil => exact h.legal.elim
        | cons x l =>
          obtain ⟨ha, hprec, hop, hinv, hret, hok⟩ := (Ser.cons_iff fun _ h hn => absurd h hn).1 h
          obtain ⟨hwant, hw'⟩ := want_cons_iff.1 hw
          have hflt : ((b :: rem).filter (· != a)).length < (b :: rem).length :=
            List.length_filter_lt_length_iff_exists.2 ⟨a, ha, by simp⟩
          rw [List.findSome?_isSome_iff]
          obtain ⟨res, hres⟩ := Option.isSome_iff_exists.1
            ((dfsPerm_spec fuel _ _ _ (a :: acc)).2 (Nat.le_of_lt_succ (Nat.lt_of_lt_of_le hflt hfuel)) ids l
              ((Ser.congr (mem_filter_ne _ a) (mem_filter_ne _ a)).2 hok) hw')
          refine ⟨a, ha, Option.isSome_iff_exists.2 ⟨res, (dfsStep_eq_some_iff rt spec es).2 ⟨hprec, x.1, hop, ?_, ?_, hres⟩⟩⟩
          · rw [hinv]
            exact hret
          · rw [hinv]
            exact hwant

end dfs

theorem mem_inflightIds (es : List (Event Op Ret)) (a : OpId) :
    a ∈ inflightIds es ↔ IsOp es a ∧ ¬ IsCompleted es a := by
  unfold inflightIds IsOp IsCompleted
  simp only [List.mem_flatMap, List.mem_map, List.mem_range]
  constructor
  · rintro ⟨t, _, i, hi, rfl⟩
    simp only
    omega
  · rintro ⟨h1, h2⟩
    refine ⟨a.1, thread_of_mem_invsOf (List.getElem_mem h1), a.2 - (retsOf es a.1).length, by omega, Prod.ext rfl ?_⟩
    dsimp only
    omega

theorem ser_mem_iff {rt : Bool} {spec : SeqSpec S Op Ret} {s0 : S} {es : List (Event Op Ret)} {ids : List OpId}
    {l : List (Op × Ret)} (h : IsSerializationOf rt spec s0 es ids l) (a : OpId) :
    a ∈ ids ↔ a ∈ completedIds es ++ (inflightIds es).filter (fun b => ids.contains b) := by
  obtain ⟨_, h2, h3, _, _⟩ := h
  rw [List.mem_append, List.mem_filter, mem_completedIds, mem_inflightIds]
  constructor
  · intro ha
    by_cases hc : IsCompleted es a
    · exact Or.inl hc
    · exact Or.inr ⟨⟨h2 a ha, hc⟩, by simpa using ha⟩
  · rintro (hc | ⟨_, hc⟩)
    · exact h3 a hc
    · simpa using hc

theorem mem_sublistsOf {α : Type} {s l : List α} : s ∈ sublistsOf l ↔ s.Sublist l := by
  induction l generalizing s with
  | nil => simp [sublistsOf]
  | cons a l ih =>
    simp only [sublistsOf, List.mem_flatMap, ih, List.mem_cons, List.not_mem_nil, or_false, List.sublist_cons_iff]
    constructor
    · rintro ⟨s', h, rfl | rfl⟩
      · exact Or.inl h
      · exact Or.inr ⟨s', rfl, h⟩
    · rintro (h | ⟨r, rfl, h⟩)
      · exact ⟨s, h, Or.inl rfl⟩
      · exact ⟨r, h, Or.inr rfl⟩

theorem sublist_of_mem_sublistsOf {α : Type} : ∀ (l s : List α), s ∈ sublistsOf l → s.Sublist l :=
  fun _ _ => mem_sublistsOf.1

section bruteDfs
variable [DecidableEq Op] [DecidableEq Ret] (rt : Bool) (spec : SeqSpec S Op Ret) (s0 : S) (es : List (Event Op Ret))

theorem bruteDfs_sound (want : Option (List (Op × Ret))) (ids : List OpId)
    (h : bruteDfs rt spec s0 es want = some ids) :
    WellFormed es ∧ ∃ l, IsSerializationOf rt spec s0 es ids l ∧ ∀ w, want = some w → w = l := by
  unfold bruteDfs at h
  split at h
  · cases h
  · rename_i hwf
    have hwf' : WellFormed es := (wfB_iff es).1 (by simpa using hwf)
    refine ⟨hwf', ?_⟩
    obtain ⟨sub, _, hd⟩ := List.exists_of_findSome?_eq_some h
    obtain ⟨ids', l, hres, ⟨hnd, _, hall, hpw, hleg⟩, hw⟩ := (dfsPerm_spec rt spec es _ _ _ _ _).1 _ hd
    have : ids = ids' := by simpa using hres
    subst this
    refine ⟨l, ⟨hnd, legal_isOp spec es s0 ids l hleg, ?_, hpw, hleg⟩, hw⟩
    intro a ha
    exact hall a (List.mem_append_left _ ((mem_completedIds es a).2 ha))

theorem bruteDfs_complete (hwf : WellFormed es) (ids : List OpId) (l : List (Op × Ret))
    (h : IsSerializationOf rt spec s0 es ids l) (want : Option (List (Op × Ret))) (hw : ∀ w, want = some w → w = l) :
    (bruteDfs rt spec s0 es want).isSome = true := by
  unfold bruteDfs
  rw [(wfB_iff es).2 hwf]
  simp only [Bool.not_true, Bool.false_eq_true, if_false]
  rw [List.findSome?_isSome_iff]
  refine ⟨(inflightIds es).filter (fun b => ids.contains b), mem_sublistsOf.2 List.filter_sublist, ?_⟩
  have hm := ser_mem_iff h
  obtain ⟨h1, _, _, h4, h5⟩ := h
  exact (dfsPerm_spec rt spec es _ s0 _ want []).2 (Nat.le_refl _) ids l
    ⟨h1, fun a ha => (hm a).1 ha, fun a ha => (hm a).2 ha, h4, h5⟩ hw

theorem bruteDfs_isSome_iff (want : Option (List (Op × Ret))) : (bruteDfs rt spec s0 es want).isSome = true ↔
    WellFormed es ∧ ∃ l, IsSerialization rt spec s0 es l ∧ ∀ w, want = some w → w = l := by
  constructor
  · intro h
    obtain ⟨ids, hd⟩ := Option.isSome_iff_exists.1 h
    obtain ⟨hwf, l, hl, hw⟩ := bruteDfs_sound rt spec s0 es want ids hd
    exact ⟨hwf, l, ⟨ids, hl⟩, hw⟩
  · rintro ⟨hwf, l, ⟨ids, hl⟩, hw⟩
    exact bruteDfs_complete rt spec s0 es hwf ids l hl want hw

end bruteDfs

theorem mem_insertions_iff {α : Type} {a : α} {l l' : List α} :
    l' ∈ insertions a l ↔ ∃ p q, l = p ++ q ∧ l' = p ++ a :: q := by
  induction l generalizing l' with
  | nil => simp [insertions, and_assoc]
  | cons b l ih =>
    simp only [insertions, List.mem_cons, List.mem_map, ih]
    constructor
    · rintro (rfl | ⟨_, ⟨p, q, rfl, rfl⟩, rfl⟩)
      · exact ⟨[], _, rfl, rfl⟩
      · exact ⟨b :: p, q, rfl, rfl⟩
    · rintro ⟨p, q, h, rfl⟩
      cases p with
      | nil => exact Or.inl (h ▸ rfl)
      | cons c p =>
        cases h
        exact Or.inr ⟨_, ⟨p, q, rfl, rfl⟩, rfl⟩

/- both directions are `List.perm_middle`: the head of `l₁` sits somewhere in `l₂` -/
theorem mem_permsOf {α : Type} {l₁ l₂ : List α} : l₂ ∈ permsOf l₁ ↔ l₂.Perm l₁ := by
  induction l₁ generalizing l₂ with
  | nil => simp [permsOf]
  | cons a l ih =>
    simp only [permsOf, List.mem_flatMap, ih, mem_insertions_iff]
    constructor
    · rintro ⟨_, h, p, q, rfl, rfl⟩
      exact List.perm_middle.trans (h.cons a)
    · intro h
      obtain ⟨p, q, rfl⟩ := List.append_of_mem (h.mem_iff.2 List.mem_cons_self)
      exact ⟨p ++ q, (List.perm_middle.symm.trans h).cons_inv, p, q, rfl, rfl⟩

theorem perm_of_mem_permsOf {α : Type} : ∀ l₁ l₂ : List α, l₂ ∈ permsOf l₁ → l₂.Perm l₁ :=
  fun _ _ => mem_permsOf.1

theorem nodup_threadsOf (es : List (Event Op Ret)) : (threadsOf es).Nodup := by
  rw [threadsOf, dedup_foldl_eq]
  exact nodup_foldl_insertNew _ [] List.nodup_nil

theorem nodup_flatMap_pairs (ts : List Nat) (f : Nat → List Nat) (g : Nat → Nat → Nat) (hts : ts.Nodup)
    (hf : ∀ t, (f t).Nodup) (hg : ∀ t i j, g t i = g t j → i = j) :
    (ts.flatMap fun t => (f t).map fun i => ((t, g t i) : OpId)).Nodup := by
  unfold List.Nodup
  rw [List.pairwise_flatMap]
  constructor
  · intro t _
    rw [List.pairwise_map]
    refine List.Pairwise.imp ?_ (hf t)
    intro i j hij e
    exact hij (hg t i j (Prod.mk.inj e).2)
  · refine List.Pairwise.imp ?_ hts
    intro t1 t2 hne x hx y hy e
    rw [List.mem_map] at hx hy
    obtain ⟨_, _, rfl⟩ := hx
    obtain ⟨_, _, rfl⟩ := hy
    exact hne (Prod.mk.inj e).1

theorem nodup_completedIds (es : List (Event Op Ret)) : (completedIds es).Nodup :=
  nodup_flatMap_pairs (threadsOf es) (fun t => List.range (retsOf es t).length) (fun _ i => i)
    (nodup_threadsOf es) (fun _ => List.nodup_range) (fun _ _ _ h => h)

theorem nodup_inflightIds (es : List (Event Op Ret)) : (inflightIds es).Nodup :=
  nodup_flatMap_pairs (threadsOf es) (fun t => List.range ((invsOf es t).length - (retsOf es t).length))
    (fun t i => (retsOf es t).length + i) (nodup_threadsOf es) (fun _ => List.nodup_range)
    (fun _ _ _ h => Nat.add_left_cancel h)

theorem nodup_candidates (es : List (Event Op Ret)) (sub : List OpId) (h : sub.Sublist (inflightIds es)) :
    (completedIds es ++ sub).Nodup := by
  rw [List.nodup_append]
  refine ⟨nodup_completedIds es, h.nodup (nodup_inflightIds es), ?_⟩
  intro a ha b hb e
  subst e
  exact ((mem_inflightIds es a).1 (h.subset hb)).2 ((mem_completedIds es a).1 ha)

section brutePlain
variable [DecidableEq Op] [DecidableEq Ret] (rt : Bool) (spec : SeqSpec S Op Ret) (s0 : S) (es : List (Event Op Ret))

theorem mem_brutePlainAll (ids : List OpId) (l : List (Op × Ret)) :
    (ids, l) ∈ brutePlainAll rt spec s0 es ↔ IsSerializationOf rt spec s0 es ids l := by
  unfold brutePlainAll
  simp only [List.mem_flatMap, List.mem_filterMap]
  constructor
  · rintro ⟨sub, _, ids', _, h⟩
    split at h
    · cases h
    · split at h
      · rename_i hc
        cases h
        exact (checkSer_iff rt spec s0 es _ _).1 hc
      · cases h
  · intro h
    refine ⟨(inflightIds es).filter (fun b => ids.contains b), mem_sublistsOf.2 List.filter_sublist, ids, ?_, ?_⟩
    · rw [mem_permsOf, List.perm_ext_iff_of_nodup h.1 (nodup_candidates es _ List.filter_sublist)]
      exact ser_mem_iff h
    · rw [execIds_of_legal spec es s0 ids l h.2.2.2.2]
      simp only [(checkSer_iff rt spec s0 es ids l).2 h, if_true]

theorem brutePlain_iff : brutePlain rt spec s0 es = true ↔ WellFormed es ∧ ∃ l, IsSerialization rt spec s0 es l := by
  simp only [brutePlain, Bool.and_eq_true, wfB_iff, Bool.not_eq_true', List.isEmpty_eq_false_iff_exists_mem,
    Prod.exists, mem_brutePlainAll, IsSerialization]
  exact and_congr_right fun _ => exists_comm

theorem brute_iff_of_wellFormed (hwf : WellFormed es) :
    ((bruteDfs rt spec s0 es none).isSome = true ↔ ∃ l, IsSerialization rt spec s0 es l) ∧
    (brutePlain rt spec s0 es = true ↔ ∃ l, IsSerialization rt spec s0 es l) ∧
    (∀ l, (bruteDfs rt spec s0 es (some l)).isSome = true ↔ IsSerialization rt spec s0 es l) := by
  have h := bruteDfs_isSome_iff rt spec s0 es
  exact ⟨by simp [h, hwf], by simp [brutePlain_iff, hwf], fun l => by simp [h, hwf]⟩

end brutePlain

end SR.Sem
