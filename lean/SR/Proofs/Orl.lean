import SR.Actor.Orl
import SR.Proofs.ListAux
/-! C16: the invariant `WInv` of the protocol machine, through `PO` (one `processOutput`) and `Eff` (one `on_msg`). -/
namespace SR.Orl

variable {μ σ : Type}

theorem getD_filter_ne {κ : Type} [DecidableEq κ] (m : List (κ × Nat)) (k k' : κ) (d : Nat) (h : k' ≠ k) :
    getD (m.filter (fun e => decide (e.1 ≠ k))) k' d = getD m k' d := by
  induction m with
  | nil => rfl
  | cons e r ih =>
    obtain ⟨k0, v⟩ := e
    by_cases h0 : k0 = k
    · rw [List.filter_cons_of_neg (by simpa using h0), ih, getD, if_neg (h0 ▸ Ne.symm h)]
    · rw [List.filter_cons_of_pos (by simpa using h0), getD, getD, ih]

theorem getD_put {κ : Type} [DecidableEq κ] (m : List (κ × Nat)) (k k' : κ) (v d : Nat) :
    getD (put m k v) k' d = if k' = k then v else getD m k' d := by
  rw [put, getD]
  by_cases h : k' = k
  · rw [if_pos h.symm, if_pos h]
  · rw [if_neg (Ne.symm h), if_neg h, getD_filter_ne _ _ _ _ h]

theorem mem_put {κ ν : Type} [DecidableEq κ] (m : List (κ × ν)) (k : κ) (v : ν) (e : κ × ν) :
    e ∈ put m k v ↔ e = (k, v) ∨ (e ∈ m ∧ e.1 ≠ k) := by
  simp [put, List.mem_filter]

theorem mem_del {κ ν : Type} [DecidableEq κ] (m : List (κ × ν)) (k : κ) (e : κ × ν) :
    e ∈ del m k ↔ e ∈ m ∧ e.1 ≠ k := by
  simp [del, List.mem_filter]

theorem sentTo_append (nd nd' : Node μ σ) (x : Id × μ) (d : Id) (h : nd'.sent = nd.sent ++ [x]) :
    sentTo nd' d = if x.1 = d then sentTo nd d ++ [x.2] else sentTo nd d := by
  simpa [sentTo, h] using filter_map_concat (fun e : Id × μ => decide (e.1 = d)) (·.2) nd.sent x

theorem handedFrom_append (nd nd' : Node μ σ) (x : Id × Nat × μ) (s : Id)
    (h : nd'.handed = nd.handed ++ [x]) :
    handedFrom nd' s = if x.1 = s then handedFrom nd s ++ [x.2] else handedFrom nd s := by
  simpa [handedFrom, h] using filter_map_concat (fun e : Id × Nat × μ => decide (e.1 = s)) (·.2) nd.handed x

theorem handedFrom_congr {nd nd' : Node μ σ} (h : nd'.handed = nd.handed) (s : Id) :
    handedFrom nd' s = handedFrom nd s := by
  rw [handedFrom, h, handedFrom]

structure SInv (nd : Node μ σ) : Prop where
  next : ∀ d, getD nd.nextSeq d 1 = (sentTo nd d).length + 1
  pend : ∀ d q m, ((d, q), m) ∈ nd.pending → 1 ≤ q ∧ (sentTo nd d)[q - 1]? = some m

/-- `fresh`: everything sent during the call is pending after it -/
structure PO (nd nd' : Node μ σ) (out : List (OCmd μ)) : Prop where
  sinv : SInv nd'
  lastDel : nd'.lastDel = nd.lastDel
  handed : nd'.handed = nd.handed
  pre : ∀ d, sentTo nd d <+: sentTo nd' d
  keep : ∀ e ∈ nd.pending, e ∈ nd'.pending
  fresh : ∀ d q, (sentTo nd d).length < q → q ≤ (sentTo nd' d).length → ∃ m, ((d, q), m) ∈ nd'.pending
  out : ∀ c ∈ out, ∃ d q m, c = OCmd.send d (Env.deliver q m) ∧ 1 ≤ q ∧ (sentTo nd' d)[q - 1]? = some m

theorem PO.refl {nd : Node μ σ} (h : SInv nd) : PO nd nd [] :=
  ⟨h, rfl, rfl, fun _ => List.prefix_refl _, fun _ h => h, fun d q h1 h2 => by omega, fun c hc => by simp at hc⟩

theorem PO.trans {nd nd1 nd2 : Node μ σ} {o1 o2 : List (OCmd μ)} (h1 : PO nd nd1 o1) (h2 : PO nd1 nd2 o2) :
    PO nd nd2 (o1 ++ o2) where
  sinv := h2.sinv
  lastDel := h2.lastDel.trans h1.lastDel
  handed := h2.handed.trans h1.handed
  pre := fun d => (h1.pre d).trans (h2.pre d)
  keep := fun e he => h2.keep e (h1.keep e he)
  fresh := fun d q hlt hle => by
    by_cases hq : q ≤ (sentTo nd1 d).length
    · obtain ⟨m, hm⟩ := h1.fresh d q hlt hq
      exact ⟨m, h2.keep _ hm⟩
    · exact h2.fresh d q (by omega) hle
  out := fun c hc => by
    rcases List.mem_append.mp hc with hc | hc
    · obtain ⟨d, q, m, rfl, hq, hm⟩ := h1.out c hc
      exact ⟨d, q, m, rfl, hq, getElem?_of_prefix (h2.pre d) hm⟩
    · exact h2.out c hc

theorem sendOne_PO [DecidableEq μ] (nd : Node μ σ) (h : SInv nd) (dst : Id) (m : μ) :
    PO nd (sendOne nd dst m) [OCmd.send dst (Env.deliver (getD nd.nextSeq dst 1) m)] := by
  have hst : ∀ d, sentTo (sendOne nd dst m) d = if dst = d then sentTo nd d ++ [m] else sentTo nd d :=
    fun d => sentTo_append nd _ (dst, m) d rfl
  have hpre : ∀ d, sentTo nd d <+: sentTo (sendOne nd dst m) d := by
    intro d
    rw [hst]
    split
    · exact List.prefix_append _ _
    · exact List.prefix_refl _
  have hn := h.next dst
  have hnew : (sentTo (sendOne nd dst m) dst)[getD nd.nextSeq dst 1 - 1]? = some m := by
    rw [hst, if_pos rfl, hn, Nat.add_sub_cancel, List.getElem?_concat_length]
  refine ⟨⟨?_, ?_⟩, rfl, rfl, hpre, ?_, ?_, ?_⟩
  · intro d
    show getD (put nd.nextSeq dst (getD nd.nextSeq dst 1 + 1)) d 1 = _
    rw [getD_put, hst]
    by_cases hd : d = dst
    · rw [if_pos hd, if_pos hd.symm, List.length_append, hd, hn]
      rfl
    · rw [if_neg hd, if_neg (Ne.symm hd)]
      exact h.next d
  · intro d q m' hm
    rcases (mem_put _ _ _ _).mp hm with he | ⟨he, _⟩
    · cases he
      exact ⟨by omega, hnew⟩
    · obtain ⟨h1, h2⟩ := h.pend d q m' he
      exact ⟨h1, getElem?_of_prefix (hpre d) h2⟩
  · intro e he
    refine (mem_put _ _ _ _).mpr (Or.inr ⟨he, fun heq => ?_⟩)
    -- a pending message has a sequencer below the next one
    obtain ⟨⟨d, q⟩, m'⟩ := e
    cases heq
    have := lt_length_of_getElem? (h.pend _ _ _ he).2
    omega
  · intro d q hlt hle
    rw [hst] at hle
    by_cases hd : dst = d
    · rw [if_pos hd, List.length_append] at hle
      have hq : q = getD nd.nextSeq dst 1 := by
        rw [hn, hd]
        exact Nat.le_antisymm hle hlt
      exact ⟨m, (mem_put _ _ _ _).mpr (Or.inl (by rw [hq, hd]))⟩
    · rw [if_neg hd] at hle
      omega
  · intro c hc
    rw [List.mem_singleton.1 hc]
    exact ⟨dst, _, m, rfl, by omega, hnew⟩

theorem processOutput_PO [DecidableEq μ] (cmds : List (WCmd μ)) :
    ∀ (nd nd' : Node μ σ) (out : List (OCmd μ)), SInv nd → processOutput nd cmds = some (nd', out) → PO nd nd' out := by
  induction cmds with
  | nil =>
    intro nd nd' out h hp
    cases hp
    exact PO.refl h
  | cons c rest ih =>
    intro nd nd' out h hp
    cases c with
    | unsupported => cases hp
    | send dst m =>
      rw [processOutput] at hp
      split at hp
      · cases hp
      · rename_i nd'' out' heq
        cases hp
        have h1 := sendOne_PO nd h dst m
        exact h1.trans (ih _ _ _ h1.sinv heq)

theorem mem_sends (b : Id) (out : List (OCmd μ)) (p : Packet μ) :
    p ∈ sends b out ↔ ∃ d e, OCmd.send d e ∈ out ∧ p = ⟨b, d, e⟩ := by
  induction out with
  | nil => simp [sends]
  | cons c r ih =>
    cases c with
    | setTimer => simp [sends, ih]
    | send d e =>
      simp only [sends, List.mem_cons, ih]
      constructor
      · rintro (h | ⟨d', e', h, rfl⟩)
        · exact ⟨d, e, Or.inl rfl, h⟩
        · exact ⟨d', e', Or.inr h, rfl⟩
      · rintro ⟨d', e', h | h, rfl⟩
        · cases h
          exact Or.inl rfl
        · exact Or.inr ⟨d', e', h, rfl⟩

/-- `recv`: only the next `Deliver` in order from `a` changes the receive side -/
structure Eff (a : Id) (env : Env μ) (nd nd' : Node μ σ) (out : List (OCmd μ)) : Prop where
  sinv : SInv nd'
  pre : ∀ d, sentTo nd d <+: sentTo nd' d
  recv : ∀ s, (getD nd'.lastDel s 0 = getD nd.lastDel s 0 ∧ handedFrom nd' s = handedFrom nd s) ∨
    (s = a ∧ ∃ m, env = Env.deliver (getD nd.lastDel a 0 + 1) m ∧ getD nd'.lastDel a 0 = getD nd.lastDel a 0 + 1 ∧
      handedFrom nd' a = handedFrom nd a ++ [(getD nd.lastDel a 0 + 1, m)])
  keep : ∀ d q m, ((d, q), m) ∈ nd.pending → ((d, q), m) ∈ nd'.pending ∨ (d = a ∧ env = Env.ack q)
  fresh : ∀ d q, (sentTo nd d).length < q → q ≤ (sentTo nd' d).length → ∃ m, ((d, q), m) ∈ nd'.pending
  out : ∀ c ∈ out,
    (∃ d q m, c = OCmd.send d (Env.deliver q m) ∧ 1 ≤ q ∧ (sentTo nd' d)[q - 1]? = some m) ∨
    (∃ q m, c = OCmd.send a (Env.ack q) ∧ env = Env.deliver q m ∧ q ≤ getD nd'.lastDel a 0)

theorem Eff.same (a : Id) (env : Env μ) (nd : Node μ σ) (h : SInv nd) (out : List (OCmd μ))
    (hout : ∀ c ∈ out, ∃ q m, c = OCmd.send a (Env.ack q) ∧ env = Env.deliver q m ∧ q ≤ getD nd.lastDel a 0) :
    Eff a env nd nd out :=
  ⟨h, fun _ => List.prefix_refl _, fun _ => Or.inl ⟨rfl, rfl⟩, fun _ _ _ h => Or.inl h,
    fun _ _ h1 h2 => by omega, fun c hc => Or.inr (hout c hc)⟩

theorem accept_eff [DecidableEq μ] (a : Id) (m : μ) (nd nd3 : Node μ σ) (w : σ) (cmds : List (WCmd μ))
    (out : List (OCmd μ))
    (hp : processOutput { nd with wrapped := w, lastDel := put nd.lastDel a (getD nd.lastDel a 0 + 1),
                                  handed := nd.handed ++ [(a, getD nd.lastDel a 0 + 1, m)] } cmds = some (nd3, out))
    (hs : SInv nd) :
    Eff a (Env.deliver (getD nd.lastDel a 0 + 1) m) nd nd3 (OCmd.send a (Env.ack (getD nd.lastDel a 0 + 1)) :: out) := by
  -- recording the hand-over touches nothing of the send side
  have po := processOutput_PO cmds _ nd3 out (by exact ⟨hs.next, hs.pend⟩) hp
  have hl : getD nd3.lastDel a 0 = getD nd.lastDel a 0 + 1 := by
    rw [po.lastDel]
    exact (getD_put _ _ _ _ _).trans (if_pos rfl)
  refine ⟨po.sinv, po.pre, fun s => ?_, fun d q m' hm => Or.inl (po.keep _ hm), po.fresh, fun c hc => ?_⟩
  · by_cases hsa : s = a
    · subst hsa
      refine Or.inr ⟨rfl, m, rfl, hl, ?_⟩
      rw [handedFrom_congr po.handed, handedFrom_append nd _ (s, _, m) s rfl, if_pos rfl]
    · left
      rw [po.lastDel, handedFrom_congr po.handed, handedFrom_append nd _ (a, _, m) s rfl, if_neg (Ne.symm hsa)]
      exact ⟨(getD_put _ _ _ _ _).trans (if_neg hsa), rfl⟩
  · rcases List.mem_cons.mp hc with rfl | hc
    · exact Or.inr ⟨_, m, rfl, rfl, Nat.le_of_eq hl.symm⟩
    · exact Or.inl (po.out c hc)

theorem onMsg_eff [DecidableEq μ] (W : Wrapped μ σ) (b a : Id) (env : Env μ) (nd : Node μ σ)
    (r : Option (Node μ σ) × List (OCmd μ)) (h : onMsg W b nd a env = some r) (hs : SInv nd) :
    Eff a env nd (r.1.getD nd) r.2 := by
  cases env with
  | ack seq =>
    cases h
    refine ⟨⟨hs.next, fun d q m hm => hs.pend d q m ((mem_del _ _ _).mp hm).1⟩, fun _ => List.prefix_refl _,
      fun _ => Or.inl ⟨rfl, rfl⟩, ?_, fun _ _ h1 h2 => absurd (Nat.lt_of_lt_of_le h1 h2) (Nat.lt_irrefl _),
      fun _ hc => (nomatch hc)⟩
    intro d q m hm
    by_cases hk : (d, q) = (a, seq)
    · cases hk
      exact Or.inr ⟨rfl, rfl⟩
    · exact Or.inl ((mem_del _ _ _).mpr ⟨hm, hk⟩)
  | deliver seq m =>
    simp only [onMsg] at h
    split at h
    · -- `seq > last + 1`: overtook an earlier one
      cases h
      exact Eff.same a _ nd hs [] (fun _ hc => nomatch hc)
    · split at h
      · -- `seq ≤ last`: a duplicate
        rename_i hdup
        cases h
        refine Eff.same a _ nd hs _ (fun c hc => ?_)
        rw [List.mem_singleton.1 hc]
        exact ⟨seq, m, rfl, rfl, hdup⟩
      · rename_i hgap hdup
        obtain rfl : seq = getD nd.lastDel a 0 + 1 := by omega
        split at h
        · cases h
        · rename_i nd3 out hp
          cases h
          cases hw : (W.onMsg b nd.wrapped a m).1 with
          | none =>
            rw [hw] at hp
            exact accept_eff a m nd nd3 nd.wrapped _ out hp hs
          | some w =>
            rw [hw] at hp
            exact accept_eff a m nd nd3 w _ out hp hs

/-- per ordered pair `(s, d)`; `msgs` is `C16_prefix`, `ack` and `done` carry `C16_no_early_ack(_processed)` -/
structure WInv (st : World μ σ) : Prop where
  sinv : ∀ i, SInv (st.nodes i)
  seqs : ∀ s d, seqsFrom (st.nodes d) s = List.range' 1 (getD (st.nodes d).lastDel s 0)
  msgs : ∀ s d, msgsFrom (st.nodes d) s = (sentTo (st.nodes s) d).take (getD (st.nodes d).lastDel s 0)
  le : ∀ s d, getD (st.nodes d).lastDel s 0 ≤ (sentTo (st.nodes s) d).length
  -- in flight (first copy or resend): the `q`-th message sent on its flow
  dlv : ∀ s d q m, (⟨s, d, Env.deliver q m⟩ : Packet μ) ∈ st.net → 1 ≤ q ∧ (sentTo (st.nodes s) d)[q - 1]? = some m
  ack : ∀ s d q, (⟨d, s, Env.ack q⟩ : Packet μ) ∈ st.net → 1 ≤ q ∧ q ≤ getD (st.nodes d).lastDel s 0
  -- sent and not pending any more (its `Ack` was processed): handed over
  done : ∀ s d q, 1 ≤ q → q ≤ (sentTo (st.nodes s) d).length → (∀ m, ((d, q), m) ∉ (st.nodes s).pending) →
    q ≤ getD (st.nodes d).lastDel s 0

theorem WInv.net_sub {st : World μ σ} (h : WInv st) (net' : List (Packet μ))
    (hsub : ∀ p ∈ net', p ∈ st.net ∨ ∃ d q m, p = ⟨p.src, d, Env.deliver q m⟩ ∧ ((d, q), m) ∈ (st.nodes p.src).pending) :
    WInv { st with net := net' } := by
  refine ⟨h.sinv, h.seqs, h.msgs, h.le, fun s d q m hp => ?_, fun s d q hp => ?_, h.done⟩
  · rcases hsub _ hp with hp | ⟨d', q', m', heq, hmem⟩
    · exact h.dlv s d q m hp
    · cases heq
      exact (h.sinv _).pend _ _ _ hmem
  · rcases hsub _ hp with hp | ⟨d', q', m', heq, _⟩
    · exact h.ack s d q hp
    · cases heq

theorem upd_same {α : Type} (f : Id → α) (i : Id) (v : α) : upd f i v i = v :=
  if_pos rfl

theorem upd_cases {α : Type} (f : Id → α) (i : Id) (v : α) (j : Id) :
    (j = i ∧ upd f i v j = v) ∨ (j ≠ i ∧ upd f i v j = f j) := by
  by_cases h : j = i
  · exact Or.inl ⟨h, if_pos h⟩
  · exact Or.inr ⟨h, if_neg h⟩

theorem step_deliver_inv [DecidableEq μ] {st : World μ σ} (h : WInv st) (a b : Id) (env : Env μ)
    (hp : (⟨a, b, env⟩ : Packet μ) ∈ st.net) (nd' : Node μ σ) (out : List (OCmd μ))
    (eff : Eff a env (st.nodes b) nd' out) :
    WInv { nodes := upd st.nodes b nd', net := st.net.erase ⟨a, b, env⟩ ++ sends b out } := by
  have F1 : ∀ i d, sentTo (st.nodes i) d <+: sentTo (upd st.nodes b nd' i) d := by
    intro i d
    rcases upd_cases st.nodes b nd' i with ⟨rfl, e⟩ | ⟨_, e⟩
    · rw [e]
      exact eff.pre d
    · rw [e]
      exact List.prefix_refl _
  -- the receive side changes only for the pair (a, b), and then `hp` says which message was accepted
  have R : ∀ s d, (getD (upd st.nodes b nd' d).lastDel s 0 = getD (st.nodes d).lastDel s 0 ∧
        handedFrom (upd st.nodes b nd' d) s = handedFrom (st.nodes d) s) ∨
      (s = a ∧ d = b ∧ ∃ m, getD (upd st.nodes b nd' b).lastDel a 0 = getD (st.nodes b).lastDel a 0 + 1 ∧
        handedFrom (upd st.nodes b nd' b) a = handedFrom (st.nodes b) a ++ [(getD (st.nodes b).lastDel a 0 + 1, m)] ∧
        (sentTo (upd st.nodes b nd' a) b)[getD (st.nodes b).lastDel a 0]? = some m) := by
    intro s d
    rcases upd_cases st.nodes b nd' d with ⟨rfl, e⟩ | ⟨_, e⟩
    · rw [e]
      rcases eff.recv s with h1 | ⟨rfl, m, rfl, h1, h2⟩
      · exact Or.inl h1
      · exact Or.inr ⟨rfl, rfl, m, h1, h2, getElem?_of_prefix (F1 s d) (h.dlv _ _ _ _ hp).2⟩
    · rw [e]
      exact Or.inl ⟨rfl, rfl⟩
  have F2 : ∀ s d, getD (st.nodes d).lastDel s 0 ≤ getD (upd st.nodes b nd' d).lastDel s 0 := by
    intro s d
    rcases R s d with ⟨h1, _⟩ | ⟨rfl, rfl, _, h1, _⟩
    · exact Nat.le_of_eq h1.symm
    · exact Nat.le_of_lt (Nat.lt_of_lt_of_eq (Nat.lt_succ_self _) h1.symm)
  refine ⟨?_, ?_, ?_, ?_, ?_, ?_, ?_⟩
  · intro i
    dsimp only
    rcases upd_cases st.nodes b nd' i with ⟨_, e⟩ | ⟨_, e⟩
    · rw [e]
      exact eff.sinv
    · rw [e]
      exact h.sinv i
  · intro s d
    dsimp only
    rcases R s d with ⟨h1, h2⟩ | ⟨rfl, rfl, m, h1, h2, _⟩
    · rw [seqsFrom, h2, h1]
      exact h.seqs s d
    · rw [seqsFrom, h2, h1, List.map_append, range'_one_succ]
      exact congrArg (· ++ _) (h.seqs s d)
  · intro s d
    dsimp only
    rcases R s d with ⟨h1, h2⟩ | ⟨rfl, rfl, m, h1, h2, h3⟩
    · rw [msgsFrom, h2, h1, take_of_prefix (F1 s d) (h.le s d)]
      exact h.msgs s d
    · rw [msgsFrom, h2, h1, List.map_append, take_succ_of_getElem? h3, take_of_prefix (F1 s d) (h.le s d)]
      exact congrArg (· ++ _) (h.msgs s d)
  · intro s d
    dsimp only
    rcases R s d with ⟨h1, _⟩ | ⟨rfl, rfl, m, h1, _, h3⟩
    · rw [h1]
      exact Nat.le_trans (h.le s d) (F1 s d).length_le
    · rw [h1]
      exact lt_length_of_getElem? h3
  · intro s d q m hq
    rcases List.mem_append.mp hq with hq | hq
    · obtain ⟨h1, h2⟩ := h.dlv s d q m (List.mem_of_mem_erase hq)
      exact ⟨h1, getElem?_of_prefix (F1 s d) h2⟩
    · obtain ⟨d', e, hc, hpk⟩ := (mem_sends _ _ _).mp hq
      cases hpk
      rcases eff.out _ hc with ⟨d', q', m', heq, h1⟩ | ⟨q', m', heq, _⟩
      · cases heq
        dsimp only
        rw [upd_same]
        exact h1
      · cases heq
  · intro s d q hq
    rcases List.mem_append.mp hq with hq | hq
    · obtain ⟨h1, h2⟩ := h.ack s d q (List.mem_of_mem_erase hq)
      exact ⟨h1, Nat.le_trans h2 (F2 s d)⟩
    · obtain ⟨d', e, hc, hpk⟩ := (mem_sends _ _ _).mp hq
      cases hpk
      rcases eff.out _ hc with ⟨d', q', m', heq, _⟩ | ⟨q', m', heq, rfl, h2⟩
      · cases heq
      · cases heq
        dsimp only
        rw [upd_same]
        exact ⟨(h.dlv _ _ _ _ hp).1, h2⟩
  · intro s d q hq1 hq2 hnp
    dsimp only at hq2 hnp ⊢
    refine Nat.le_trans ?_ (F2 s d)
    rcases upd_cases st.nodes b nd' s with ⟨rfl, e⟩ | ⟨_, e⟩
    · rw [e] at hq2 hnp
      by_cases hold : q ≤ (sentTo (st.nodes s) d).length
      · by_cases hack : d = a ∧ env = Env.ack q
        · obtain ⟨rfl, rfl⟩ := hack
          exact (h.ack s d q hp).2
        · refine h.done s d q hq1 hold (fun m hm => ?_)
          rcases eff.keep d q m hm with h' | h'
          · exact hnp m h'
          · exact hack h'
      · obtain ⟨m, hm⟩ := eff.fresh d q (by omega) hq2
        exact (hnp m hm).elim
    · rw [e] at hq2 hnp
      exact h.done s d q hq1 hq2 hnp

theorem step_inv [DecidableEq μ] (W : Wrapped μ σ) (n : Nat) {st st' : World μ σ} (h : WInv st) (l : Label μ)
    (hs : step W n st l = some st') : WInv st' := by
  revert hs
  -- the branches of `step` in order: drop (1, 2), dup (3, 4), timeout (5, 6), each with its guard true and then false;
  -- deliver with its guard true (7 = the handler panics, 8 = it answers) and false (9)
  fun_cases step W n st l with
  | case1 p hp =>
    rintro ⟨⟩
    exact h.net_sub _ (fun _ hq => Or.inl (List.mem_of_mem_erase hq))
  | case3 p hp =>
    rintro ⟨⟩
    refine h.net_sub _ (fun q hq => Or.inl ?_)
    rcases List.mem_append.mp hq with hq | hq
    · exact hq
    · rwa [List.mem_singleton.1 hq]
  | case5 i hi =>
    rintro ⟨⟩
    refine h.net_sub _ (fun p hp => ?_)
    rcases List.mem_append.mp hp with hp | hp
    · exact Or.inl hp
    · obtain ⟨d, e, hc, rfl⟩ := (mem_sends _ _ _).mp hp
      simp only [onTimeout, List.mem_cons, reduceCtorEq, List.mem_map, false_or] at hc
      obtain ⟨⟨⟨d', q'⟩, m'⟩, hmem, heq⟩ := hc
      cases heq
      exact Or.inr ⟨_, _, _, rfl, hmem⟩
  | case8 p hp r hr =>
    rintro ⟨⟩
    exact step_deliver_inv h p.src p.dst p.env hp.1 _ _ (onMsg_eff W _ _ _ _ r hr (h.sinv _))
  | _ => nofun

theorem run_inv [DecidableEq μ] (W : Wrapped μ σ) (n : Nat) (ls : List (Label μ)) :
    ∀ {st st' : World μ σ}, WInv st → run W n st ls = some st' → WInv st' := by
  induction ls with
  | nil =>
    intro st st' h hr
    cases hr
    exact h
  | cons l ls ih =>
    intro st st' h hr
    simp only [run] at hr
    split at hr
    · cases hr
    · rename_i st1 hs
      exact ih (step_inv W n h l hs) hr

theorem sinv_blank (W : Wrapped μ σ) (i : Id) : SInv (blank W i) :=
  ⟨fun _ => rfl, fun _ _ _ hm => nomatch hm⟩

/-- holds whether `on_start` succeeds or not, so `init_inv` needs no case on it -/
theorem onStart_PO [DecidableEq μ] (W : Wrapped μ σ) (i : Id) :
    ∃ out, PO (blank W i) ((onStart W i).getD (blank W i, [])).1 out ∧
      ∀ d e, OCmd.send d e ∈ ((onStart W i).getD (blank W i, [])).2 → OCmd.send d e ∈ out := by
  unfold onStart
  split
  · exact ⟨[], PO.refl (sinv_blank W i), fun _ _ h => h⟩
  · rename_i nd out hpo
    exact ⟨out, processOutput_PO _ _ _ _ (sinv_blank W i) hpo,
      fun d e h => (List.mem_cons.mp h).resolve_left (fun h => nomatch h)⟩

theorem winv_of_start (W : Wrapped μ σ) (st : World μ σ) (hnode : ∀ i, ∃ out, PO (blank W i) (st.nodes i) out)
    (hnet : ∀ p ∈ st.net, ∃ out, PO (blank W p.src) (st.nodes p.src) out ∧ OCmd.send p.dst p.env ∈ out) :
    WInv st := by
  have hl : ∀ d, (st.nodes d).lastDel = [] := fun d => (hnode d).elim fun _ h => h.lastDel
  have hh : ∀ d s, handedFrom (st.nodes d) s = [] := fun d s => (hnode d).elim fun _ h => handedFrom_congr h.handed s
  have hsent : ∀ s d e, (⟨s, d, e⟩ : Packet μ) ∈ st.net →
      ∃ q m, e = Env.deliver q m ∧ 1 ≤ q ∧ (sentTo (st.nodes s) d)[q - 1]? = some m := by
    intro s d e hp
    obtain ⟨out, po, hc⟩ := hnet _ hp
    obtain ⟨d', q, m, heq, hq⟩ := po.out _ hc
    cases heq
    exact ⟨q, m, rfl, hq⟩
  refine ⟨fun i => (hnode i).elim fun _ h => h.sinv, ?_, ?_, ?_, ?_, ?_, ?_⟩
  · intro s d
    rw [seqsFrom, hh, hl]
    rfl
  · intro s d
    rw [msgsFrom, hh, hl]
    rfl
  · intro s d
    rw [hl]
    exact Nat.zero_le _
  · intro s d q m hp
    obtain ⟨q', m', he, hq⟩ := hsent _ _ _ hp
    cases he
    exact hq
  · intro s d q hp
    obtain ⟨q', m', he, _⟩ := hsent _ _ _ hp
    cases he
  · intro s d q hq1 hq2 hnp
    obtain ⟨out, po⟩ := hnode s
    obtain ⟨m, hm⟩ := po.fresh d q hq1 hq2
    exact (hnp m hm).elim

theorem init_inv [DecidableEq μ] (W : Wrapped μ σ) (n : Nat) {st : World μ σ} (hi : init W n = some st) : WInv st := by
  rw [init] at hi
  split at hi
  · cases hi
    refine winv_of_start W _ (fun i => ?_) (fun p hp => ?_)
    · dsimp only
      split
      · exact (onStart_PO W i).imp fun _ h => h.1
      · exact ⟨[], PO.refl (sinv_blank W i)⟩
    · obtain ⟨j, hj, hps⟩ := List.mem_flatMap.mp hp
      obtain ⟨d, e, hc, rfl⟩ := (mem_sends _ _ _).mp hps
      dsimp only
      rw [if_pos (List.mem_range.mp hj)]
      exact (onStart_PO W j).imp fun _ h => ⟨h.1, h.2 d e hc⟩
  · cases hi

theorem reach_inv [DecidableEq μ] (W : Wrapped μ σ) (n : Nat) {st : World μ σ} (h : Reach W n st) : WInv st := by
  obtain ⟨st0, ls, hi, hr⟩ := h
  exact run_inv W n ls (init_inv W n hi) hr

theorem WInv.prefix {st : World μ σ} (inv : WInv st) (s d : Id) :
    msgsFrom (st.nodes d) s <+: sentTo (st.nodes s) d := by
  rw [inv.msgs s d]
  exact List.take_prefix _ _

theorem WInv.length_msgs {st : World μ σ} (inv : WInv st) (s d : Id) :
    (msgsFrom (st.nodes d) s).length = getD (st.nodes d).lastDel s 0 := by
  rw [inv.msgs s d, List.length_take]
  exact Nat.min_eq_left (inv.le s d)

/-- exactly once and in order, as one equation (`handedFrom` keeps the number first, hence `swap`) -/
theorem WInv.handed_eq {st : World μ σ} (inv : WInv st) (s d : Id) :
    (handedFrom (st.nodes d) s).map Prod.swap = (msgsFrom (st.nodes d) s).zipIdx 1 := by
  rw [List.zipIdx_eq_zip_range', inv.length_msgs]
  exact List.zip_of_prod (List.map_map ..) ((List.map_map ..).trans (inv.seqs s d))

theorem WInv.handed_spec {st : World μ σ} (inv : WInv st) (s d : Id) (q : Nat) (m : μ)
    (hm : (q, m) ∈ handedFrom (st.nodes d) s) : 1 ≤ q ∧ (sentTo (st.nodes s) d)[q - 1]? = some m := by
  have hz := List.mem_map_of_mem (f := Prod.swap) hm
  rw [inv.handed_eq] at hz
  obtain ⟨h1, h2⟩ := List.mem_zipIdx_iff_le_and_getElem?_sub.mp hz
  exact ⟨h1, getElem?_of_prefix (inv.prefix s d) h2⟩

theorem WInv.handed_of_le {st : World μ σ} (inv : WInv st) (s d : Id) (q : Nat) (h1 : 1 ≤ q)
    (h2 : q ≤ getD (st.nodes d).lastDel s 0) :
    ∃ m, (q, m) ∈ handedFrom (st.nodes d) s ∧ (sentTo (st.nodes s) d)[q - 1]? = some m := by
  have hq : q ∈ seqsFrom (st.nodes d) s := by
    rw [inv.seqs s d]
    exact List.mem_range'_1.mpr ⟨h1, by omega⟩
  obtain ⟨⟨q', m⟩, hmem, rfl⟩ := List.mem_map.mp hq
  exact ⟨m, hmem, (inv.handed_spec s d _ m hmem).2⟩

theorem WInv.complete {st : World μ σ} (inv : WInv st) (s d : Id)
    (hnp : ∀ q m, ((d, q), m) ∉ (st.nodes s).pending) : msgsFrom (st.nodes d) s = sentTo (st.nodes s) d := by
  rw [inv.msgs s d]
  apply List.take_of_length_le
  by_cases h0 : (sentTo (st.nodes s) d).length = 0
  · omega
  · exact inv.done s d _ (by omega) (Nat.le_refl _) (hnp _)

theorem run_append [DecidableEq μ] (W : Wrapped μ σ) (n : Nat) (l1 l2 : List (Label μ)) :
    ∀ (st : World μ σ), run W n st (l1 ++ l2) = (run W n st l1).bind (fun st1 => run W n st1 l2) := by
  induction l1 with
  | nil =>
    intro st
    rfl
  | cons l ls ih =>
    intro st
    simp only [List.cons_append, run]
    split
    · rfl
    · exact ih _

/-- `implNext` (what the correspondence check compares with `ActorModel::next_state`) only takes machine steps -/
theorem implNext_run [DecidableEq μ] (W : Wrapped μ σ) (n : Nat) (kind : Kind) (st st' : World μ σ) (a : Action μ)
    (h : implNext W n kind st a = Outcome.next st') : ∃ ls, run W n st ls = some st' := by
  unfold implNext at h
  split at h
  · cases h
  · split at h
    · cases h
    · rename_i ls _
      split at h
      · cases h
      · rename_i st1 h1
        split at h
        · split at h
          · cases h
          · rename_i st2 h2
            cases h
            exact ⟨ls ++ (extras st1.net).map Label.drop, by rw [run_append, h1]; exact h2⟩
        · cases h
          exact ⟨ls, h1⟩

theorem reach_run [DecidableEq μ] (W : Wrapped μ σ) (n : Nat) {st st' : World μ σ} (h : Reach W n st)
    (ls : List (Label μ)) (hr : run W n st ls = some st') : Reach W n st' := by
  obtain ⟨st0, l0, hi, h0⟩ := h
  exact ⟨st0, l0 ++ ls, hi, by rw [run_append, h0]; exact hr⟩

end SR.Orl
