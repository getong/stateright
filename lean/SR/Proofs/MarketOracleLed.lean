import SR.Proofs.MarketOracle
import SR.Proofs.ExceptHolds
import SR.Proofs.ListAux
/-! What a trace accepted by the oracle `o-mk` satisfies: `Led` relates the check-free `Ledger` of the observations to the
oracle's `Obs`. -/
namespace SR.C05Oracle
open SR SR.Drv.C05 Except

structure Ledger where
  locs : List (List Nat)
  pushed : List Nat := []
  popped : List Nat := []
  parked : List Nat := []
  exited : List Nat := []

/-- multiset difference: what `split` shared, the caller keeping `b` -/
def ldiff (l b : List Nat) : List Nat := b.foldl List.erase l

theorem eraseAll?_some {b l m : List Nat} (h : eraseAll? l b = some m) : ldiff l b = m ∧ l.Perm (b ++ m) := by
  fun_induction eraseAll? l b with
  | case1 l =>
    cases h
    exact ⟨rfl, .refl _⟩
  | case2 l t ts ht ih => exact ⟨(ih h).1, (List.perm_cons_erase (by simpa using ht)).trans ((ih h).2.cons t)⟩
  -- `t` is missing
  | case3 => cases h

def ledgerStep (l : Ledger) (e : Ev) (r : SExp) : Ledger :=
  match e with
  | .xpush toks => { l with pushed := toks ++ l.pushed }
  | .pop w | .wake w =>
    match r with
    | .atom "park" => { l with parked := w :: l.parked.erase w }
    | r =>
      match resToks? r with
      | some b => { l with popped := b ++ l.popped, locs := l.locs.set w (l.locs.getD w [] ++ b),
                           parked := l.parked.erase w }
      | none => l
  | .push w n => { l with pushed := (l.locs.getD w []).take n ++ l.pushed,
                          locs := l.locs.set w ((l.locs.getD w []).drop n) }
  | .split w =>
    match resToks? r with
    | some after => { l with pushed := ldiff (l.locs.getD w []) after ++ l.pushed, locs := l.locs.set w after }
    | none => l
  | .work w c fresh =>
    { l with locs := l.locs.set w (fresh ++ (l.locs.getD w []).take ((l.locs.getD w []).length - c)) }
  | .drop w => { l with locs := l.locs.set w [], exited := w :: l.exited }
  | _ => l

def ledger : Ledger → List Ev → List SExp → Ledger
  | l, e :: es, r :: rs => ledger (ledgerStep l e r) es rs
  | l, _, _ => l

/-- the event tells of a stop, read off the observed result (`tells` of `MarketOracleSim.lean`: off the model's state) -/
def closes : Ev → SExp → Bool
  | .drop _, _ | .xdrop, _ | .tfire, _ => true
  | .shut, r | .closed, r => r.bool? == some true
  | _, _ => false

def noClose : List Ev → List SExp → Bool
  | e :: es, r :: rs => !closes e r && noClose es rs
  | _, _ => true

/-- conservation of tokens: the ledger's deques `ll` are the oracle's `ol`, and `pushed` = `popped` + `market` + `lost`
    (`lost`: discarded by a stop or handed to a market known closed; none while `kn = known o` is false) -/
structure LT (ll : List (List Nat)) (pushed popped : List Nat) (ol : List (List Nat)) (market : List Nat)
    (kn : Bool) : Prop where
  locs : ol = ll
  cons : ∃ lost : List Nat, ∀ t, pushed.count t = popped.count t + market.count t + lost.count t
  consOpen : kn = false → ∀ t, pushed.count t = popped.count t + market.count t

/-- the sleepers `P` (in range, not among the leavers `X`) can still be woken (`aw`): a worker is awake or `M ≠ []` -/
structure PA (k : Nat) (P X M : List Nat) : Prop where
  pn : P.Nodup
  plt : ∀ w, w ∈ P → w < k ∧ w ∉ X
  aw : P ≠ [] → (∃ v, v < k ∧ v ∉ P ∧ v ∉ X) ∨ M ≠ []

structure Led (k : Nat) (l : Ledger) (o : Obs) : Prop where
  lt : LT l.locs l.pushed l.popped o.locs o.market (known o)
  parked : o.parked = l.parked
  exited : o.exited = l.exited
  pa : PA k o.parked o.exited o.mustWake

theorem LT.setLocs {ll pu po ol mk kn} (h : LT ll pu po ol mk kn) (w : Nat) (x : List Nat) :
    LT (ll.set w x) pu po (ol.set w x) mk kn := ⟨by rw [h.locs], h.cons, h.consOpen⟩

theorem LT.pushLost {ll pu po ol mk kn} (h : LT ll pu po ol mk kn) (hk : kn = true) (b : List Nat) :
    LT ll (b ++ pu) po ol mk kn := by
  obtain ⟨lost, hl⟩ := h.cons
  refine ⟨h.locs, ⟨b ++ lost, ?_⟩, fun hk' => Bool.noConfusion (hk.symm.trans hk')⟩
  intro t
  have := hl t
  simp only [List.count_append]
  omega

theorem LT.pushNil {ll pu po ol mk kn} (h : LT ll pu po ol mk kn) {b : List Nat} (hb : b = []) :
    LT ll (b ++ pu) po ol mk kn := by
  subst hb
  exact h

theorem LT.pushMk {ll pu po ol mk kn} (h : LT ll pu po ol mk kn) (b : List Nat) :
    LT ll (b ++ pu) po ol (b ++ mk) kn := by
  obtain ⟨lost, hl⟩ := h.cons
  refine ⟨h.locs, ⟨lost, ?_⟩, ?_⟩
  · intro t
    have := hl t
    simp only [List.count_append]
    omega
  · intro hk t
    have := h.consOpen hk t
    simp only [List.count_append]
    omega

theorem LT.pop {ll pu po ol mk kn} (h : LT ll pu po ol mk kn) {b m' : List Nat} (hm : mk.Perm (b ++ m')) :
    LT ll pu (b ++ po) ol m' kn := by
  obtain ⟨lost, hl⟩ := h.cons
  have hc : ∀ t, mk.count t = b.count t + m'.count t := by
    intro t
    rw [hm.count_eq, List.count_append]
  refine ⟨h.locs, ⟨lost, ?_⟩, ?_⟩
  · intro t
    have := hl t
    have := hc t
    simp only [List.count_append]
    omega
  · intro hk t
    have := h.consOpen hk t
    have := hc t
    simp only [List.count_append]
    omega

theorem LT.close {ll pu po ol mk kn kn'} (h : LT ll pu po ol mk kn) (hk : kn' = true) : LT ll pu po ol mk kn' :=
  ⟨h.locs, h.cons, fun hk' => Bool.noConfusion (hk.symm.trans hk')⟩

theorem LT.clear {ll pu po ol mk kn kn'} (h : LT ll pu po ol mk kn) (hk : kn' = true) : LT ll pu po ol [] kn' := by
  obtain ⟨lost, hl⟩ := h.cons
  refine ⟨h.locs, ⟨mk ++ lost, ?_⟩, fun hk' => Bool.noConfusion (hk.symm.trans hk')⟩
  intro t
  have := hl t
  simp only [List.count_append, List.count_nil]
  omega

theorem PA.dropW {k P X M} (h : PA k P X M) {w : Nat} (hw : w < k ∧ w ∉ P ∧ w ∉ X) : PA k P (w :: X) P := by
  refine ⟨h.pn, ?_, fun hp => Or.inr hp⟩
  intro v hv
  refine ⟨(h.plt v hv).1, ?_⟩
  intro hm
  rcases List.mem_cons.1 hm with e | e
  · subst e
    exact hw.2.1 hv
  · exact (h.plt v hv).2 e

theorem PA.must {k P X M} (h : PA k P X M) : PA k P X P := ⟨h.pn, h.plt, fun hp => Or.inr hp⟩

theorem PA.run {k P X M} (h : PA k P X M) {w : Nat} (hw : w < k ∧ w ∉ X) : PA k (P.erase w) X (M.erase w) := by
  refine ⟨h.pn.erase w, ?_, ?_⟩
  · intro v hv
    exact h.plt v (List.mem_of_mem_erase hv)
  · intro _
    exact Or.inl ⟨w, hw.1, fun hm => (h.pn.mem_erase_iff.1 hm).1 rfl, hw.2⟩

theorem PA.park {k P X M} (h : PA k P X M) {w : Nat} (hw : w < k ∧ w ∉ X)
    (hv : ∃ v, v ≠ w ∧ v < k ∧ v ∉ P.erase w ∧ v ∉ X) : PA k (w :: P.erase w) X (M.erase w) := by
  refine ⟨?_, ?_, ?_⟩
  · exact List.nodup_cons.2 ⟨fun hm => (h.pn.mem_erase_iff.1 hm).1 rfl, h.pn.erase w⟩
  · intro v hv
    rcases List.mem_cons.1 hv with e | e
    · subst e
      exact hw
    · exact h.plt v (List.mem_of_mem_erase e)
  · intro _
    obtain ⟨v, h1, h2, h3, h4⟩ := hv
    refine Or.inl ⟨v, h2, ?_, h4⟩
    intro hm
    rcases List.mem_cons.1 hm with e | e
    · exact h1 e
    · exact h3 e

theorem ledgerStep_pop_park (l : Ledger) (w : Nat) :
    ledgerStep l (.pop w) (.atom "park") = { l with parked := w :: l.parked.erase w } := rfl

theorem ledgerStep_wake_park (l : Ledger) (w : Nat) :
    ledgerStep l (.wake w) (.atom "park") = { l with parked := w :: l.parked.erase w } := rfl

theorem ledgerStep_pop_toks (l : Ledger) (w : Nat) {r : SExp} {b : List Nat} (hr : resToks? r = some b) :
    ledgerStep l (.pop w) r = { l with popped := b ++ l.popped, locs := l.locs.set w (l.locs.getD w [] ++ b),
                                       parked := l.parked.erase w } := by
  obtain ⟨xs, rfl⟩ := resToks?_list hr
  simp only [ledgerStep, hr]

theorem ledgerStep_wake_toks (l : Ledger) (w : Nat) {r : SExp} {b : List Nat} (hr : resToks? r = some b) :
    ledgerStep l (.wake w) r = { l with popped := b ++ l.popped, locs := l.locs.set w (l.locs.getD w [] ++ b),
                                        parked := l.parked.erase w } :=
  ledgerStep_pop_toks l w hr

theorem ledgerStep_split (l : Ledger) (w : Nat) {r : SExp} {after : List Nat} (hr : resToks? r = some after) :
    ledgerStep l (.split w) r =
      { l with pushed := ldiff (l.locs.getD w []) after ++ l.pushed, locs := l.locs.set w after } := by
  unfold ledgerStep
  simp only [hr]

theorem led_opop {k pu po o w isWake r cont} {Q : Obs → Prop} (hlt : LT o.locs pu po o.locs o.market (known o))
    (hpa : PA k o.parked o.exited o.mustWake) (hw : w < k ∧ w ∉ o.exited)
    (hc : ∀ o', Led k (ledgerStep ⟨o.locs, pu, po, o.parked, o.exited⟩ (.pop w) r) o' → known o' = known o →
      (cont o').Holds Q) : (opop k o w isWake r cont).Holds Q := by
  -- Stated for `.pop w`; `ledgerStep` has one arm `.pop w | .wake w`, so it serves `.wake w` by unfolding.
  unfold opop
  simp only
  split
  · simp only [holds_ite, holds_error, implies_true, true_and]
    intro _ _ hall _
    exact hc _ ⟨hlt, rfl, rfl, hpa.park hw (awake_all.1 (Bool.eq_false_iff.2 hall))⟩ rfl
  · split
    · exact holds_error
    · rename_i hr
      rw [ledgerStep_pop_toks _ w hr] at hc
      refine hc _ ⟨?_, rfl, rfl, hpa.run hw⟩ rfl
      show LT (o.locs.set w (o.locs.getD w [] ++ [])) pu po o.locs o.market (known o)
      rw [List.append_nil, set_getD_self]
      exact hlt
    · rename_i b _ hr
      rw [ledgerStep_pop_toks _ w hr] at hc
      simp only [holds_ite, holds_error, implies_true, true_and]
      intro _ _
      split
      · exact holds_error
      · rename_i m' hm
        exact hc _ ⟨(hlt.pop (eraseAll?_some hm).2).setLocs w _, rfl, rfl, hpa.run hw⟩ rfl

/-- `hc` is the rest of the run.  The guards that throw disappear under `holds_ite`, `holds_error`: what is left is one
    `hc _ ⟨…⟩ _` per accepting path. -/
theorem led_step {k l o e r cont} {Q : Obs → Prop} (h : Led k l o)
    (hc : ∀ o', Led k (ledgerStep l e r) o' → known o' = (closes e r || known o) → (cont o').Holds Q) :
    (obody k o e r cont).Holds Q := by
  obtain ⟨ll, pu, po, lp, lx⟩ := l
  obtain ⟨hlt, rfl, rfl, hpa⟩ := h
  obtain rfl : o.locs = ll := hlt.locs
  unfold obody
  split
  · exact holds_error
  rename_i hpre
  cases e
  case pop w =>
    obtain ⟨hact, -⟩ := (opre_worker rfl).1 hpre
    exact led_opop hlt hpa ⟨hact.1, hact.2.2⟩ hc
  case wake w => exact led_opop hlt hpa (hpa.plt w (opre_wake.1 hpre)) hc
  all_goals unfold oact
  case xpush toks =>
    simp only [holds_ite, holds_error, implies_true, true_and]
    exact fun _ => ⟨fun hk => hc _ ⟨hlt.pushLost hk toks, rfl, rfl, hpa⟩ rfl, fun _ =>
      ⟨fun hte => hc _ ⟨hlt.pushNil (List.isEmpty_iff.1 hte), rfl, rfl, hpa⟩ rfl,
       fun _ => hc _ ⟨hlt.pushMk toks, rfl, rfl, hpa⟩ rfl⟩⟩
  case push w n =>
    simp only [holds_ite]
    exact ⟨fun hk => hc _ ⟨(hlt.pushLost hk _).setLocs w _, rfl, rfl, hpa⟩ rfl, fun _ =>
      ⟨fun hte => hc _ ⟨(hlt.pushNil (List.isEmpty_iff.1 hte)).setLocs w _, rfl, rfl, hpa⟩ rfl,
       fun _ => hc _ ⟨(hlt.pushMk _).setLocs w _, rfl, rfl, hpa⟩ rfl⟩⟩
  case split w =>
    simp only
    split
    · exact holds_error
    rename_i after hr
    rw [ledgerStep_split _ w hr] at hc
    simp only [holds_ite, holds_error, implies_true, and_true]
    refine ⟨fun hk hae => ?_, fun _ => ?_⟩
    · obtain rfl : after = [] := List.isEmpty_iff.1 hae
      exact hc _ ⟨(hlt.pushLost hk _).setLocs w _, rfl, rfl, hpa⟩ rfl
    · split
      · exact holds_error
      · rename_i rest hre
        rw [(eraseAll?_some hre).1] at hc
        exact hc _ ⟨(hlt.pushMk rest).setLocs w _, rfl, rfl, hpa⟩ rfl
  case work w c fresh =>
    simp only [holds_ite, holds_error, implies_true, true_and]
    exact fun _ => hc _ ⟨hlt.setLocs w _, rfl, rfl, hpa⟩ rfl
  case drop w =>
    obtain ⟨hact, -⟩ := (opre_worker rfl).1 hpre
    exact hc _ ⟨(hlt.setLocs w []).clear (Bool.or_true _), rfl, rfl, hpa.dropW hact⟩ (Bool.or_true _)
  case xdrop => exact hc _ ⟨hlt.clear (Bool.or_true _), rfl, rfl, hpa.must⟩ (Bool.or_true _)
  case tfire => exact hc _ ⟨hlt.close rfl, rfl, rfl, hpa⟩ rfl
  case clone => exact hc _ ⟨hlt, rfl, rfl, hpa⟩ rfl
  case closed =>
    simp only
    split
    · exact holds_error
    rename_i b hb
    simp only [holds_ite, holds_error, implies_true, true_and]
    exact fun _ => ⟨fun hbt => hc _ ⟨hlt.close rfl, rfl, rfl, hpa⟩ (by simp [closes, known, hb, hbt]),
      fun hbf => hc _ ⟨hlt, rfl, rfl, hpa⟩ (by simp [closes, hb, hbf])⟩
  case shut =>
    simp only
    split
    · exact holds_error
    rename_i b hb
    simp only [holds_ite, holds_error, implies_true, true_and]
    refine fun h1 => ⟨fun hbt _ => ?_, fun h2 => ?_⟩
    · obtain ⟨rfl, -⟩ := Bool.and_eq_true_iff.1 hbt
      exact hc _ ⟨hlt.close rfl, rfl, rfl, hpa.must⟩ (by simp [closes, known, hb])
    · -- neither `!b && known o` nor `b && !known o`: the answer says what the oracle knew
      refine hc _ ⟨hlt, rfl, rfl, hpa⟩ ?_
      show known o = (r.bool? == some true || known o)
      rw [hb]
      generalize known o = kn at h1 h2 ⊢
      cases b <;> cases kn <;> simp at h1 h2 ⊢

theorem led_init (k : Nat) : Led k { locs := List.replicate k [] } { locs := List.replicate k [] } :=
  ⟨⟨rfl, ⟨[], fun _ => rfl⟩, fun _ _ => rfl⟩, rfl, rfl, ⟨List.nodup_nil, fun _ hw => absurd hw List.not_mem_nil, fun hp => absurd rfl hp⟩⟩

def isParkEv : Ev → SExp → Bool
  | .pop _, .atom "park" | .wake _, .atom "park" => true
  | _, _ => false

/-- a worker went to sleep although, no stop being known, a job handed in had not been handed out -/
def sleptOnJobs : Ledger → Bool → List Ev → List SExp → Bool
  | l, c, e :: es, r :: rs =>
    (isParkEv e r && !c && !(l.pushed.isPerm l.popped)) || sleptOnJobs (ledgerStep l e r) (c || closes e r) es rs
  | _, _, _, _ => false

theorem opop_park_market {k o w isWake cont} :
    (opop k o w isWake (.atom "park") cont).Holds fun _ => o.market = [] := by
  unfold opop
  simp only [holds_ite, holds_error, implies_true, true_and]
  intro hm _ _ _ _ _
  simpa using hm

theorem park_market {k o e r cont} (hp : isParkEv e r = true) : (obody k o e r cont).Holds fun _ => o.market = [] := by
  unfold obody
  split
  · exact holds_error
  unfold isParkEv at hp
  split at hp
  · exact opop_park_market
  · exact opop_park_market
  · cases hp

theorem led_run {k : Nat} (evs : List Ev) : ∀ (rs : List SExp) (l : Ledger) (o : Obs), Led k l o →
    (oracleR k o evs rs).Holds fun of => Led k (ledger l evs rs) of ∧ (noClose evs rs = true → known of = known o) ∧
      sleptOnJobs l (known o) evs rs = false := by
  induction evs with
  | nil =>
    intro rs l o h
    cases rs with
    | nil => exact holds_ok.2 ⟨h, fun _ => rfl, rfl⟩
    | cons r rs => exact holds_error
  | cons e es ih =>
    intro rs l o h
    cases rs with
    | nil => exact holds_error
    | cons r rs =>
      rw [oracle_cons]
      -- `led_step` hands on what it learns of the next state only: the sleeper's check is read off the accepted step first
      intro of ho
      have hm : isParkEv e r = true → o.market = [] := fun hp => park_market hp of ho
      revert of
      refine led_step h fun o' h2 h3 => (ih rs _ o' h2).mono fun of ⟨h4, h5, h6⟩ => ?_
      refine ⟨h4, fun hn => ?_, ?_⟩
      · unfold noClose at hn
        simp only [Bool.and_eq_true, Bool.not_eq_true'] at hn
        rw [h5 hn.2, h3, hn.1]
        rfl
      · rw [h3, Bool.or_comm] at h6
        simp only [sleptOnJobs, h6, Bool.or_false]
        cases hp : isParkEv e r with
        | false => rfl
        | true =>
          cases hk : known o with
          | true => rfl
          | false =>
            -- the sleeper passed the check `market = []`, and with no stop known no job is lost
            have hcnt := h.lt.consOpen hk
            have : l.pushed.Perm l.popped := by
              rw [List.perm_iff_count]
              intro t
              have := hcnt t
              rw [hm hp] at this
              simpa using this
            simp [List.isPerm_iff.2 this]

end SR.C05Oracle
