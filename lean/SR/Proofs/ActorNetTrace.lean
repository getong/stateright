import SR.Proofs.ActorNet
/-! What a network offers for delivery (`Net.isHead`, `mem_iterDeliverable`); single network operations (counts, queues,
canonical form, kind), the `iter_all` state machine, runs over op sequences, `Net.count` as the multiplicity in `contents`; at
the end, for the ordered kind, the keys of the flow map stay sorted along runs (`Net.Sorted`, `sorted_run`). -/
namespace SR.Actor
open Net

/-- `e` is what the network kind allows to be delivered next: present (duplicating), a copy left
(non-duplicating), head of its flow (ordered) -/
def Net.isHead (n : Net) (e : Env) : Prop :=
  match n with
  | .dup set _ => e ∈ set
  | .nondup ms => ∃ c, alookup e ms = some c
  | .ord flows => ∃ q, alookup (e.src, e.dst) flows = some q ∧ q.head? = some e.msg

/-- `flowOf` stands in what the trace functions of `Props/C07.lean` and the queues of `Props/C06.lean` meet: `queue_send`,
    `ord_remove`, `env_eq_iff`, whose proofs unfold it.  The model files, `isHead` and the lemmas about `removeOne` and
    `contents` write the pair out. -/
def flowOf (e : Env) : Nat × Nat := (e.src, e.dst)

theorem mem_iterDeliverable {n : Net} (hc : n.Canon) (e : Env) : e ∈ n.iterDeliverable ↔ n.isHead e := by
  cases n with
  | dup set last => exact Iff.rfl
  | nondup ms =>
    show e ∈ ms.map (·.1) ↔ ∃ c, alookup e ms = some c
    rw [← Option.ne_none_iff_exists', Ne, alookup_eq_none, Classical.not_not]
  | ord flows =>
    simp only [iterDeliverable, isHead, List.mem_filterMap, Option.map_eq_some_iff]
    constructor
    · rintro ⟨⟨⟨s, d⟩, q⟩, hp, m, hh, rfl⟩
      exact ⟨q, alookup_of_mem_nodup hc.2 hp, hh⟩
    · rintro ⟨q, h, hh⟩
      exact ⟨((e.src, e.dst), q), alookup_mem h, e.msg, hh, rfl⟩

theorem isHead_nondup_iff {ms : List (Env × Nat)} (hc : (Net.nondup ms).Canon) (e : Env) :
    (Net.nondup ms).isHead e ↔ 0 < (Net.nondup ms).count e := by
  simp only [Net.isHead, Net.count]
  constructor
  · rintro ⟨c, hl⟩
    have := hc.1 _ (alookup_mem hl)
    rw [hl]
    exact this
  · intro hp
    cases hl : alookup e ms with
    | none =>
      rw [hl] at hp
      simp at hp
    | some c => exact ⟨c, rfl⟩

theorem nodup_flows_iterDeliverable {n : Net} (hc : n.Canon) (ho : n.isOrdered = true) :
    (n.iterDeliverable.map flowOf).Nodup := by
  cases n with
  | ord flows =>
    refine List.Sublist.nodup ?_ hc.2
    simp only [iterDeliverable]
    clear hc ho
    induction flows with
    | nil => exact .slnil
    | cons p fl ih =>
      rw [List.filterMap_cons]
      cases p.2.head? with
      | none => exact ih.cons _
      | some m => exact ih.cons_cons _
  | _ => cases ho

theorem nodup_iterDeliverable {n : Net} (hc : n.Canon) : n.iterDeliverable.Nodup := by
  cases n with
  | dup set last => exact hc
  | nondup ms => exact hc.2
  | ord flows =>
    exact List.Pairwise.of_map flowOf (fun _ _ h e => h (congrArg flowOf e)) (nodup_flows_iterDeliverable hc rfl)

theorem removeOne_nondup {ms : List (Env × Nat)} {e : Env} {n1 : Net} :
    (Net.nondup ms).removeOne e = some n1 ↔
      ∃ c, alookup e ms = some (c + 1) ∧ n1 = .nondup (if 0 < c then aset e c ms else aremove e ms) := by
  simp only [removeOne]
  -- the code branches on the count: absent / 0 (panic), 1 (removed), ≥ 2 (decremented)
  cases alookup e ms with
  | none => simp
  | some c =>
    cases c with
    | zero => simp
    | succ c => cases c <;> simp [eq_comm]

theorem removeOne_ord {flows : List ((Nat × Nat) × List Nat)} {e : Env} {n1 : Net}
    (h : (Net.ord flows).removeOne e = some n1) :
    ∃ q i, alookup (e.src, e.dst) flows = some q ∧
      n1 = .ord (if 1 < q.length then aset (e.src, e.dst) (q.eraseIdx i) flows else aremove (e.src, e.dst) flows) := by
  simp only [removeOne] at h
  split at h
  · cases h
  · rename_i q hq
    split at h
    · cases h
    · rename_i i _
      refine ⟨q, i, hq, ?_⟩
      split at h <;> cases h <;> simp [*]

theorem removeOne_head {flows : List ((Nat × Nat) × List Nat)} {e : Env} {t : List Nat}
    (hq : alookup (e.src, e.dst) flows = some (e.msg :: t)) :
    (Net.ord flows).removeOne e =
      some (.ord (if 1 < (e.msg :: t).length then aset (e.src, e.dst) t flows else aremove (e.src, e.dst) flows)) := by
  simp only [removeOne, hq, List.idxOf?_cons, beq_self_eq_true, if_true, List.eraseIdx_zero]
  split <;> rfl

theorem remove_isSome {n : Net} (hc : n.Canon) {e : Env} (hh : n.isHead e) :
    (n.onDeliver e).isSome ∧ (n.onDrop e).isSome := by
  cases n with
  | dup set last => exact ⟨rfl, rfl⟩
  | nondup ms =>
    obtain ⟨c, hl⟩ := hh
    obtain ⟨c, rfl⟩ : ∃ c', c = c' + 1 := ⟨c - 1, by have := hc.1 _ (alookup_mem hl); omega⟩
    simp [onDeliver, onDrop, removeOne_nondup.2 ⟨c, hl, rfl⟩]
  | ord flows =>
    obtain ⟨q, hq, hhd⟩ := hh
    obtain ⟨t, rfl⟩ := List.head?_eq_some_iff.1 hhd
    simp [onDeliver, onDrop, removeOne_head hq]

theorem canon_send {n : Net} (hc : n.Canon) (e : Env) : (n.send e).Canon := by
  cases n with
  | dup set last => exact nodup_sins _ _ _ hc
  | nondup ms => exact MapOk.ainsert (P := (1 ≤ ·)) hc _ _ (Nat.le_add_left 1 _)
  | ord flows => exact MapOk.ainsert (P := (· ≠ [])) hc _ _ (by simp)

theorem canon_removeOne {n n' : Net} (hc : n.Canon) {e : Env} (h : n.removeOne e = some n') : n'.Canon := by
  cases n with
  | dup set last => cases h; exact hc
  | nondup ms =>
    obtain ⟨c, _, rfl⟩ := removeOne_nondup.1 h
    split
    · exact MapOk.aset (P := (1 ≤ ·)) hc _ ‹0 < c›
    · exact MapOk.aremove (P := (1 ≤ ·)) hc _
  | ord flows =>
    obtain ⟨q, i, _, rfl⟩ := removeOne_ord h
    split
    · refine MapOk.aset (P := (· ≠ [])) hc _ (fun he => ?_)
      have := congrArg List.length he
      rw [List.length_eraseIdx, List.length_nil] at this
      split at this <;> omega
    · exact MapOk.aremove (P := (· ≠ [])) hc _

theorem canon_apply {n n' : Net} (hc : n.Canon) {op : NetOp} (h : n.apply op = some n') : n'.Canon := by
  cases op with
  | send e => cases h; exact canon_send hc e
  | deliver e =>
    cases n with
    | dup set last => cases h; exact hc
    | _ => exact canon_removeOne hc h
  | drop e =>
    cases n with
    | dup set last => cases h; exact hc.filter _
    | _ => exact canon_removeOne hc h

theorem run_cons {n n' : Net} {op : NetOp} {ops : List NetOp} :
    Net.run n (op :: ops) = some n' ↔
      n.valid op = true ∧ ∃ n1, n.apply op = some n1 ∧ Net.run n1 ops = some n' := by
  simp only [Net.run]
  by_cases hv : n.valid op = true
  · simp [hv, Option.bind_eq_some_iff]
  · simp [hv]

theorem canon_run {n n' : Net} (hc : n.Canon) {ops : List NetOp} (h : Net.run n ops = some n') : n'.Canon := by
  induction ops generalizing n with
  | nil => cases h; exact hc
  | cons op ops ih =>
    obtain ⟨_, n1, h1, h2⟩ := run_cons.1 h
    exact ih (canon_apply hc h1) h2

def sameKind : Net → Net → Prop
  | .dup _ _, .dup _ _ => True
  | .nondup _, .nondup _ => True
  | .ord _, .ord _ => True
  | _, _ => False

theorem sameKind_refl (n : Net) : sameKind n n := by cases n <;> trivial

theorem sameKind_trans {a b c : Net} (h1 : sameKind a b) (h2 : sameKind b c) : sameKind a c := by
  cases a <;> cases b <;> cases c <;> simp_all [sameKind]

theorem sameKind_send (n : Net) (e : Env) : sameKind n (n.send e) := by cases n <;> trivial

theorem sameKind_apply {n n' : Net} {op : NetOp} (h : n.apply op = some n') : sameKind n n' := by
  cases op with
  | send e => cases h; exact sameKind_send n e
  | deliver e | drop e =>
    cases n with
    | dup set last => cases h; trivial
    | nondup ms => obtain ⟨_, _, rfl⟩ := removeOne_nondup.1 h; trivial
    | ord fl => obtain ⟨_, _, _, rfl⟩ := removeOne_ord h; trivial

theorem sameKind_run {n n' : Net} {ops : List NetOp} (h : Net.run n ops = some n') : sameKind n n' := by
  induction ops generalizing n with
  | nil => cases h; exact sameKind_refl _
  | cons op ops ih =>
    obtain ⟨_, n1, h1, h2⟩ := run_cons.1 h
    exact sameKind_trans (sameKind_apply h1) (ih h2)

theorem sameKind_isOrdered {a b : Net} (h : sameKind a b) : a.isOrdered = b.isOrdered := by
  cases a <;> cases b <;> simp_all [sameKind, Net.isOrdered]

namespace AllIt

/-- the share of `Net.Canon` in what the iterator has not visited yet: an active count of 0 would still yield its envelope,
    an empty queue would end the iteration before `items` is exhausted -/
def Ok : AllIt → Prop
  | .dup _ => True
  | .nondup active rest => (∀ e c, active = some (e, c) → 1 ≤ c) ∧ ∀ p ∈ rest, 1 ≤ p.2
  | .ord _ rest => ∀ p ∈ rest, p.2 ≠ []

theorem ordNext_spec {rest : List ((Nat × Nat) × List Nat)} (hok : ∀ p ∈ rest, p.2 ≠ []) :
    match ordNext rest with
    | none => (AllIt.ord none rest).items = []
    | some (e, it') => (AllIt.ord none rest).items = e :: it'.items ∧ it'.Ok := by
  cases rest with
  | nil => rfl
  | cons p r =>
    obtain ⟨⟨s, d⟩, msgs⟩ := p
    cases msgs with
    | nil => exact absurd rfl (hok _ List.mem_cons_self)
    | cons m ms => exact ⟨by simp [items], fun p hp => hok p (List.mem_cons_of_mem _ hp)⟩

theorem next_spec {it : AllIt} (hok : it.Ok) :
    match it.next with
    | none => it.items = []
    | some (e, it') => it.items = e :: it'.items ∧ it'.Ok := by
  -- either way a count `k + 1` is opened or continued, and `k` copies stay active
  have key : ∀ (e : Env) (k : Nat) (r : List (Env × Nat)), (∀ p ∈ r, 1 ≤ p.2) →
      (AllIt.nondup (some (e, k + 1)) r).items = e :: (AllIt.nondup (if k = 0 then none else some (e, k)) r).items ∧
      (AllIt.nondup (if k = 0 then none else some (e, k)) r).Ok := by
    intro e k r hr
    refine ⟨?_, fun _ _ hh => ?_, hr⟩
    · cases k <;> rfl
    · split at hh <;> cases hh
      omega
  fun_cases next it
  -- `dup`: nothing left; something left
  · rfl
  · exact ⟨rfl, trivial⟩
  -- `nondup`: a count is active; none is and nothing is left; none is and the next entry is opened
  · rename_i e c rest
    obtain ⟨k, rfl⟩ : ∃ k, c = k + 1 := ⟨c - 1, by have := hok.1 e c rfl; omega⟩
    exact key e k rest hok.2
  · rfl
  · rename_i e c rest
    obtain ⟨k, rfl⟩ : ∃ k, c = k + 1 := ⟨c - 1, by have := hok.2 _ List.mem_cons_self; omega⟩
    have := key e k rest (fun p hp => hok.2 p (List.mem_cons_of_mem _ hp))
    cases k <;> exact this
  -- `ord`: the active flow has a message at `i`; it is exhausted, so nothing of it is left and the answer is
  -- `ordNext rest`; no flow is active
  · rename_i s d msgs i rest m hg
    obtain ⟨hlt, rfl⟩ := List.getElem?_eq_some_iff.1 hg
    refine ⟨?_, hok⟩
    simp only [items]
    rw [List.drop_eq_getElem_cons hlt]
    rfl
  · rename_i s d msgs i rest hg
    rw [show (AllIt.ord (some (s, d, msgs, i)) rest).items = (AllIt.ord none rest).items by
      simp [items, List.drop_of_length_le (List.getElem?_eq_none_iff.1 hg)]]
    exact ordNext_spec hok
  · exact ordNext_spec hok

theorem drain_eq_items (fuel : Nat) (it : AllIt) (hok : it.Ok) (h : it.items.length < fuel) :
    drain fuel it = it.items := by
  induction fuel generalizing it with
  | zero => omega
  | succ fuel ih =>
    unfold drain
    have hs := next_spec hok
    cases hn : it.next with
    | none => rw [hn] at hs; simp [hs]
    | some p =>
      rw [hn] at hs
      rw [hs.1] at h ⊢
      simp only
      rw [ih p.2 hs.2 (by simpa using h)]

end AllIt

theorem len_eq_contents_length (n : Net) : n.len = n.contents.length := by
  cases n with
  | dup set last => rfl
  | nondup ms => simp only [len, contents, List.length_flatMap, List.length_replicate]
  | ord flows => simp only [len, contents, List.length_flatMap, List.length_map]

theorem iterStart_items (n : Net) : n.iterStart.items = n.contents := by
  cases n <;> simp [iterStart, AllIt.items, contents]

theorem iterStart_ok {n : Net} (hc : n.Canon) : n.iterStart.Ok := by
  cases n with
  | dup set last => trivial
  | nondup ms => exact ⟨fun _ _ h => (by cases h), hc.1⟩
  | ord flows => exact hc.1

theorem iterAll_eq_contents {n : Net} (hc : n.Canon) : n.iterAll = n.contents := by
  unfold Net.iterAll
  rw [AllIt.drain_eq_items _ _ (iterStart_ok hc), iterStart_items]
  rw [iterStart_items, len_eq_contents_length]
  omega

/-- Both maps read an absent key as a default `z` (`0`, `[]`); `removeOne` overwrites the entry of `k`, or removes it
when the new value is `z`. `c` is the code's test for "overwrite" (`0 < c`, `1 < q.length`); only `hz` matters of it. -/
theorem getD_alookup_aset_or_aremove {κ β : Type} [DecidableEq κ] {z v' : β} {c : Prop} [Decidable c]
    (hz : ¬ c → v' = z) {k : κ} {v : β} {l : List (κ × β)} (hv : alookup k l = some v) (k' : κ) :
    (alookup k' (if c then aset k v' l else aremove k l)).getD z =
      if k' = k then v' else (alookup k' l).getD z := by
  by_cases hc : c
  · by_cases h : k' = k <;> simp [hc, alookup_aset, h, hv]
  · by_cases h : k' = k <;> simp [hc, alookup_aremove, h, hz hc]

theorem queue_send (flows : List ((Nat × Nat) × List Nat)) (e : Env) (f : Nat × Nat) :
    ((Net.ord flows).send e).queue f =
      (Net.ord flows).queue f ++ if flowOf e = f then [e.msg] else [] := by
  simp only [Net.send, Net.queue, alookup_ainsert, flowOf]
  by_cases h : f = (e.src, e.dst)
  · simp [h]
  · simp [h, Ne.symm h]

theorem ord_remove {flows : List ((Nat × Nat) × List Nat)} {e : Env} {n1 : Net}
    (hh : (Net.ord flows).isHead e) (h : (Net.ord flows).removeOne e = some n1) :
    ∀ f, (Net.ord flows).queue f = (if flowOf e = f then [e.msg] else []) ++ n1.queue f := by
  obtain ⟨q, hq, hhd⟩ := hh
  obtain ⟨t, rfl⟩ := List.head?_eq_some_iff.1 hhd
  rw [removeOne_head hq] at h
  cases h
  intro f
  have ht : ¬ 1 < (e.msg :: t).length → t = [] := fun h =>
    List.eq_nil_of_length_eq_zero (by simp only [List.length_cons] at h; omega)
  simp only [Net.queue, getD_alookup_aset_or_aremove ht hq f]
  by_cases hf : f = (e.src, e.dst)
  · simp [hf, hq, flowOf]
  · simp [hf, Ne.symm hf, flowOf]

theorem count_send (ms : List (Env × Nat)) (e' e : Env) :
    ((Net.nondup ms).send e').count e = (Net.nondup ms).count e + if e = e' then 1 else 0 := by
  simp only [Net.send, Net.count, alookup_ainsert]
  by_cases h : e = e' <;> simp [h]

theorem apply_of_valid {n : Net} (hc : n.Canon) {op : NetOp} (hv : n.valid op = true) : ∃ n', n.apply op = some n' := by
  cases op with
  | send e => exact ⟨_, rfl⟩
  | deliver e => exact Option.isSome_iff_exists.1 (remove_isSome hc ((mem_iterDeliverable hc e).1 (of_decide_eq_true hv))).1
  | drop e => exact Option.isSome_iff_exists.1 (remove_isSome hc ((mem_iterDeliverable hc e).1 (of_decide_eq_true hv))).2

theorem run_append' (a b : List NetOp) : ∀ n : Net, Net.run n (a ++ b) = (Net.run n a).bind (fun n' => Net.run n' b) := by
  induction a with
  | nil =>
    intro n
    simp [Net.run]
  | cons op a ih =>
    intro n
    simp only [List.cons_append, Net.run]
    by_cases hv : n.valid op = true
    · simp only [hv, if_true]
      cases n.apply op with
      | none => rfl
      | some n1 =>
        simp only [Option.bind_some]
        exact ih n1
    · simp [hv]

theorem run_append_some {n₀ n n' : Net} {a b : List NetOp} (ha : Net.run n₀ a = some n) (hb : Net.run n b = some n') :
    Net.run n₀ (a ++ b) = some n' := by
  rw [run_append', ha]
  exact hb

theorem run_initial (n₀ : Net) (envs : List Env) (ops : List NetOp) :
    Net.run n₀ (envs.map NetOp.send ++ ops) = Net.run (envs.foldl Net.send n₀) ops := by
  induction envs generalizing n₀ with
  | nil => rfl
  | cons e es ih =>
    simp only [List.map_cons, List.cons_append, Net.run, Net.valid, Net.apply, if_true, Option.bind_some, List.foldl_cons]
    exact ih _

theorem env_eq_iff (x e : Env) : x = e ↔ flowOf e = flowOf x ∧ e.msg = x.msg := by
  cases x
  cases e
  simp [flowOf, eq_comm, and_assoc]

theorem count_map_env (s d : Nat) (q : List Nat) (e : Env) :
    (q.map (fun m => (⟨s, d, m⟩ : Env))).count e = if (s, d) = (e.src, e.dst) then q.count e.msg else 0 := by
  obtain ⟨s', d', m'⟩ := e
  induction q with
  | nil => simp
  | cons m ms ih =>
    simp only [List.map_cons, List.count_cons, ih, beq_iff_eq, Env.mk.injEq, Prod.mk.injEq]
    -- cases on `s = s'`, `d = d'`, `m = m'`
    grind

theorem count_flatMap_alookup {κ β : Type} [DecidableEq κ] {l : List (κ × β)} (hk : (l.map (·.1)).Nodup)
    (g : κ × β → List Env) (k : κ) (e : Env) (hg : ∀ p : κ × β, p.1 ≠ k → (g p).count e = 0) :
    (l.flatMap g).count e = ((alookup k l).map fun v => (g (k, v)).count e).getD 0 := by
  induction l with
  | nil => rfl
  | cons p l ih =>
    have hk := List.nodup_cons.1 hk
    rw [List.flatMap_cons, List.count_append, ih hk.2, alookup]
    by_cases h : k = p.1
    · simp [h, alookup_eq_none.2 hk.1]
    · simp [h, hg p (Ne.symm h)]

theorem count_contents {n : Net} (hc : n.Canon) (e : Env) : n.contents.count e = n.count e := by
  cases n with
  | dup set last => exact hc.count
  | nondup ms =>
    rw [contents, count_flatMap_alookup hc.2 _ e e (fun p hp => by simp [List.count_replicate, hp])]
    simp only [Net.count]
    cases alookup e ms <;> simp
  | ord flows =>
    rw [contents, count_flatMap_alookup hc.2 _ (e.src, e.dst) e (fun p hp => by simp [count_map_env, hp])]
    simp only [Net.count]
    cases alookup (e.src, e.dst) flows <;> simp [count_map_env]

theorem count_removeOne {n n' : Net} {e : Env} (hd : n.isDup = false) (hh : n.isHead e)
    (h : n.removeOne e = some n') (x : Env) : n'.count x + (if x = e then 1 else 0) = n.count x := by
  cases n with
  | dup set last => cases hd
  | nondup ms =>
    obtain ⟨c, hc, rfl⟩ := removeOne_nondup.1 h
    have hz : ¬ 0 < c → c = 0 := by omega
    simp only [Net.count, getD_alookup_aset_or_aremove hz hc x]
    by_cases he : x = e
    · simp [he, hc]
    · simp [he]
  | ord flows =>
    have := congrArg (List.count x.msg) (ord_remove hh h (flowOf x))
    rw [List.count_append] at this
    obtain ⟨_, _, _, rfl⟩ := removeOne_ord h
    show ((Net.ord _).queue (flowOf x)).count x.msg + _ = ((Net.ord flows).queue (flowOf x)).count x.msg
    rw [this, Nat.add_comm]
    simp only [env_eq_iff x e]
    by_cases hf : flowOf e = flowOf x
    · by_cases hm : e.msg = x.msg <;> simp [hf, hm]
    · simp [hf]

theorem count_apply {n n' : Net} (hc : n.Canon) {op : NetOp} (hv : n.valid op = true) (h : n.apply op = some n')
    (x : Env) :
    match op with
    | .send _ => n.count x ≤ n'.count x
    | .deliver e => if n.isDup then n'.count x = n.count x else n'.count x + (if x = e then 1 else 0) = n.count x
    | .drop e => n'.count x + (if x = e then 1 else 0) = n.count x := by
  have hhead : ∀ e, decide (e ∈ n.iterDeliverable) = true → n.isHead e :=
    fun e hv => (mem_iterDeliverable hc e).1 (of_decide_eq_true hv)
  cases op with
  | send e =>
    cases h
    cases n with
    | dup set last =>
      simp only [Net.send, Net.count, mem_sins]
      by_cases h1 : x ∈ set <;> simp [h1]
    | nondup ms => exact count_send ms e x ▸ Nat.le_add_right _ _
    | ord flows =>
      show ((Net.ord flows).queue (flowOf x)).count x.msg ≤ (((Net.ord flows).send e).queue (flowOf x)).count x.msg
      rw [queue_send, List.count_append]
      exact Nat.le_add_right _ _
  | deliver e =>
    cases n with
    | dup set last => cases h; rfl
    | _ => exact count_removeOne rfl (hhead e hv) h x
  | drop e =>
    cases n with
    | dup set last =>
      cases h
      have hmem : e ∈ set := hhead e hv
      simp only [Net.count, mem_srem]
      by_cases h2 : x = e
      · simp [h2, hmem]
      · by_cases h1 : x ∈ set <;> simp [h1, h2]
    | _ => exact count_removeOne rfl (hhead e hv) h x

end SR.Actor

namespace SR.COracleRest
open SR SR.Actor

def KSorted (l : List (Nat × Nat)) : Prop := l.Pairwise (fun a b => pairLt a b = true)

/-- The ordered model network keeps the keys of its flow map sorted (the code's `BTreeMap`): an invariant of every run
    (`sorted_run`), beside `Net.Canon`.  It is what turns "the same flows" into "the same list" in `flatMap_flowsOf` of
    `Proofs/OracleRest.lean`. -/
def Net.Sorted : Net → Prop
  | .ord flows => KSorted (flows.map (·.1))
  | _ => True

theorem sorted_of_not_ordered {n : Net} (h : n.isOrdered = false) : Net.Sorted n := by
  cases n with
  | ord _ => cases h
  | _ => trivial

theorem sorted_apply {n n' : Net} {op : NetOp} (hs : Net.Sorted n) (h : n.apply op = some n') : Net.Sorted n' := by
  cases n with
  | ord flows =>
    cases op with
    | send e =>
      cases h
      exact sorted_keys_ainsert strictTotal_pairLt _ _ hs
    | deliver e | drop e =>
      obtain ⟨q, i, _, rfl⟩ := removeOne_ord h
      show KSorted _
      split
      · rwa [keys_aset]
      · exact hs.sublist (List.filter_sublist.map _)
  | _ => exact sorted_of_not_ordered ((sameKind_isOrdered (sameKind_apply h)).symm.trans rfl)

theorem sorted_run {h : List NetOp} {n n' : Net} (hs : Net.Sorted n) (hr : Net.run n h = some n') : Net.Sorted n' := by
  induction h generalizing n with
  | nil => cases hr; exact hs
  | cons op ops ih =>
    obtain ⟨_, n1, h1, h2⟩ := run_cons.1 hr
    exact ih (sorted_apply hs h1) h2

end SR.COracleRest
