import SR.Actor.Net
/-! The sorted-list sets and maps under the three networks; sorted insertion is a permutation of `cons`. -/
namespace SR.Actor

theorem sinsRaw_perm {α : Type} (lt : α → α → Bool) (a : α) (l : List α) : (sinsRaw lt a l).Perm (a :: l) := by
  induction l with
  | nil => exact .refl _
  | cons b l ih =>
    unfold sinsRaw
    split
    · exact .refl _
    · exact (ih.cons b).trans (.swap a b l)

theorem ainsRaw_eq_sinsRaw {κ β : Type} (lt : κ → κ → Bool) (k : κ) (v : β) (l : List (κ × β)) :
    ainsRaw lt k v l = sinsRaw (fun p q => lt p.1 q.1) (k, v) l := by
  induction l with
  | nil => rfl
  | cons p l ih => simp only [ainsRaw, sinsRaw, ih]

section sets
variable {α : Type} [DecidableEq α]

omit [DecidableEq α] in
theorem mem_sinsRaw (lt : α → α → Bool) (a x : α) (l : List α) :
    x ∈ sinsRaw lt a l ↔ x = a ∨ x ∈ l :=
  (sinsRaw_perm lt a l).mem_iff.trans List.mem_cons

theorem mem_sins (lt : α → α → Bool) (a x : α) (l : List α) : x ∈ sins lt a l ↔ x = a ∨ x ∈ l := by
  unfold sins
  split
  · exact ⟨Or.inr, fun h => h.elim (· ▸ ‹a ∈ l›) id⟩
  · exact mem_sinsRaw lt a x l

theorem mem_foldl_sins {lt : α → α → Bool} (es : List α) (l : List α) (x : α) :
    x ∈ es.foldl (fun acc a => sins lt a acc) l ↔ x ∈ l ∨ x ∈ es := by
  induction es generalizing l with
  | nil => simp
  | cons e es ih => rw [List.foldl_cons, ih, mem_sins, List.mem_cons, or_comm (a := x = e), or_assoc]

theorem mem_srem (a x : α) (l : List α) : x ∈ srem a l ↔ x ∈ l ∧ x ≠ a := by
  simp [srem, List.mem_filter]

theorem nodup_sins (lt : α → α → Bool) (a : α) (l : List α) (hn : l.Nodup) : (sins lt a l).Nodup := by
  unfold sins
  split
  · exact hn
  · exact (sinsRaw_perm lt a l).nodup_iff.2 (List.nodup_cons.2 ⟨‹_›, hn⟩)

/-! Sortedness is no part of `Net.Canon`, and nothing about `ActorSys` needs it.  It is what makes a sorted list THE list of
its members (`sorted_ext`), for the proofs that meet a model network built another way. -/

structure StrictTotal (lt : α → α → Bool) : Prop where
  irrefl : ∀ a, lt a a = false
  trans : ∀ a b c, lt a b = true → lt b c = true → lt a c = true
  total : ∀ a b, lt a b = false → a ≠ b → lt b a = true

def Sorted (lt : α → α → Bool) (l : List α) : Prop := l.Pairwise (fun a b => lt a b = true)

variable {lt : α → α → Bool}

omit [DecidableEq α] in
theorem sorted_sinsRaw (h : StrictTotal lt) {a : α} {l : List α} (hs : Sorted lt l)
    (ha : a ∉ l) : Sorted lt (sinsRaw lt a l) := by
  induction l with
  | nil => exact List.pairwise_singleton _ _
  | cons b l ih =>
    have hb := List.pairwise_cons.1 hs
    unfold sinsRaw
    split
    · rename_i hab
      refine List.pairwise_cons.2 ⟨?_, hs⟩
      intro x hx
      rcases List.mem_cons.1 hx with rfl | hx
      · exact hab
      · exact h.trans _ _ _ hab (hb.1 x hx)
    · rename_i hab
      have hba : lt b a = true := h.total a b (by simpa using hab) (fun e => ha (e ▸ List.mem_cons_self))
      refine List.pairwise_cons.2 ⟨?_, ih hb.2 (fun h' => ha (List.mem_cons_of_mem _ h'))⟩
      intro x hx
      rcases (mem_sinsRaw lt a x l).1 hx with rfl | hx
      · exact hba
      · exact hb.1 x hx

theorem sorted_sins (h : StrictTotal lt) (a : α) {l : List α} (hs : Sorted lt l) :
    Sorted lt (sins lt a l) := by
  unfold sins
  split
  · exact hs
  · exact sorted_sinsRaw h hs ‹_›

omit [DecidableEq α] in
theorem sorted_ext (h : StrictTotal lt) {l1 l2 : List α} (h1 : Sorted lt l1)
    (h2 : Sorted lt l2) (hm : ∀ x, x ∈ l1 ↔ x ∈ l2) : l1 = l2 := by
  have asymm : ∀ x y, lt x y = true → lt y x = true → False := fun x y hxy hyx => by
    have := h.trans _ _ _ hxy hyx
    rw [h.irrefl] at this
    cases this
  have nodup : ∀ {l}, Sorted lt l → l.Nodup := fun hl =>
    List.nodup_iff_pairwise_ne.2 (hl.imp fun {x y} hxy (e : x = y) => asymm x y hxy (e ▸ hxy))
  exact ((List.perm_ext_iff_of_nodup (nodup h1) (nodup h2)).2 hm).eq_of_pairwise
    (fun x y _ _ hxy hyx => (asymm x y hxy hyx).elim) h1 h2

theorem strictTotal_pairLt : StrictTotal pairLt := by
  refine ⟨fun a => ?_, fun a b c => ?_, fun a b => ?_⟩ <;>
    simp only [pairLt, Bool.or_eq_true, Bool.and_eq_true, decide_eq_true_eq, beq_iff_eq, Bool.or_eq_false_iff,
      Bool.and_eq_false_iff, decide_eq_false_iff_not, Ne, Prod.ext_iff, beq_eq_false_iff_ne] <;> omega

/-- `Env.lt` is lexicographic on `(src, dst, msg)`: unfolded, each law is linear arithmetic -/
theorem strictTotal_envLt : StrictTotal Env.lt := by
  constructor
  · intro a
    simp [Env.lt]
  · intro a b c
    obtain ⟨a1, a2, a3⟩ := a
    obtain ⟨b1, b2, b3⟩ := b
    obtain ⟨c1, c2, c3⟩ := c
    simp only [Env.lt, Bool.or_eq_true, Bool.and_eq_true, decide_eq_true_eq, beq_iff_eq]
    omega
  · intro a b
    obtain ⟨a1, a2, a3⟩ := a
    obtain ⟨b1, b2, b3⟩ := b
    simp only [Env.lt, Bool.or_eq_false_iff, Bool.and_eq_false_iff, Bool.or_eq_true, Bool.and_eq_true,
      decide_eq_true_eq, decide_eq_false_iff_not, beq_iff_eq, ne_eq, Env.mk.injEq, beq_eq_false_iff_ne]
    omega

end sets

section maps
variable {κ β : Type} [DecidableEq κ]

theorem alookup_eq_none {k : κ} {l : List (κ × β)} : alookup k l = none ↔ k ∉ l.map (·.1) := by
  induction l with
  | nil => simp [alookup]
  | cons p l ih =>
    by_cases h : k = p.1
    · simp [alookup, h]
    · simp [alookup, h, ih]

theorem alookup_mem {k : κ} {v : β} {l : List (κ × β)} (h : alookup k l = some v) : (k, v) ∈ l := by
  induction l with
  | nil => cases h
  | cons p l ih =>
    unfold alookup at h
    split at h
    · cases h
      exact ‹k = p.1› ▸ List.mem_cons_self
    · exact List.mem_cons_of_mem _ (ih h)

theorem alookup_of_mem_nodup {k : κ} {v : β} {l : List (κ × β)} (hn : (l.map (·.1)).Nodup) (h : (k, v) ∈ l) :
    alookup k l = some v := by
  induction l with
  | nil => cases h
  | cons p l ih =>
    have hn := List.nodup_cons.1 hn
    unfold alookup
    rcases List.mem_cons.1 h with h1 | h1
    · simp [← h1]
    · have : k ≠ p.1 := fun e => hn.1 (List.mem_map.2 ⟨(k, v), h1, e⟩)
      simp [this, ih hn.2 h1]

theorem alookup_aset (k k' : κ) (v : β) (l : List (κ × β)) :
    alookup k (aset k' v l) = if k = k' then (alookup k' l).map (fun _ => v) else alookup k l := by
  induction l with
  | nil => simp [aset, alookup]
  | cons p l ih =>
    unfold aset at ih ⊢
    simp only [List.map_cons, alookup]
    -- cases on `k = p.1`, `p.1 = k'`, `k = k'`
    grind

theorem alookup_aremove (k k' : κ) (l : List (κ × β)) :
    alookup k (aremove k' l) = if k = k' then none else alookup k l := by
  induction l with
  | nil => simp [aremove, alookup]
  | cons p l ih =>
    unfold aremove at ih ⊢
    simp only [List.filter_cons, alookup]
    -- cases on `p.1 = k'`, `k = p.1`, `k = k'`
    grind [alookup]

theorem alookup_ainsRaw (lt : κ → κ → Bool) (k k' : κ) (v : β) (l : List (κ × β)) (hk : alookup k' l = none) :
    alookup k (ainsRaw lt k' v l) = if k = k' then some v else alookup k l := by
  induction l with
  | nil => simp [ainsRaw, alookup]
  | cons p l ih =>
    simp only [ainsRaw, alookup] at hk ⊢
    -- cases on `lt k' p.1`, `k = k'`, `k = p.1`; `hk` excludes `k' = p.1`
    grind [alookup]

theorem alookup_ainsert (lt : κ → κ → Bool) (k k' : κ) (v : β) (l : List (κ × β)) :
    alookup k (ainsert lt k' v l) = if k = k' then some v else alookup k l := by
  unfold ainsert
  cases h : alookup k' l with
  | none => exact alookup_ainsRaw lt k k' v l h
  | some w => simp [alookup_aset, h]

theorem keys_aset (k : κ) (v : β) (l : List (κ × β)) : (aset k v l).map (·.1) = l.map (·.1) := by
  unfold aset
  rw [List.map_map]
  apply List.map_congr_left
  intro p _
  by_cases h : p.1 = k <;> simp [h]

omit [DecidableEq κ] in
theorem keys_ainsRaw (lt : κ → κ → Bool) (k : κ) (v : β) (l : List (κ × β)) :
    (ainsRaw lt k v l).map (·.1) = sinsRaw lt k (l.map (·.1)) := by
  induction l with
  | nil => rfl
  | cons p l ih =>
    simp only [ainsRaw, sinsRaw, List.map_cons]
    split
    · rfl
    · rw [List.map_cons, ih]

/-- the shape of `Net.Canon` on the two map representations (`P`: count ≥ 1, queue non-empty) -/
def MapOk (P : β → Prop) (l : List (κ × β)) : Prop := (∀ p ∈ l, P p.2) ∧ (l.map (·.1)).Nodup

theorem MapOk.aset {P : β → Prop} {l : List (κ × β)} (h : MapOk P l) (k : κ) {v : β} (hv : P v) :
    MapOk P (aset k v l) := by
  refine ⟨?_, (keys_aset k v l).symm ▸ h.2⟩
  intro p hp
  obtain ⟨q, hq, rfl⟩ := List.mem_map.1 hp
  split
  · exact hv
  · exact h.1 q hq

theorem MapOk.ainsert {P : β → Prop} {l : List (κ × β)} (h : MapOk P l) (lt : κ → κ → Bool) (k : κ) {v : β}
    (hv : P v) : MapOk P (ainsert lt k v l) := by
  unfold SR.Actor.ainsert
  split
  · exact h.aset k hv
  · have hp := ainsRaw_eq_sinsRaw lt k v l ▸ sinsRaw_perm _ (k, v) l
    refine ⟨fun p hp' => ?_, (hp.map _).nodup_iff.2 (List.nodup_cons.2 ⟨alookup_eq_none.1 ‹_›, h.2⟩)⟩
    rcases List.mem_cons.1 (hp.mem_iff.1 hp') with rfl | hl
    · exact hv
    · exact h.1 p hl

theorem sorted_keys_ainsert {lt : κ → κ → Bool} (h : StrictTotal lt) (k : κ) (v : β) {l : List (κ × β)}
    (hs : Sorted lt (l.map (·.1))) : Sorted lt ((ainsert lt k v l).map (·.1)) := by
  unfold ainsert
  split
  · rwa [keys_aset]
  · exact keys_ainsRaw lt k v l ▸ sorted_sinsRaw h hs (alookup_eq_none.1 ‹_›)

theorem MapOk.aremove {P : β → Prop} {l : List (κ × β)} (h : MapOk P l) (k : κ) : MapOk P (aremove k l) :=
  ⟨fun p hp => h.1 p (List.mem_filter.1 hp).1, (List.filter_sublist.map _).nodup h.2⟩

end maps

end SR.Actor
