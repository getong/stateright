import SR.Proofs.RuntimeAccept
import SR.Proofs.RuntimeRefines
import SR.Proofs.IdCodec
/-!
Projection of a run of the SYSTEM-level runtime (`SR/Runtime/System.lean`) onto one actor thread, as an event list
of the single-thread loop machine (`SR/Runtime/Loop.lean`), and the simulation argument: the projected events are
enabled steps of the loop machine and keep the loop state matched with thread `i`'s component of the system state (`Match`:
same actor state, interrupt tables equal up to lower bounds).
The converse: a schedule (`Blk`, `Sched`: the handler invocations of all threads along a common clock, every received
datagram sent before) whose per-thread event lists are runs of the loop machine is a run of the system, and projects back onto
those lists (`compose_run`).

Choices (the `Cfg` of the loop machine):
* messages are their own bytes: `ser m = some [m]`, `de [m] = some m` (anything else does not deserialise);
* ids are indices: thread `j` has socket address `addrOf j` (so `on_msg` sees `idOf (addrOf j) = j` for `j < 2^48`);
* `never` / `chooseSpan` the defaults (the constants `System.lean` uses);
* `pcfg i` is the acceptance machine (`strict = false`), `scfg i` the strict one;
* the model's `SetTimer t` has no range: it is the loop command `set t 0 never` (every duration below the horizon),
  so the pick `p` of the system label is the pick of the `exec` event (`0 + p % (never - 0) = p` as `now + p < never`).
-/
namespace SR.C17
open SR SR.Actor SR.RtSys SR.IdCodec

variable {σ η : Type}

abbrev LCmd := Loop.Cmd Nat Nat Nat
abbrev LEv (σ : Type) := Loop.Ev σ Nat Nat Nat
abbrev LSt (σ : Type) := Loop.St σ Nat Nat Nat

/-- a command of the handler tables as a `Command<Msg, Timer, Random>` of the loop machine -/
def trCmd : Cmd → LCmd
  | .send d m => .send d m
  | .setTimer t => .set t 0 never
  | .cancelTimer t => .cancel t
  | .chooseRandom k vals => .choose (toString k) vals

def deOne : Loop.Bytes → Option Nat
  | [m] => some m
  | _ => none

def pcfg (i : Nat) : Loop.Cfg Nat :=
  { id := i, ser := fun m => some [m], de := deOne, strict := false }

/-- the picks the `exec` events carry: the label's (`x = true`) or none, i.e. all `0` (`x = false`: what `Loop.expand`
re-inserts) -/
def pk (x : Bool) (p : List Nat) : List Nat := if x then p else []

def execEvs (now : Nat) : List Cmd → List Nat → List (LEv σ)
  | [], _ => []
  | _ :: cs, ps => .exec now (ps.headD 0) :: execEvs now cs ps.tail

/-- the handler event of thread `i` a system step stands for (with what the tables return), the commands it emits
and the picks of the label; `none`: the step is not a step of thread `i` (or the tables give no result) -/
def hdl (sys : ActorSys σ η) (i : Nat) (rs : RSt σ η) : Lbl → Option (LEv σ × List Cmd × List Nat)
  | .start j picks =>
    if j = i then
      some (.start rs.now ((sys.actor i).start i).1 (((sys.actor i).start i).2.map trCmd),
            ((sys.actor i).start i).2, picks)
    else none
  | .deliver e _ picks =>
    if e.dst = i then
      match rs.st i with
      | none => none
      | some s =>
        match (sys.actor i).msg i s e.src e.msg with
        | .panic => none
        | .ok ns cmds => some (.msg rs.now (addrOf e.src) [e.msg] s (ns.getD s) (cmds.map trCmd), cmds, picks)
    else none
  | .fire j k picks =>
    if j = i then
      match rs.st i with
      | none => none
      | some s =>
        match handlerK sys i s k with
        | .panic => none
        | .ok ns cmds => some (.fire rs.now k s (ns.getD s) (cmds.map trCmd), cmds, picks)
    else none
  | .lose _ => none
  | .tick _ => none

def projStep (sys : ActorSys σ η) (i : Nat) (x : Bool) (rs : RSt σ η) (l : Lbl) : List (LEv σ) :=
  match hdl sys i rs l with
  | none => []
  | some (hv, cmds, picks) => hv :: execEvs rs.now cmds (pk x picks)

def projFrom (sys : ActorSys σ η) (i : Nat) (x : Bool) : RSt σ η → List Lbl → List (LEv σ)
  | _, [] => []
  | rs, l :: ls =>
    projStep sys i x rs l ++ (match rstep sys rs l with
      | some rs' => projFrom sys i x rs' ls
      | none => [])

def scfg (i : Nat) : Loop.Cfg Nat :=
  { id := i, ser := fun m => some [m], de := deOne, strict := true }

/-- thread `i` is scheduled as the loop of spawn.rs does: a `fire` takes an entry with the MINIMUM deadline, strictly
overdue; a datagram is received only while every deadline is still ahead -/
def stepStrict (i : Nat) (rs : RSt σ η) : Lbl → Bool
  | .fire j k _ => j != i || (rs.ints i).any (fun en =>
      en.1 = k && en.2 < rs.now && (rs.ints i).all (fun e' => en.2 ≤ e'.2))
  | .deliver e _ _ => e.dst != i || (rs.ints i).all (fun en => rs.now < en.2)
  | _ => true

/-- `stepStrict i` at every step; a step that is not enabled ends the run -/
def StrictSched (sys : ActorSys σ η) (i : Nat) : RSt σ η → List Lbl → Bool
  | _, [] => true
  | rs, l :: ls => stepStrict i rs l && (match rstep sys rs l with
      | some rs' => StrictSched sys i rs' ls
      | none => true)

/-- THE PROJECTION of a system run (from `rinit sys`) onto thread `i`: its `start`, the `deliver`s addressed to it as
`msg` events from `addrOf src` with bytes `[msg]`, its `fire`s — each with the state / commands the handler tables
return — and after each of them one `exec` per emitted command at the same clock reading with the label's picks -/
def proj (sys : ActorSys σ η) (i : Nat) (ls : List Lbl) : List (LEv σ) := projFrom sys i true (rinit sys) ls

/-- what an instrumented actor `i` logs: the handler events only -/
def projLog (sys : ActorSys σ η) (i : Nat) (ls : List Lbl) : List (LEv σ) := (proj sys i ls).filter Loop.isHandler

section
variable {sys : ActorSys σ η} {i : Nat} {rs rs' : RSt σ η}

/-- `tcfg i false` is `pcfg i`, `tcfg i true` is `scfg i`, both by unfolding -/
def tcfg (i : Nat) (st : Bool) : Loop.Cfg Nat := { pcfg i with strict := st }

/-- the loop state `a` is thread `i` of `rs` between handlers; the tables agree up to lower bounds, and are equal in
the case `E`.  Used with `(st, E)` = `(false, NoRandom sys)` acceptance machine, `(true, True)` strict machine,
`(false, True)` the converse -/
structure Match (E : Prop) (i : Nat) (rs : RSt σ η) (a : LSt σ) : Prop where
  alive : a.dead = false
  queue : a.queue = []
  now : a.now ≤ rs.now
  st : a.st = rs.st i
  le : Loop.IntsLe (rs.ints i) a.ints
  eq : E → a.ints = rs.ints i

theorem execCmd_ints_le (i now p : Nat) (st : Bool) (c : Cmd) (L : Loc) (b : LSt σ) (h : Loop.IntsLe L.ints b.ints) :
    Loop.IntsLe (RtSys.execCmd i now L p c).ints (Loop.execCmd (tcfg i st) b (trCmd c) now p).ints := by
  cases c with
  | send d m => exact h
  | setTimer t =>
    simp only [RtSys.execCmd, trCmd, Loop.execCmd, if_pos never_pos, Nat.zero_add, Nat.sub_zero]
    exact h.setInt _ (Nat.add_le_add_left (Nat.mod_le _ _) _)
  | cancelTimer t => exact h.modInt _ (Nat.le_refl _)
  | chooseRandom key vals =>
    cases vals with
    | nil => exact h
    | cons v0 rest =>
      cases st with
      | true => exact h.setInt _ (Nat.le_refl _)
      | false =>
        -- the acceptance machine arms every candidate at `now`, unless an earlier bound is known
        exact h.choose (getD_mod_length_mem v0 rest p) (Nat.le_add_right _ _)

theorem execCmd_ints_eq (i now p : Nat) (st : Bool) (c : Cmd) (L : Loc) (b : LSt σ) (h : b.ints = L.ints)
    (hc : st = true ∨ isChoose c = false) (hp : p < never) :
    (Loop.execCmd (tcfg i st) b (trCmd c) now p).ints = (RtSys.execCmd i now L p c).ints := by
  cases c with
  | send d m => exact h
  | setTimer t =>
    simp only [RtSys.execCmd, trCmd, Loop.execCmd, if_pos never_pos, Nat.zero_add, Nat.sub_zero,
      Nat.mod_eq_of_lt hp, h]
  | cancelTimer t =>
    simp only [RtSys.execCmd, trCmd, Loop.execCmd, h]
    rfl
  | chooseRandom key vals =>
    cases vals with
    | nil => exact h
    | cons v0 rest =>
      obtain rfl : st = true := hc.resolve_right (by simp [isChoose])
      simp only [RtSys.execCmd, trCmd, Loop.execCmd, tcfg, if_true, h]
      rfl

theorem sim_execs [DecidableEq σ] (st : Bool) {E : Prop} (s' : σ) (last : Option Env) (hist : η) :
    ∀ (cmds : List Cmd) (p : List Nat) (L : Loc) (b : LSt σ),
      b.queue = cmds.map trCmd → b.dead = false → b.now = rs.now → b.st = some s' →
      Loop.IntsLe L.ints b.ints → (E → b.ints = L.ints) → (E → st = true ∨ NoChoose cmds) →
      picksOk rs.now p = true →
      ∃ b', Loop.run (tcfg i st) b (execEvs rs.now cmds p) = some b' ∧
        Match E i (finish rs i s' L.ints L.flight last hist cmds p) b' := by
  intro cmds
  induction cmds with
  | nil =>
    intro p L b hq hd hn hs hle heq _ _
    exact ⟨b, rfl, hd, hq, Nat.le_of_eq hn, by simp only [finish, upd, if_true, hs],
      by simpa only [finish, upd, if_true, execCmds] using hle,
      by simpa only [finish, upd, if_true, execCmds] using heq⟩
  | cons c cs ih =>
    intro p L b hq hd hn hs hle heq hnc hp
    have hstep : Loop.step (tcfg i st) b (.exec rs.now (p.headD 0)) = some _ :=
      Loop.step_exec_iff.2 ⟨_, _, hq, hd, Nat.le_of_eq hn, rfl⟩
    obtain ⟨f2, f4, f5, f6⟩ :=
      Loop.execCmd_frame (tcfg i st) { b with now := rs.now, queue := cs.map trCmd } (trCmd c) rs.now (p.headD 0)
    obtain ⟨hp1, _, hp2⟩ := picksOk_head_tail hp
    obtain ⟨b', hrun, hm⟩ := ih p.tail (RtSys.execCmd i rs.now L (p.headD 0) c) _ f4 (f6.trans hd) f5 (f2.trans hs)
      (execCmd_ints_le i rs.now _ st c L _ hle)
      (fun e => execCmd_ints_eq i rs.now _ st c L _ (heq e) ((hnc e).imp id (fun h => h c List.mem_cons_self)) hp1)
      (fun e => (hnc e).imp id NoChoose.tail) hp2
    -- `finish` of `c :: cs` from `L` unfolds to `finish` of `cs` from the `Loc` after `c`
    refine ⟨b', ?_, hm⟩
    simp only [execEvs, Loop.run, hstep]
    exact hrun

theorem hdl_deliver {e : Env} {keep : Bool} {picks : List Nat} {s : σ} {ns : Option σ} {cmds : List Cmd}
    (hs : rs.st e.dst = some s) (hres : (sys.actor e.dst).msg e.dst s e.src e.msg = .ok ns cmds) :
    hdl sys e.dst rs (.deliver e keep picks)
      = some (.msg rs.now (addrOf e.src) [e.msg] s (ns.getD s) (cmds.map trCmd), cmds, picks) := by
  simp [hdl, hs, hres]

theorem hdl_fire {k : Key} {picks : List Nat} {s : σ} {ns : Option σ} {cmds : List Cmd}
    (hs : rs.st i = some s) (hres : handlerK sys i s k = .ok ns cmds) :
    hdl sys i rs (.fire i k picks) = some (.fire rs.now k s (ns.getD s) (cmds.map trCmd), cmds, picks) := by
  simp [hdl, hs, hres]

/-- a `Random` interrupt never exists, so `on_random` never runs -/
theorem hdl_noChoose (hr : NoRandom sys) (hinv : RInv rs) {l : Lbl} (h : rstep sys rs l = some rs')
    {hv : LEv σ} {cmds : List Cmd} {picks : List Nat} (hh : hdl sys i rs l = some (hv, cmds, picks)) :
    NoChoose cmds := by
  revert hh
  fun_cases hdl sys i rs l
  all_goals
    intro hh
    cases hh
  -- `start`, `deliver`, `fire`: the branches of `hdl` that return something, the last test of each named
  next => exact hr.start i
  next hres => exact hr.msg _ _ _ _ _ _ hres
  next hres =>
    obtain ⟨_, _, _, _, hg, _⟩ := rstep_fire.1 h
    obtain ⟨t, rfl, _⟩ := overdue_armed hinv hg.2.1
    exact hr.timeout _ _ _ _ _ hres

theorem Match.congr {E : Prop} {a : LSt σ} (hm : Match E i rs a)
    (hn : rs.now ≤ rs'.now) (hs : rs'.st i = rs.st i) (hi : rs'.ints i = rs.ints i) : Match E i rs' a :=
  ⟨hm.alive, hm.queue, Nat.le_trans hm.now hn, hm.st.trans hs.symm, hi ▸ hm.le, fun e => (hm.eq e).trans hi.symm⟩

theorem Match.recvBranch {E : Prop} {a : LSt σ} (hm : Match E i rs a) (st : Bool) (hse : st = true → E)
    (hs : st = true → (rs.ints i).all (fun en => rs.now < en.2) = true) :
    Loop.recvBranch (tcfg i st) a = true := by
  cases st with
  | false => rfl
  | true =>
    have hf := hs rfl
    simp only [List.all_eq_true, decide_eq_true_eq] at hf
    simp only [Loop.recvBranch, Bool.or_eq_true, List.all_eq_true, decide_eq_true_eq, hm.eq (hse rfl)]
    exact Or.inr (fun en hen => Nat.lt_of_le_of_lt hm.now (hf en hen))

theorem Match.fireable {E : Prop} {a : LSt σ} (hm : Match E i rs a) (st : Bool) {k : Key}
    (hany : (rs.ints i).any (fun en => en.1 = k && en.2 < rs.now) = true) (hse : st = true → E)
    (hs : st = true → (rs.ints i).any (fun en =>
      en.1 = k && en.2 < rs.now && (rs.ints i).all (fun e' => en.2 ≤ e'.2)) = true) :
    Loop.fireable (tcfg i st) a k rs.now = true := by
  cases st with
  | false =>
    simp only [List.any_eq_true, Bool.and_eq_true, decide_eq_true_eq] at hany
    obtain ⟨⟨k0, d⟩, hin, rfl, hd⟩ := hany
    obtain ⟨d', h', hle⟩ := hm.le _ d hin
    simp only [Loop.fireable, List.any_eq_true, Bool.and_eq_true, decide_eq_true_eq]
    exact ⟨(k0, d'), h', ⟨rfl, Nat.lt_of_le_of_lt hle hd⟩, rfl⟩
  | true =>
    simp only [Loop.fireable, hm.eq (hse rfl), tcfg, Bool.not_true, Bool.false_or]
    exact hs rfl

/-- after the handler event (`b`: the loop state it leads to, `ints0`: the table `on_command` starts from) the `exec`s.
`E` is kept when `ChooseRandom` is executed as the system does, by the strict machine or not at all (`hnc`) -/
theorem sim_call [DecidableEq σ] (st : Bool) {E : Prop} {a b : LSt σ}
    {l : Lbl} {hv : LEv σ} {cmds : List Cmd} {picks : List Nat} {s' : σ} {ints0 : Ints}
    (hh : hdl sys i rs l = some (hv, cmds, picks)) (hb : Loop.step (tcfg i st) a hv = some b)
    (b1 : b.queue = cmds.map trCmd) (b2 : b.dead = false) (b3 : b.now = rs.now) (b4 : b.st = some s')
    (b5 : Loop.IntsLe ints0 b.ints) (b6 : E → b.ints = ints0) (hp : picksOk rs.now picks = true)
    (hnc : E → st = true ∨ ∀ hv cmds picks, hdl sys i rs l = some (hv, cmds, picks) → NoChoose cmds)
    (fl0 : List Env) (last : Option Env) (hist : η) :
    ∃ a', Loop.run (tcfg i st) a (projStep sys i true rs l) = some a' ∧
      Match E i (finish rs i s' ints0 fl0 last hist cmds picks) a' := by
  obtain ⟨a', hrun, hm⟩ := sim_execs st s' last hist cmds picks ⟨ints0, fl0⟩ b b1 b2 b3 b4 b5 b6
    (fun e => (hnc e).imp id (fun f => f _ _ _ hh)) hp
  refine ⟨a', ?_, hm⟩
  simp only [projStep, hh, Loop.run, hb]
  exact hrun

/-- the strict machine needs equal tables (`hse`) and the code's schedule (`hs`) -/
theorem sim_step [DecidableEq σ] (sys : ActorSys σ η) (i : Nat) (st : Bool) (E : Prop)
    {a : LSt σ} {l : Lbl} (hm : Match E i rs a) (h : rstep sys rs l = some rs') (hse : st = true → E)
    (hnc : E → st = true ∨ ∀ hv cmds picks, hdl sys i rs l = some (hv, cmds, picks) → NoChoose cmds)
    (hs : st = true → stepStrict i rs l = true) :
    ∃ a', Loop.run (tcfg i st) a (projStep sys i true rs l) = some a' ∧ Match E i rs' a' := by
  have other : ∀ {j : Nat} (s' : σ) (ints0 : Ints) (fl0 : List Env) (last : Option Env) (hist : η) (cmds : List Cmd)
      (picks : List Nat), j ≠ i → Match E i (finish rs j s' ints0 fl0 last hist cmds picks) a :=
    fun _ _ _ _ _ _ _ hj => hm.congr (Nat.le_refl _) (by simp [finish, upd, Ne.symm hj]) (by simp [finish, upd, Ne.symm hj])
  cases l with
  | tick t =>
    obtain ⟨hg, rfl⟩ := rstep_tick.1 h
    exact ⟨a, rfl, hm.congr hg.1 rfl rfl⟩
  | lose e =>
    obtain ⟨_, rfl⟩ := rstep_lose.1 h
    exact ⟨a, rfl, hm.congr (Nat.le_refl _) rfl rfl⟩
  | start j picks =>
    obtain ⟨hg, rfl⟩ := rstep_start.1 h
    by_cases hj : j = i
    · subst hj
      have hh : hdl sys j rs (.start j picks) = some _ := if_pos rfl
      exact sim_call st hh (Loop.step_start_iff.2 ⟨hm.alive, hm.st.trans hg.2.1, hm.queue, hm.now, rfl⟩)
        rfl hm.alive rfl rfl hm.le hm.eq hg.2.2 hnc _ _ _
    · exact ⟨a, by rw [projStep, hdl, if_neg hj]; rfl, other _ _ _ _ _ _ _ hj⟩
  | deliver e keep picks =>
    obtain ⟨s, ns, cmds, hs0, hg, hres, rfl⟩ := rstep_deliver.1 h
    by_cases hj : e.dst = i
    · subst hj
      have hrb := hm.recvBranch st hse (fun h => by simpa only [stepStrict, bne_self_eq_false, Bool.false_or] using hs h)
      exact sim_call st (hdl_deliver hs0 hres)
        (Loop.step_msg_iff.2 ⟨e.msg, rfl, hm.alive, hm.st.trans hs0, hm.queue, hm.now, hrb, rfl⟩)
        rfl hm.alive rfl rfl hm.le hm.eq hg.2.2 hnc _ _ _
    · exact ⟨a, by rw [projStep, hdl, if_neg hj]; rfl, other _ _ _ _ _ _ _ hj⟩
  | fire j k picks =>
    obtain ⟨s, ns, cmds, hs0, hg, hres, rfl⟩ := rstep_fire.1 h
    by_cases hj : j = i
    · subst hj
      have hfa := hm.fireable st hg.2.1 hse (fun h => by simpa only [stepStrict, bne_self_eq_false, Bool.false_or] using hs h)
      exact sim_call st (hdl_fire hs0 hres)
        (Loop.step_fire_iff.2 ⟨hm.alive, hm.st.trans hs0, hm.queue, hm.now, hfa, rfl⟩)
        rfl hm.alive rfl rfl (hm.le.eraseInt k) (fun e => congrArg (Loop.eraseInt · k) (hm.eq e)) hg.2.2 hnc _ _ _
    · exact ⟨a, by rw [projStep, hdl, if_neg hj]; rfl, other _ _ _ _ _ _ _ hj⟩

theorem Match.other [DecidableEq σ] {a : LSt σ} {l : Lbl}
    (hm : Match True i rs a) (h : rstep sys rs l = some rs') (hh : hdl sys i rs l = none) : Match True i rs' a := by
  obtain ⟨a', hr, hm'⟩ := sim_step sys i false True hm h nofun
    (fun _ => Or.inr (fun _ _ _ e => nomatch hh.symm.trans e)) nofun
  simp only [projStep, hh] at hr
  cases hr
  exact hm'

/-- in the hypothesis `E → st = true ∨ (NoRandom sys ∧ RInv rs0)`, `RInv` is there to know that no `Random` interrupt
exists -/
theorem sim_run [DecidableEq σ] (sys : ActorSys σ η) (i : Nat) (st : Bool) (E : Prop) (hse : st = true → E) :
    ∀ (ls : List Lbl) (rs0 rs : RSt σ η) (a0 : LSt σ), Match E i rs0 a0 →
      (E → st = true ∨ (NoRandom sys ∧ RInv rs0)) → rrun sys rs0 ls = some rs →
      (st = true → StrictSched sys i rs0 ls = true) →
      ∃ a, Loop.run (tcfg i st) a0 (projFrom sys i true rs0 ls) = some a ∧ Match E i rs a := by
  intro ls
  induction ls with
  | nil =>
    intro rs0 rs a0 hm _ h _
    cases h
    exact ⟨a0, rfl, hm⟩
  | cons l ls ih =>
    intro rs0 rs a0 hm hni h hs
    obtain ⟨rs1, hstep, h⟩ := rrun_cons.1 h
    have hs' : st = true → stepStrict i rs0 l = true ∧ StrictSched sys i rs1 ls = true := fun e => by
      simpa only [StrictSched, hstep, Bool.and_eq_true] using hs e
    obtain ⟨a1, hr1, hm1⟩ := sim_step sys i st E hm hstep hse
      (fun e => (hni e).imp id (fun hn _ _ _ => hdl_noChoose hn.1 hn.2 hstep)) (fun e => (hs' e).1)
    obtain ⟨a, hr2, hm2⟩ := ih rs1 rs a1 hm1 (fun e => (hni e).imp id (fun hn => ⟨hn.1, inv_step hn.1 hn.2 hstep⟩)) h
      (fun e => (hs' e).2)
    refine ⟨a, ?_, hm2⟩
    simp only [projFrom, hstep, Loop.run_append, hr1, Option.bind_some]
    exact hr2

theorem match_init (E : Prop) (sys : ActorSys σ η) (i : Nat) : Match E i (rinit sys) (Loop.init : LSt σ) :=
  ⟨rfl, rfl, Nat.le_refl _, rfl, fun _ _ h => (nomatch h), fun _ => rfl⟩

theorem execEvs_nil (now : Nat) (cmds : List Cmd) :
    (execEvs now cmds [] : List (LEv σ)) = cmds.map (fun _ => Loop.Ev.exec now 0) := by
  induction cmds with
  | nil => rfl
  | cons c cs ih => simp only [execEvs, List.tail_nil, List.headD_nil, ih, List.map_cons]

theorem filter_execEvs (now : Nat) (cmds : List Cmd) (ps : List Nat) :
    (execEvs now cmds ps : List (LEv σ)).filter Loop.isHandler = [] := by
  induction cmds generalizing ps with
  | nil => rfl
  | cons c cs ih => simp only [execEvs, List.filter_cons, Loop.isHandler, Bool.false_eq_true, if_false, ih]

theorem hdl_spec {l : Lbl} {hv : LEv σ} {cmds : List Cmd}
    {picks : List Nat} (hh : hdl sys i rs l = some (hv, cmds, picks)) :
    Loop.isHandler hv = true ∧ Loop.evCmds hv = cmds.map trCmd ∧ Loop.evTime hv = rs.now := by
  revert hh
  fun_cases hdl sys i rs l
  all_goals
    intro hh
    cases hh
  all_goals exact ⟨rfl, rfl, rfl⟩

theorem expand_projFrom (sys : ActorSys σ η) (i : Nat) : ∀ (ls : List Lbl) (rs : RSt σ η),
    Loop.expand ((projFrom sys i true rs ls).filter Loop.isHandler) = projFrom sys i false rs ls := by
  intro ls
  induction ls with
  | nil =>
    intro rs
    rfl
  | cons l ls ih =>
    intro rs
    have hrest : Loop.expand ((match rstep sys rs l with
          | some rs' => projFrom sys i true rs' ls
          | none => []).filter Loop.isHandler)
        = (match rstep sys rs l with
          | some rs' => projFrom sys i false rs' ls
          | none => []) := by
      cases rstep sys rs l with
      | none => rfl
      | some rs' => exact ih rs'
    simp only [projFrom, List.filter_append, projStep]
    cases hh : hdl sys i rs l with
    | none => simpa using hrest
    | some r =>
      obtain ⟨hv, cmds, picks⟩ := r
      obtain ⟨h1, h2, h3⟩ := hdl_spec hh
      simp only [List.filter_cons, h1, if_true, filter_execEvs, List.cons_append, List.nil_append, Loop.expand,
        hrest, h2, h3, pk, Bool.false_eq_true, if_false, execEvs_nil, List.map_map]
      rfl

theorem compose_step [DecidableEq σ] (sys : ActorSys σ η) (i : Nat) {a a' : LSt σ} {l : Lbl}
    {hv : LEv σ} {cmds : List Cmd} {picks : List Nat}
    (hm : Match True i rs a) (hh : hdl sys i rs l = some (hv, cmds, picks))
    (hrun : Loop.run (pcfg i) a (projStep sys i true rs l) = some a')
    (hi : i < sys.n) (hp : picksOk rs.now picks = true)
    (hfl : ∀ e keep pks, l = .deliver e keep pks → e ∈ rs.flight) (hnc : NoChoose cmds) :
    ∃ rs', rstep sys rs l = some rs' ∧ Match True i rs' a' ∧
      ((∀ e pks, l ≠ .deliver e false pks) → rs'.now = rs.now ∧ rs'.flight = rs.flight ++ sendsOf i cmds) := by
  obtain ⟨b, hb, _⟩ : ∃ b, Loop.step (pcfg i) a hv = some b ∧ _ := by
    simp only [projStep, hh] at hrun
    exact Loop.run_cons.1 hrun
  -- the loop's guards are the system's
  obtain ⟨rs', hr, hfl'⟩ : ∃ rs', rstep sys rs l = some rs' ∧
      ((∀ e pks, l ≠ .deliver e false pks) → rs'.now = rs.now ∧ rs'.flight = rs.flight ++ sendsOf i cmds) := by
    revert hh
    fun_cases hdl sys i rs l
    all_goals
      intro hh
      cases hh
    -- `start`, `deliver`, `fire`: the branches of `hdl` that return something, with its tests
    next =>
      obtain ⟨_, hst, _⟩ := Loop.step_start_iff.1 hb
      exact ⟨_, rstep_start.2 ⟨⟨hi, hm.st.symm.trans hst, hp⟩, rfl⟩,
        fun _ => ⟨rfl, by simp only [finish, execCmds_flight]⟩⟩
    next e keep hd s hs ns hres =>
      subst hd
      refine ⟨_, rstep_deliver.2 ⟨_, _, _, hs, ⟨hi, hfl e keep _ rfl, hp⟩, hres, rfl⟩, fun hk => ?_⟩
      cases keep with
      | true => exact ⟨rfl, by simp only [finish, execCmds_flight, if_true]⟩
      | false => exact absurd rfl (hk e _)
    next k s hs ns hres =>
      obtain ⟨_, _, _, _, hf, _⟩ := Loop.step_fire_iff.1 hb
      obtain ⟨d, hin, hd⟩ := Loop.fireable_overdue hf
      rw [hm.eq trivial] at hin
      have hany : (rs.ints i).any (fun en => en.1 = k && en.2 < rs.now) = true :=
        List.any_eq_true.2 ⟨(k, d), hin, by simpa using hd⟩
      exact ⟨_, rstep_fire.2 ⟨_, _, _, hs, ⟨hi, hany, hp⟩, hres, rfl⟩,
        fun _ => ⟨rfl, by simp only [finish, execCmds_flight]⟩⟩
  obtain ⟨a'', hr', hm'⟩ := sim_step sys i false True hm hr nofun
    (fun _ => Or.inr (fun _ _ _ e => by cases e.symm.trans hh; exact hnc)) nofun
  cases hrun.symm.trans hr'
  exact ⟨rs', hr, hm', hfl'⟩

end

/-- one scheduled handler invocation: the thread, the handler event as the thread logs it, the commands as the
tables emit them, the picks of its `exec`s -/
structure Blk (σ : Type) where
  i : Nat
  hv : LEv σ
  cmds : List Cmd
  picks : List Nat

def Blk.time (g : Blk σ) : Nat := Loop.evTime g.hv

def Blk.evs (g : Blk σ) : List (LEv σ) := g.hv :: execEvs g.time g.cmds g.picks

def evsOf (i : Nat) (gs : List (Blk σ)) : List (LEv σ) := gs.flatMap (fun g => if g.i = i then g.evs else [])

/-- the system step of the invocation (a received datagram stays in flight: duplication covers every matching) -/
def Blk.lbl (g : Blk σ) : Lbl :=
  match g.hv with
  | .start _ _ _ => .start g.i g.picks
  | .msg _ a b _ _ _ => .deliver ⟨idOf a, g.i, b.headD 0⟩ true g.picks
  | .fire _ k _ _ _ => .fire g.i k g.picks
  | _ => .tick 0  -- no handler event: `Conf` excludes it

def Blk.recv (g : Blk σ) : Option Env :=
  match g.hv with
  | .msg _ a b _ _ _ => some ⟨idOf a, g.i, b.headD 0⟩
  | _ => none

/-- the system run of a schedule: the clock is advanced to each invocation's time stamp -/
def lblsOf (gs : List (Blk σ)) : List Lbl := gs.flatMap (fun g => [.tick g.time, g.lbl])

/-- the actor behaves as the handler tables say (the loop machine treats the actor as its environment), datagrams
come from valid IPv4 addresses and are one number -/
def Conf (sys : ActorSys σ η) (g : Blk σ) : Prop :=
  match g.hv with
  | .start _ out lc =>
    out = ((sys.actor g.i).start g.i).1 ∧ g.cmds = ((sys.actor g.i).start g.i).2 ∧ lc = g.cmds.map trCmd
  | .msg _ a b stIn out lc =>
    a.Valid ∧ ∃ m ns, b = [m] ∧ (sys.actor g.i).msg g.i stIn (idOf a) m = .ok ns g.cmds ∧ out = ns.getD stIn ∧
      lc = g.cmds.map trCmd
  | .fire _ k stIn out lc =>
    ∃ ns, handlerK sys g.i stIn k = .ok ns g.cmds ∧ out = ns.getD stIn ∧ lc = g.cmds.map trCmd
  | _ => False

/-- a schedule from clock reading `t0` with the datagrams `S` sent so far: time stamps do not decrease and stay
below the horizon (so do the timer picks), the threads exist, the actors conform to the tables, no `ChooseRandom`,
and EVERY RECEIVED DATAGRAM WAS SENT by an earlier invocation -/
def Sched (sys : ActorSys σ η) : Nat → List Env → List (Blk σ) → Prop
  | _, _, [] => True
  | t0, S, g :: gs =>
    t0 ≤ g.time ∧ g.time < never ∧ picksOk g.time g.picks = true ∧ g.i < sys.n ∧ Conf sys g ∧ NoChoose g.cmds ∧
    (∀ e, g.recv = some e → e ∈ S) ∧ Sched sys g.time (S ++ sendsOf g.i g.cmds) gs

section
variable {sys : ActorSys σ η} {i : Nat} {rs rs' : RSt σ η}

theorem hdl_of_conf [DecidableEq σ] {g : Blk σ} {a b : LSt σ}
    (hc : Conf sys g) (hn : rs.now = g.time) (hst : a.st = rs.st g.i) (hb : Loop.step (pcfg g.i) a g.hv = some b) :
    hdl sys g.i rs g.lbl = some (g.hv, g.cmds, g.picks) := by
  obtain ⟨i, hv, cmds, picks⟩ := g
  cases hv with
  | start t out lc =>
    simp only [Conf] at hc
    obtain ⟨rfl, rfl, rfl⟩ := hc
    simp [Blk.lbl, hdl, show rs.now = t from hn]
  | msg t ad bytes stIn out lc =>
    simp only [Conf] at hc
    obtain ⟨hval, m, ns, rfl, hres, rfl, rfl⟩ := hc
    obtain ⟨_, _, _, hs, _⟩ := Loop.step_msg_iff.1 hb
    simp [Blk.lbl, hdl, show rs.now = t from hn, hst.symm.trans hs, hres, addrOf_idOf ad hval]
  | fire t k stIn out lc =>
    simp only [Conf] at hc
    obtain ⟨ns, hres, rfl, rfl⟩ := hc
    obtain ⟨_, hs, _⟩ := Loop.step_fire_iff.1 hb
    simp [Blk.lbl, hdl, show rs.now = t from hn, hst.symm.trans hs, hres]
  | exec t p => exact hc.elim
  | drop t src bytes => exact hc.elim
  | idle t => exact hc.elim
  | zeroWait t => exact hc.elim

theorem hdl_other (sys : ActorSys σ η) (g : Blk σ) (rs : RSt σ η) (hi : g.i ≠ i) :
    hdl sys i rs g.lbl = none := by
  obtain ⟨j, hv, cmds, picks⟩ := g
  cases hv <;> simp_all [Blk.lbl, hdl]

theorem lbl_recv {g : Blk σ} {e : Env} {keep : Bool} {pks : List Nat} (h : g.lbl = .deliver e keep pks) :
    g.recv = some e ∧ keep = true := by
  obtain ⟨j, hv, cmds, picks⟩ := g
  cases hv <;> simp_all [Blk.lbl, Blk.recv]

theorem compose_run [DecidableEq σ] (sys : ActorSys σ η) (A : Nat → LSt σ) :
    ∀ (gs : List (Blk σ)) (rs : RSt σ η) (S : List Env), (∀ e ∈ S, e ∈ rs.flight) → Sched sys rs.now S gs →
      (∀ i, i < sys.n → ∃ a, Match True i rs a ∧ Loop.run (pcfg i) a (evsOf i gs) = some (A i)) →
      ∃ rs', rrun sys rs (lblsOf gs) = some rs' ∧
        ∀ i, i < sys.n → Match True i rs' (A i) ∧ projFrom sys i true rs (lblsOf gs) = evsOf i gs := by
  intro gs
  induction gs with
  | nil =>
    intro rs S _ _ hrun
    refine ⟨rs, rfl, fun i hi => ⟨?_, rfl⟩⟩
    obtain ⟨a, hm, hr⟩ := hrun i hi
    cases hr
    exact hm
  | cons g gs ih =>
    intro rs S hS hsched hrun
    obtain ⟨ht0, htn, hp, hi, hconf, hnc, hrecv, hrest⟩ := hsched
    have htick : rstep sys rs (.tick g.time) = some { rs with now := g.time } := rstep_tick.2 ⟨⟨ht0, htn⟩, rfl⟩
    obtain ⟨a, hm, hrj⟩ := hrun g.i hi
    have hm1 : Match True g.i { rs with now := g.time } a := hm.congr ht0 rfl rfl
    have hev : evsOf g.i (g :: gs) = g.evs ++ evsOf g.i gs := by simp [evsOf]
    rw [hev, Loop.run_append] at hrj
    obtain ⟨a', hra, hrj⟩ := Option.bind_eq_some_iff.1 hrj
    obtain ⟨b, hb, _⟩ := Loop.run_cons.1 hra
    have hh : hdl sys g.i { rs with now := g.time } g.lbl = some (g.hv, g.cmds, g.picks) :=
      hdl_of_conf hconf rfl hm1.st hb
    have hps : projStep sys g.i true { rs with now := g.time } g.lbl = g.evs := by
      simp [projStep, hh, Blk.evs, pk]
    obtain ⟨rs2, hstep, hm2, hfl⟩ := compose_step sys g.i hm1 hh (hps ▸ hra) hi hp
      (fun e keep pks hl => hS e (hrecv e (lbl_recv hl).1)) hnc
    obtain ⟨hnow2, hfl2⟩ := hfl (fun e pks hl => nomatch (lbl_recv hl).2)
    obtain ⟨rs', hrr, hfin⟩ := ih rs2 (S ++ sendsOf g.i g.cmds)
      (fun e he => by
        rw [hfl2]
        exact (List.mem_append.1 he).elim (fun h => List.mem_append_left _ (hS e h)) (List.mem_append_right _))
      (hnow2 ▸ hrest)
      (fun i hi' => by
        by_cases hne : g.i = i
        · subst hne
          exact ⟨a', hm2, hrj⟩
        · obtain ⟨ai, hmi, hri⟩ := hrun i hi'
          exact ⟨ai, (hmi.congr (rs' := { rs with now := g.time }) ht0 rfl rfl).other hstep (hdl_other sys g _ hne),
            by simpa [evsOf, hne] using hri⟩)
    refine ⟨rs', ?_, fun i hi' => ⟨(hfin i hi').1, ?_⟩⟩
    · simp only [lblsOf, List.flatMap_cons, List.cons_append, List.nil_append, rrun, htick, hstep,
        Option.bind_some]
      exact hrr
    · have hpt : projStep sys i true rs (.tick g.time) = [] := rfl
      simp only [lblsOf, List.flatMap_cons, List.cons_append, List.nil_append, projFrom, htick, hstep, hpt]
      by_cases hne : g.i = i
      · subst hne
        rw [hps, hev]
        exact congrArg _ (hfin g.i hi').2
      · rw [projStep, hdl_other sys g _ hne, show evsOf i (g :: gs) = evsOf i gs by simp [evsOf, hne]]
        exact (hfin i hi').2

end

end SR.C17
