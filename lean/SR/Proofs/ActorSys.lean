import SR.Actor.Spec
import SR.Proofs.ListAux
/-! `process_commands` component by component; `step = specStep` on well-formed states; `init = specInit`;
inversion of `specStep`; initial states and successors of `toSys`. -/
namespace SR.Actor

variable {σ η : Type}

theorem toOption_eq_some {α : Type} {o : Outcome α} {s : α} : o.toOption = some s ↔ o = .next s := by
  cases o <;> simp [Outcome.toOption]

theorem applyCmd_eq (sys : ActorSys σ η) (i : Nat) (c : Cmd) (st : St σ η)
    (ts : List Nat) (m : List (Nat × List Nat)) (hT : st.timers[i]? = some ts) (hR : st.random[i]? = some m) :
    applyCmd sys i st c = some
      { st with net := sendAll st.net (sendsOf i [c])
                timers := st.timers.set i (applyTimerCmd ts c)
                random := st.random.set i (applyRandomCmd m c)
                hist := recordOuts sys st.hist (sendsOf i [c]) } := by
  cases c <;> simp [applyCmd, sendsOf, sendAll, recordOuts, applyTimerCmd, applyRandomCmd, hT, hR,
    Nat.not_le_of_lt (lt_length_of_getElem? hT), set_self_of_getElem? hT, set_self_of_getElem? hR, List.modify_eq_set]

theorem processCommands_eq (sys : ActorSys σ η) (i : Nat) (cmds : List Cmd) (st : St σ η)
    (ts : List Nat) (m : List (Nat × List Nat)) (hT : st.timers[i]? = some ts) (hR : st.random[i]? = some m) :
    processCommands sys i cmds st = some
      { actors := st.actors
        net := sendAll st.net (sendsOf i cmds)
        timers := st.timers.set i (cmds.foldl applyTimerCmd ts)
        random := st.random.set i (cmds.foldl applyRandomCmd m)
        crashed := st.crashed
        hist := recordOuts sys st.hist (sendsOf i cmds) } := by
  induction cmds generalizing st ts m with
  | nil =>
    simp only [processCommands, sendsOf, List.filterMap_nil, sendAll, recordOuts, List.foldl_nil,
      set_self_of_getElem? hT, set_self_of_getElem? hR]
  | cons c cs ih =>
    rw [processCommands, applyCmd_eq sys i c st ts m hT hR, Option.bind_some,
      ih _ (applyTimerCmd ts c) (applyRandomCmd m c) (by simp [List.getElem?_set_self (lt_length_of_getElem? hT)])
        (by simp [List.getElem?_set_self (lt_length_of_getElem? hR)])]
    have : sendsOf i (c :: cs) = sendsOf i [c] ++ sendsOf i cs := List.filterMap_append (l := [c])
    simp [this, sendAll, recordOuts, List.set_set, List.foldl_append]

theorem setActor_eq (actors : List σ) (i : Nat) (s : σ) (ns : Option σ) (h : actors[i]? = some s) :
    setActor actors i ns = actors.set i (ns.getD s) := by
  cases ns with
  | none => simp [setActor, set_self_of_getElem? h]
  | some s' => simp [setActor]

/-- the last step of each handler arm of `next_state` -/
theorem processCommands_specNext {sys : ActorSys σ η} {st st1 : St σ η} {a : Action} {i : Nat} {s : σ}
    {ns : Option σ} (cmds : List Cmd) {net : Net} {ts : List Nat} {m : List (Nat × List Nat)}
    (hs : st.actors[i]? = some s) (h1 : st.timers[i]? = some ts) (h2 : st.random[i]? = some m)
    (hc : consume st.net a = some net)
    (e : st1 = { actors := setActor st.actors i ns, net := net, timers := st.timers.set i (firedTimers ts a),
                 random := st.random.set i (selectedRandom m a), crashed := st.crashed,
                 hist := recordIn? sys st.hist a }) :
    processCommands sys i cmds st1 = specNext sys st a i s ns cmds := by
  subst e
  rw [processCommands_eq sys i cmds _ (firedTimers ts a) (selectedRandom m a)
    (by simp [List.getElem?_set_self (lt_length_of_getElem? h1)])
    (by simp [List.getElem?_set_self (lt_length_of_getElem? h2)])]
  simp [specNext, hc, h1, h2, setActor_eq _ _ s ns hs, List.set_set]

theorem St.WF.get {sys : ActorSys σ η} {st : St σ η} (hwf : st.WF sys) {i : Nat} (hi : i < sys.n) :
    ∃ s ts m c, st.actors[i]? = some s ∧ st.timers[i]? = some ts ∧ st.random[i]? = some m ∧
      st.crashed[i]? = some c := by
  obtain ⟨hA, hT, hR, hC⟩ := hwf
  exact ⟨_, _, _, _, List.getElem?_eq_getElem (hA ▸ hi), List.getElem?_eq_getElem (hT ▸ hi),
    List.getElem?_eq_getElem (hR ▸ hi), List.getElem?_eq_getElem (hC ▸ hi)⟩

theorem step_eq_specStep (sys : ActorSys σ η) (st : St σ η) (a : Action) (hwf : st.WF sys) :
    step sys st a = specStep sys st a := by
  have get : ∀ {i : Nat} {s : σ}, st.actors[i]? = some s →
      ∃ ts m c, st.timers[i]? = some ts ∧ st.random[i]? = some m ∧ st.crashed[i]? = some c := fun hs =>
    let ⟨_, ts, m, c, _, h⟩ := hwf.get (hwf.1 ▸ lt_length_of_getElem? hs)
    ⟨ts, m, c, h⟩
  -- branch by branch of `step`: its tests decide those of `specStep`; left are the branches where well-formedness is
  -- needed: 4 = no crash flag for an existing actor; 8, 13, 19 = nothing to consume; 9, 14, 20 = the commands are run
  -- (deliver, timeout, selectRandom); 15, 16 = crash with / without an entry in each vector
  fun_cases step sys st a <;>
    simp only [specStep, eventOf, specHandlerStep, *, isDeliver, handler, ignoredBy, if_true, if_false, Bool.and_true,
      Bool.and_false, Bool.false_eq_true, decide_true, decide_false, reduceCtorEq, Option.some.injEq]
  case case4 _ _ hs hc =>
    obtain ⟨_, _, _, _, _, h3⟩ := get hs
    rw [hc] at h3
    cases h3
  case case8 => simp [specNext, consume, *, ofOption]
  case case9 e _ hs _ ns cmds _ _ _ _ hd =>
    obtain ⟨_, _, _, h1, h2, _⟩ := get hs
    refine congrArg ofOption (processCommands_specNext (ns := ns) cmds hs h1 h2 (a := .deliver e) hd ?_)
    simp [firedTimers, selectedRandom, recordIn?, set_self_of_getElem? h1, set_self_of_getElem? h2]
    rfl
  case case13 => simp [specNext, *, ofOption]
  case case14 i t _ hs ns cmds _ _ _ h1 =>
    obtain ⟨_, _, _, _, h2, _⟩ := get hs
    refine congrArg ofOption (processCommands_specNext (ns := ns) cmds hs h1 h2 (a := .timeout i t) rfl ?_)
    simp [firedTimers, selectedRandom, recordIn?, set_self_of_getElem? h2]
  case case15 i _ _ _ _ _ h1 => rw [if_pos (hwf.2.1 ▸ lt_length_of_getElem? h1)]
  case case16 i h =>
    split
    · obtain ⟨_, _, _, _, _, h1, h2, h3⟩ := hwf.get ‹_›
      exact (h _ _ _ h1 h2 h3).elim
    · rfl
  case case19 => simp [specNext, *, ofOption]
  case case20 i k r _ hs ns cmds _ _ h2 =>
    obtain ⟨_, _, _, h1, _, _⟩ := get hs
    refine congrArg ofOption (processCommands_specNext (ns := ns) cmds hs h1 h2 (a := .selectRandom i k r) rfl ?_)
    simp [firedTimers, selectedRandom, recordIn?, set_self_of_getElem? h1]
  all_goals rfl

theorem specNext_eq_some {sys : ActorSys σ η} {st st' : St σ η} {a : Action} {i : Nat} {s : σ} {ns : Option σ}
    {cmds : List Cmd} (h : specNext sys st a i s ns cmds = some st') :
    ∃ net ts m, consume st.net a = some net ∧ st.timers[i]? = some ts ∧ st.random[i]? = some m ∧
      st' = { actors := st.actors.set i (ns.getD s)
              net := sendAll net (sendsOf i cmds)
              timers := st.timers.set i (cmds.foldl applyTimerCmd (firedTimers ts a))
              random := st.random.set i (cmds.foldl applyRandomCmd (selectedRandom m a))
              crashed := st.crashed
              hist := recordOuts sys (recordIn? sys st.hist a) (sendsOf i cmds) } := by
  unfold specNext at h
  split at h
  · exact ⟨_, _, _, ‹_›, ‹_›, ‹_›, (Option.some.inj h).symm⟩
  · cases h

theorem specStep_handler {sys : ActorSys σ η} {st : St σ η} {a : Action} {i : Nat} {ev : Event}
    (hev : eventOf a = some (i, ev)) : specStep sys st a = specHandlerStep sys st a i ev := by
  cases a <;> cases hev <;> rfl

theorem specHandlerStep_next {sys : ActorSys σ η} {st st' : St σ η} {a : Action} {i : Nat} {ev : Event}
    (h : specHandlerStep sys st a i ev = .next st') :
    ∃ s ns cmds, st.actors[i]? = some s ∧ ¬ (st.crashed[i]? = some true ∧ isDeliver a = true) ∧
      handler sys i s ev = .ok ns cmds ∧ ignoredBy sys ns cmds a = false ∧
      specNext sys st a i s ns cmds = some st' := by
  revert h
  -- only the last branch, where every test has passed, ends in a successor
  fun_cases specHandlerStep sys st a i ev <;> intro h
  case case6 s hs hc ns cmds hh hi =>
    cases hn : specNext sys st a i s ns cmds <;> rw [hn] at h <;> cases h
    exact ⟨s, ns, cmds, hs, by simpa using hc, hh, by simpa using hi, hn⟩
  all_goals cases h

theorem actionOf_eventOf {a : Action} {i : Nat} {ev : Event} (hev : eventOf a = some (i, ev)) :
    ∃ key, a = actionOf i key ev := by
  cases a with
  | deliver e => cases hev; exact ⟨0, rfl⟩
  | timeout i t => cases hev; exact ⟨0, rfl⟩
  | selectRandom i k r => cases hev; exact ⟨k, rfl⟩
  | drop e => cases hev
  | crash i => cases hev

theorem specStep_next {sys : ActorSys σ η} {st st' : St σ η} {a : Action} (h : specStep sys st a = .next st') :
    (∃ e net, a = .drop e ∧ st.net.onDrop e = some net ∧ st' = { st with net := net }) ∨
    (∃ i, a = .crash i ∧ i < sys.n ∧ st' = crashOf i st) ∨
    (∃ i ev, eventOf a = some (i, ev) ∧ specHandlerStep sys st a i ev = .next st') := by
  revert h
  -- 1 = a drop the network accepts, 3 = a crash of an existing actor, 6 = a handler action
  fun_cases specStep sys st a <;> intro h
  case case1 e net hd => cases h; exact .inl ⟨e, net, rfl, hd, rfl⟩
  case case3 i hi => cases h; exact .inr (.inl ⟨i, rfl, hi, rfl⟩)
  case case6 i ev _ _ hev => exact .inr (.inr ⟨i, ev, hev, h⟩)
  all_goals cases h

theorem wf_crashOf {sys : ActorSys σ η} {st : St σ η} (i : Nat) (hwf : st.WF sys) : (crashOf i st).WF sys := by
  obtain ⟨hA, hT, hR, hC⟩ := hwf
  exact ⟨hA, by simp [crashOf, hT], by simp [crashOf, hR], by simp [crashOf, hC]⟩

theorem initLoop_eq (sys : ActorSys σ η) (is : List Nat) (st : St σ η) (hnd : is.Nodup)
    (h : ∀ i ∈ is, st.timers[i]? = some [] ∧ st.random[i]? = some []) :
    initLoop sys is st = some
      { actors := st.actors ++ is.map (fun i => ((sys.actor i).start i).1)
        net := sendAll st.net (is.flatMap (fun i => sendsOf i ((sys.actor i).start i).2))
        timers := is.foldl (fun T i => T.set i (((sys.actor i).start i).2.foldl applyTimerCmd [])) st.timers
        random := is.foldl (fun R i => R.set i (((sys.actor i).start i).2.foldl applyRandomCmd [])) st.random
        crashed := st.crashed
        hist := recordOuts sys st.hist (is.flatMap (fun i => sendsOf i ((sys.actor i).start i).2)) } := by
  induction is generalizing st with
  | nil => simp [initLoop, sendAll, recordOuts]
  | cons i is ih =>
    obtain ⟨hi, hnd⟩ := List.nodup_cons.1 hnd
    obtain ⟨hT, hR⟩ := h i List.mem_cons_self
    simp only [initLoop]
    -- the later actors are other actors: their entries are still empty after `i` has been started
    rw [processCommands_eq sys i _ _ [] [] (by exact hT) (by exact hR), Option.bind_some, ih _ hnd (fun j hj => ?_)]
    · simp [sendAll, recordOuts, List.foldl_append]
    · have hij : i ≠ j := fun e => hi (e ▸ hj)
      simpa [List.getElem?_set_ne hij] using h j (List.mem_cons_of_mem _ hj)

theorem init_eq_specInit (sys : ActorSys σ η) : init sys = some (specInit sys) := by
  unfold init
  rw [initLoop_eq sys _ _ List.nodup_range (fun i hi => by simp [init0, List.mem_range.1 hi])]
  have := fun (α : Type) (X : Nat → α) (z : α) => foldl_set_range' X (List.replicate sys.n z) []
  simp only [List.length_nil, List.length_replicate, List.nil_append] at this
  simp [init0, specInit, List.range_eq_range', this]

theorem wf_specInit (sys : ActorSys σ η) : (specInit sys).WF sys := by
  simp [St.WF, specInit]

theorem mem_initB_toSys {sys : ActorSys σ η} {inB : St σ η → Bool} {st : St σ η} :
    st ∈ (sys.toSys inB).initB ↔ st = specInit sys ∧ inB st = true := by
  simp [Sys.initB, ActorSys.toSys, init_eq_specInit]

theorem mem_succB_toSys {sys : ActorSys σ η} {inB : St σ η → Bool} {s t : St σ η} :
    t ∈ (sys.toSys inB).succB s ↔ (∃ a ∈ actions sys s, step sys s a = .next t) ∧ inB t = true := by
  simp only [Sys.mem_succB, ActorSys.toSys, toOption_eq_some]

end SR.Actor
