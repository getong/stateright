import SR.Market.Machine
import SR.Proofs.ListAux
/-! Lemmas about the operations of the market machine; its `step` as a relation (`Eff`), for proofs by cases. -/
namespace SR.Market

theorem count_set_leave {l : List Pc} {w : Nat} {p q : Pc} (hw : l[w]? = some q) (hp : p ≠ q) :
    (l.set w p).count q + 1 = l.count q := by
  have := count_set_add hw p q
  rwa [if_pos rfl, if_neg hp] at this

theorem count_set_enter {l : List Pc} {w : Nat} {a q : Pc} (hw : l[w]? = some a) (ha : a ≠ q) :
    (l.set w q).count q = l.count q + 1 := by
  have := count_set_add hw q q
  rwa [if_neg ha, if_pos rfl] at this

theorem count_set_other {l : List Pc} {w : Nat} {a p q : Pc} (hw : l[w]? = some a) (ha : a ≠ q) (hp : p ≠ q) :
    (l.set w p).count q = l.count q := by
  have := count_set_add hw p q
  rwa [if_neg ha, if_neg hp] at this

theorem two_le_count_running {pcs : List Pc} {v w : Nat} (hne : v ≠ w) (hv : pcs[v]? = some Pc.running)
    (hw : pcs[w]? = some Pc.running) : 2 ≤ pcs.count Pc.running := by
  have h1 := count_set_leave hw (p := .exited) nofun
  have h2 : 0 < (pcs.set w .exited).count Pc.running :=
    List.count_pos_iff.2 (List.mem_of_getElem? ((List.getElem?_set_ne hne.symm).trans hv))
  omega

theorem length_notifyAll (pcs : List Pc) : (notifyAll pcs).length = pcs.length := by
  simp [notifyAll]

theorem getElem?_notifyAll (pcs : List Pc) (w : Nat) :
    (notifyAll pcs)[w]? = pcs[w]?.map fun p => match p with
      | .parked _ => .parked true
      | p => p :=
  List.getElem?_map

theorem getElem?_notifyAll_running {pcs : List Pc} {w : Nat} (h : pcs[w]? = some .running) :
    (notifyAll pcs)[w]? = some .running := by
  simp [notifyAll, h]

theorem count_notifyAll (pcs : List Pc) (q : Pc) :
    (notifyAll pcs).count q = match q with
      | .parked true => pcs.count (.parked true) + pcs.count (.parked false)
      | .parked false => 0
      | q => pcs.count q := by
  induction pcs with
  | nil => rcases q with _ | (_ | _) | _ <;> rfl
  | cons p ps ih =>
    have h : notifyAll (p :: ps) = (match p with | .parked _ => .parked true | p => p) :: notifyAll ps := rfl
    rw [h, List.count_cons, ih]
    rcases q with _ | (_ | _) | _ <;> rcases p with _ | (_ | _) | _ <;>
      simp only [List.count_cons, beq_iff_eq, reduceCtorEq, Pc.parked.injEq, ↓reduceIte] <;> omega

theorem not_parkedFalse_mem_notifyAll (pcs : List Pc) : Pc.parked false ∉ notifyAll pcs :=
  List.count_eq_zero.1 (count_notifyAll pcs (.parked false))

theorem not_parkedFalse_mem_drop (pcs : List Pc) (w : Nat) : Pc.parked false ∉ (notifyAll pcs).set w .exited :=
  fun h => (List.mem_or_eq_of_mem_set h).elim (not_parkedFalse_mem_notifyAll pcs) nofun

theorem running_mem_notifyAll {pcs : List Pc} : Pc.running ∈ notifyAll pcs ↔ Pc.running ∈ pcs :=
  mem_iff_of_count_eq (count_notifyAll pcs .running)

theorem exited_mem_notifyAll {pcs : List Pc} : Pc.exited ∈ notifyAll pcs ↔ Pc.exited ∈ pcs :=
  mem_iff_of_count_eq (count_notifyAll pcs .exited)

theorem notifyPicks_induct (P : List Pc → Prop) {pcs : List Pc} (picks : List Nat) (h0 : P pcs)
    (hset : ∀ l v, P l → l[v]? = some (.parked false) → P (l.set v (.parked true))) :
    P (notifyPicks pcs picks) := by
  induction picks generalizing pcs with
  | nil => exact h0
  | cons v vs ih =>
    apply ih
    split
    · exact hset pcs v h0 ‹_›
    · exact h0

theorem length_notifyPicks (pcs : List Pc) (picks : List Nat) :
    (notifyPicks pcs picks).length = pcs.length :=
  notifyPicks_induct (·.length = pcs.length) picks rfl fun l v ih _ => by rw [List.length_set, ih]

theorem count_notifyPicks (pcs : List Pc) (picks : List Nat) {q : Pc} (hq : ∀ b, q ≠ .parked b) :
    (notifyPicks pcs picks).count q = pcs.count q :=
  notifyPicks_induct (·.count q = pcs.count q) picks rfl fun _ _ ih hv =>
    (count_set_other hv (hq false).symm (hq true).symm).trans ih

/-- a program counter without its notification flag; in the namespace of `Proofs/Checker/ReplaySync`, whose `MEq` compares two
    markets up to these flags -/
def _root_.SR.ReplayComplete.Full.strip : Pc → Pc
  | .parked _ => .parked false
  | p => p

open ReplayComplete.Full (strip)

theorem strip_some {l l' : List Pc} (h : l.map strip = l'.map strip) {w : Nat} {p : Pc} (ha : l[w]? = some p) :
    ∃ q, l'[w]? = some q ∧ strip q = strip p := by
  have := congrArg (·[w]?) h
  simp only [List.getElem?_map, ha, Option.map_some] at this
  exact Option.map_eq_some_iff.1 this.symm

theorem strip_get {l l' : List Pc} (h : l.map strip = l'.map strip) {w : Nat} {p : Pc} (hp : ∀ f, p ≠ .parked f)
    (ha : l[w]? = some p) : l'[w]? = some p := by
  obtain ⟨q, hq, e⟩ := strip_some h ha
  cases p <;> cases q <;> first | exact hq | exact (hp _ rfl).elim | cases e

theorem strip_notifyAll (pcs : List Pc) : (notifyAll pcs).map strip = pcs.map strip := by
  unfold notifyAll
  rw [List.map_map]
  apply List.map_congr_left
  intro p _
  cases p <;> rfl

theorem strip_notifyPicks (pcs : List Pc) (picks : List Nat) : (notifyPicks pcs picks).map strip = pcs.map strip :=
  notifyPicks_induct (·.map strip = pcs.map strip) picks rfl fun l v ih hv => by
    rw [List.map_set, ← ih]
    exact set_self_of_getElem? (by rw [List.getElem?_map, hv]; rfl)

theorem getElem?_notifyPicks_running {pcs : List Pc} (picks : List Nat) {w : Nat} (h : pcs[w]? = some .running) :
    (notifyPicks pcs picks)[w]? = some .running :=
  strip_get (strip_notifyPicks pcs picks).symm (fun _ => nofun) h

theorem all_exited_strip (l : List Pc) : (l.map strip).all (· == Pc.exited) = l.all (· == Pc.exited) := by
  rw [List.all_map]
  exact congrArg l.all (funext fun p => by cases p <;> rfl)

def NoLost (pcs : List Pc) : Prop :=
  Pc.parked false ∈ pcs → Pc.running ∈ pcs ∨ Pc.parked true ∈ pcs

theorem noLost_positions {pcs : List Pc} (h : NoLost pcs) :
    ¬ (∃ (w : Nat) (b : Bool), pcs[w]? = some (Pc.parked b))
    ∨ (∃ w : Nat, pcs[w]? = some Pc.running) ∨ (∃ w : Nat, pcs[w]? = some (Pc.parked true)) := by
  refine Classical.or_iff_not_imp_left.2 fun hn => ?_
  obtain ⟨w, b, hw⟩ := Classical.not_not.1 hn
  cases b with
  | true => exact Or.inr ⟨w, hw⟩
  | false => simpa only [List.mem_iff_getElem?] using h (List.mem_of_getElem? hw)

theorem noLost_notifyPicks {pcs : List Pc} (picks : List Nat) (h : NoLost pcs) :
    NoLost (notifyPicks pcs picks) :=
  notifyPicks_induct NoLost picks h fun _ _ _ hv _ =>
    Or.inr (List.mem_set (lt_length_of_getElem? hv) _)

theorem noLost_notifyAll (pcs : List Pc) : NoLost (notifyAll pcs) :=
  fun h => absurd h (not_parkedFalse_mem_notifyAll pcs)

theorem noLost_of_running {pcs : List Pc} (h : Pc.running ∈ pcs) : NoLost pcs := fun _ => Or.inl h

theorem count_flatten_set (t : Tok) (ls : List (List Tok)) (i : Nat) (x : List Tok) (h : i < ls.length) :
    (ls.set i x).flatten.count t + (ls.getD i []).count t = ls.flatten.count t + x.count t := by
  rw [List.count_flatten, List.count_flatten, List.getD_eq_getElem?_getD, List.getElem?_eq_getElem h]
  exact sum_map_set (List.count t) (List.getElem?_eq_getElem h)

theorem splitLoop_spec (n size : Nat) (loc : List Tok) (bs : List (List Tok)) :
    ∃ rest, loc = (splitLoop n size loc bs).1 ++ rest ∧
      (splitLoop n size loc bs).2.flatten = rest ++ bs.flatten ∧
      (splitLoop n size loc bs).2.count [] = bs.count [] := by
  fun_induction splitLoop n size loc bs with
  | case1 => exact ⟨[], (List.append_nil _).symm, rfl, rfl⟩
  | case2 n size loc bs keep share he ih =>
    obtain ⟨rest, h1, h2, h3⟩ := ih
    refine ⟨rest ++ share, ?_, ?_, h3⟩
    · rw [← List.append_assoc, ← h1, List.take_append_drop]
    · rw [h2, List.isEmpty_iff.1 he, List.append_nil]
  | case3 n size loc bs keep share he ih =>
    obtain ⟨rest, h1, h2, h3⟩ := ih
    refine ⟨rest ++ share, ?_, ?_, ?_⟩
    · rw [← List.append_assoc, ← h1, List.take_append_drop]
    · rw [h2, List.flatten_cons, List.append_assoc]
    · rw [h3, List.count_cons]
      simpa using he

theorem count_splitLoop (t : Tok) (k size : Nat) (loc : List Tok) (bs : List (List Tok)) :
    (splitLoop k size loc bs).2.flatten.count t + (splitLoop k size loc bs).1.count t
      = bs.flatten.count t + loc.count t := by
  obtain ⟨rest, h1, h2, -⟩ := splitLoop_spec k size loc bs
  have hl := congrArg (List.count t) h1
  rw [List.count_append] at hl
  rw [h2, List.count_append]
  omega

theorem length_splitLoop_ge (k size : Nat) (loc : List Tok) (bs : List (List Tok)) :
    bs.length ≤ (splitLoop k size loc bs).2.length := by
  induction k generalizing loc bs with
  | zero => simp [splitLoop]
  | succ k ih =>
    simp only [splitLoop]
    split
    · exact ih _ _
    · exact Nat.le_trans (by simp) (ih _ _)

theorem nodupB_iff (l : List Nat) : nodupB l = true ↔ l.Nodup := by
  induction l with
  | nil => simp [nodupB]
  | cons x xs ih => simp [nodupB, ih]

theorem nodup_fresh {s : MState} {toks : List Tok} (h : freshOk s toks = true) (hc : s.created.Nodup) :
    (toks ++ s.created).Nodup := by
  simp [freshOk] at h
  rw [List.nodup_append]
  exact ⟨(nodupB_iff _).1 h.1, hc, fun a ha b hb hab => h.2 a ha (hab ▸ hb)⟩

theorem count_fresh_created {s : MState} {toks : List Tok} (h : freshOk s toks = true) (t : Tok) :
    t ∈ toks → s.created.count t = 0 := by
  simp [freshOk] at h
  intro ht
  exact List.count_eq_zero.2 (h.2 t ht)

/-- for a caller whose pc is `running`: `got` and `close` leave its pc as it is -/
inductive PopEff (s : MState) (w : Nat) : MState → Prop
  | got {b rest} : s.batches = b :: rest →
      PopEff s w { s with batches := rest, locs := s.locs.set w (s.locs.getD w [] ++ b) }
  | close : s.batches = [] → s.openCount - 1 = 0 →
      PopEff s w { s with openCount := 0, isOpen := false, pcs := notifyAll s.pcs }
  | park : s.batches = [] → s.openCount - 1 ≠ 0 →
      PopEff s w { s with openCount := s.openCount - 1, pcs := s.pcs.set w (.parked false) }

theorem popLoop_eff {s : MState} {w : Nat} (hw : s.pcs[w]? = some .running) : PopEff s w (popLoop s w).1 := by
  unfold popLoop
  rw [set_self_of_getElem? hw]
  split
  · rename_i hb
    exact .got hb
  · rename_i hb
    simp only
    split
    · rename_i h0
      exact .close hb (by simpa using h0)
    · rename_i h0
      exact .park hb (by simpa using h0)

theorem popLoop_of_no_batches {s : MState} (w : Nat) (hb : s.batches = []) :
    (popLoop s w).2 = .empty ∨ (popLoop s w).2 = .park := by
  unfold popLoop
  rw [hb]
  simp only
  split
  · exact .inl rfl
  · exact .inr rfl

/-- return from `wait`: `open_count += 1`; the loop body (`popLoop`) follows -/
def woken (s : MState) (w : Nat) : MState :=
  { s with openCount := s.openCount + 1, pcs := s.pcs.set w .running }

/-- `popLoop` overwrites the caller's pc in every branch -/
theorem popLoop_woken (s : MState) (w : Nat) :
    popLoop { s with openCount := s.openCount + 1 } w = popLoop (woken s w) w := by
  unfold popLoop woken
  simp only [List.set_set]

theorem getElem?_woken {s : MState} {w : Nat} {p : Pc} (hw : s.pcs[w]? = some p) :
    (woken s w).pcs[w]? = some .running :=
  List.getElem?_set_self (lt_length_of_getElem? hw)

/-- One constructor per enabled branch of `stepR`, its guards as hypotheses. For `wake` the worker is `woken` first,
    so that `PopEff` applies to it as to any running caller. -/
inductive Eff (s : MState) : Step → MState → Prop
  | popClosed {w} : s.pcs[w]? = some .running → s.isOpen = false → Eff s (.popBegin w) s
  | popBegin {w s'} : s.pcs[w]? = some .running → s.isOpen = true → PopEff s w s' → Eff s (.popBegin w) s'
  | wake {w b s'} : s.pcs[w]? = some (.parked b) → PopEff (woken s w) w s' → Eff s (.wake w) s'
  | pushClosed {w n} : s.pcs[w]? = some .running → s.isOpen = false →
      Eff s (.push w n []) { s with locs := s.locs.set w ((s.locs.getD w []).drop n) }
  | push {w n picks} : s.pcs[w]? = some .running → s.isOpen = true → picksOk s.pcs picks 1 = true →
      Eff s (.push w n picks) { s with batches := (s.locs.getD w []).take n :: s.batches,
                                       locs := s.locs.set w ((s.locs.getD w []).drop n),
                                       pcs := notifyPicks s.pcs picks }
  | xpushClosed {toks} : freshOk s toks = true → s.isOpen = false →
      Eff s (.xpush toks []) { s with created := toks ++ s.created, consumed := toks ++ s.consumed }
  | xpush {toks picks} : freshOk s toks = true → s.isOpen = true → picksOk s.pcs picks 1 = true →
      Eff s (.xpush toks picks) { s with batches := toks :: s.batches, created := toks ++ s.created,
                                         pcs := notifyPicks s.pcs picks }
  | splitClosed {w} : s.pcs[w]? = some .running → s.isOpen = false →
      Eff s (.split w []) { s with locs := s.locs.set w [] }
  | split {w picks r} : s.pcs[w]? = some .running → s.isOpen = true →
      r = splitLoop (splitPieces s (s.locs.getD w []).length - 1) (splitSize s (s.locs.getD w []).length)
            (s.locs.getD w []) s.batches →
      picksOk s.pcs picks (r.2.length - s.batches.length) = true →
      Eff s (.split w picks) { s with batches := r.2, locs := s.locs.set w r.1, pcs := notifyPicks s.pcs picks }
  | work {w c fresh} : s.pcs[w]? = some .running → freshOk s fresh = true →
      Eff s (.work w c fresh)
        { s with locs := s.locs.set w (fresh ++ (s.locs.getD w []).take ((s.locs.getD w []).length - c)),
                 consumed := (s.locs.getD w []).drop ((s.locs.getD w []).length - c) ++ s.consumed,
                 created := fresh ++ s.created }
  | rearrange {w l} : s.pcs[w]? = some .running → l.Perm (s.locs.getD w []) →
      Eff s (.rearrange w l) { s with locs := s.locs.set w l }
  | drop {w} : s.pcs[w]? = some .running →
      Eff s (.drop w) { dropMarket s with pcs := (notifyAll s.pcs).set w .exited, locs := s.locs.set w [] }
  | xdrop : Eff s .xdrop (dropMarket s)
  | timeout : Eff s .timeoutFire { s with isOpen := false }

theorem stepR_eff {s s' : MState} {m : Step} {r : Option PopRes} (hs : stepR s m = some (s', r)) :
    Eff s m s' := by
  revert hs
  fun_cases stepR s m
  all_goals
    intro hs
    cases hs
  -- the enabled branches, in the order of `stepR`; hypotheses in its order too: one per `if`, and `a`, `b`,
  -- `e = (a, b)` for a `let (a, b) := e`
  next hw hc => exact .popClosed hw (by simpa using hc)
  next hw ho _ hx => exact .popBegin hw (by simpa using ho) (by simpa [hx] using popLoop_eff hw)
  next hw _ hx => exact .wake hw (by simpa [← popLoop_woken, hx] using popLoop_eff (getElem?_woken hw))
  next hw hc hp =>
    cases List.isEmpty_iff.1 hp
    exact .pushClosed hw (by simpa using hc)
  next hw ho hp => exact .push hw (by simpa using ho) hp
  next hf hc hp =>
    cases List.isEmpty_iff.1 hp
    exact .xpushClosed hf (by simpa using hc)
  next hf ho hp => exact .xpush hf (by simpa using ho) hp
  next hw hc hp =>
    cases List.isEmpty_iff.1 hp
    exact .splitClosed hw (by simpa using hc)
  next hw ho _ _ _ hx hp => exact .split hw (by simpa using ho) hx.symm hp
  next h _ =>
    simp only [Bool.and_eq_true, decide_eq_true_eq] at h
    exact .work h.1 h.2
  next h =>
    simp only [Bool.and_eq_true, decide_eq_true_eq, List.isPerm_iff] at h
    exact .rearrange h.1 h.2
  next hw _ => exact .drop hw
  next => exact .xdrop
  next => exact .timeout

theorem stepR_pop_some {m m' : MState} {w woke : Nat} {r : Option PopRes}
    (h : stepR m (if woke = 0 then .popBegin w else .wake w) = some (m', r)) : ∃ pr, r = some pr := by
  split at h
  · obtain ⟨-, h⟩ := Option.ite_none_right_eq_some.1 h
    split at h
    · exact ⟨_, (Prod.mk.inj (Option.some.inj h)).2.symm⟩
    · exact ⟨_, (Prod.mk.inj (Option.some.inj h)).2.symm⟩
  · simp only [stepR] at h
    split at h
    · exact ⟨_, (Prod.mk.inj (Option.some.inj h)).2.symm⟩
    · cases h

theorem step_of_stepR {s : MState} {m : Step} {x : MState × Option PopRes} (h : stepR s m = some x) :
    step s m = some x.1 := by
  rw [step, h, Option.map_some]

theorem stepR_of_step {s s' : MState} {m : Step} (h : step s m = some s') : ∃ r, stepR s m = some (s', r) := by
  obtain ⟨⟨_, r⟩, hr, rfl⟩ := Option.map_eq_some_iff.1 h
  exact ⟨r, hr⟩

theorem step_eff {s s' : MState} {m : Step} (hs : step s m = some s') : Eff s m s' := by
  obtain ⟨_, h⟩ := stepR_of_step hs
  exact stepR_eff h

theorem step_rearrange_iff {s s' : MState} {w : Nat} {l : List Tok} :
    step s (.rearrange w l) = some s' ↔
      s.pcs[w]? = some .running ∧ l.Perm (s.locs.getD w []) ∧ { s with locs := s.locs.set w l } = s' := by
  simp [step, stepR, and_assoc, List.isPerm_iff]

theorem step_work_iff {s s' : MState} {w c : Nat} {fresh : List Tok} :
    step s (.work w c fresh) = some s' ↔
      s.pcs[w]? = some .running ∧ freshOk s fresh = true ∧
      { s with locs := s.locs.set w (fresh ++ (s.locs.getD w []).take ((s.locs.getD w []).length - c)),
               consumed := (s.locs.getD w []).drop ((s.locs.getD w []).length - c) ++ s.consumed,
               created := fresh ++ s.created } = s' := by
  simp [step, stepR, and_assoc]

end SR.Market
