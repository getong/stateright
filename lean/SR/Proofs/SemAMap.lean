import SR.Sem.AMap
namespace SR.Sem.AMap
variable {β γ : Type}

/-- keys strictly increasing: the `BTreeMap` iteration order, without duplicates -/
def Sorted (m : List (Nat × β)) : Prop := (keys m).Pairwise (· < ·)

@[simp] theorem find?_nil (k : Nat) : find? k ([] : List (Nat × β)) = none := rfl

theorem find?_cons (k k' : Nat) (v : β) (r : List (Nat × β)) :
    find? k ((k', v) :: r) = if k' = k then some v else find? k r := rfl

theorem keys_cons (k : Nat) (v : β) (r : List (Nat × β)) : keys ((k, v) :: r) = k :: keys r := rfl

theorem sorted_nil : Sorted ([] : List (Nat × β)) := List.Pairwise.nil

theorem sorted_cons {k : Nat} {v : β} {r : List (Nat × β)} :
    Sorted ((k, v) :: r) ↔ (∀ k' ∈ keys r, k < k') ∧ Sorted r := List.pairwise_cons

theorem Sorted.of_sublist {m : List (Nat × β)} {m' : List (Nat × γ)} (hs : Sorted m)
    (h : (keys m').Sublist (keys m)) : Sorted m' := List.Pairwise.sublist h hs

/- The cases of `find? k m`: `m = []`; the head has key `k`; it has another key (the recursive one). -/
theorem find?_isSome_iff_mem_keys {k : Nat} {m : List (Nat × β)} : (find? k m).isSome ↔ k ∈ keys m := by
  fun_induction find? k m with
  | case1 => simp [keys]
  | case2 => simp [keys]
  | case3 k0 v0 r h ih => rw [ih, keys_cons, List.mem_cons, or_iff_right (Ne.symm h)]

theorem mem_keys_of_find? {k : Nat} {v : β} {m : List (Nat × β)} (h : find? k m = some v) : k ∈ keys m :=
  find?_isSome_iff_mem_keys.1 (by rw [h]; rfl)

theorem find?_eq_none_iff {k : Nat} {m : List (Nat × β)} : find? k m = none ↔ k ∉ keys m := by
  rw [← find?_isSome_iff_mem_keys, Option.not_isSome_iff_eq_none]

theorem find?_eq_none_of_lt {k : Nat} {m : List (Nat × β)} (h : ∀ k' ∈ keys m, k < k') : find? k m = none :=
  find?_eq_none_iff.2 fun hk => Nat.lt_irrefl k (h k hk)

theorem mem_of_find? {k : Nat} {v : β} {m : List (Nat × β)} (h : find? k m = some v) : (k, v) ∈ m := by
  fun_induction find? k m with
  | case1 => cases h
  | case2 =>
    cases h
    exact List.mem_cons_self
  | case3 k0 v0 r _ ih => exact List.mem_cons_of_mem _ (ih h)

theorem find?_of_mem {k : Nat} {v : β} {m : List (Nat × β)} (hs : Sorted m) (h : (k, v) ∈ m) : find? k m = some v := by
  induction m with
  | nil => cases h
  | cons e r ih =>
    obtain ⟨k0, v0⟩ := e
    obtain ⟨hlt, hr⟩ := sorted_cons.1 hs
    rw [find?_cons]
    rcases List.mem_cons.1 h with h | h
    · cases h
      exact if_pos rfl
    · have : k0 < k := hlt k (List.mem_map.2 ⟨_, h, rfl⟩)
      rw [if_neg (Nat.ne_of_lt this)]
      exact ih hr h

theorem mem_iff_find? {k : Nat} {v : β} {m : List (Nat × β)} (hs : Sorted m) : (k, v) ∈ m ↔ find? k m = some v :=
  ⟨find?_of_mem hs, mem_of_find?⟩

/- The cases of `upsert k v m`: `m = []`; `k` below the head key; `k` equal to it; otherwise (the recursive one). -/
theorem find?_upsert (k k' : Nat) (v : β) (m : List (Nat × β)) :
    find? k' (upsert k v m) = if k = k' then some v else find? k' m := by
  fun_induction upsert k v m with
  | case1 => rfl
  | case2 => rfl
  | case3 =>
    rw [find?_cons, find?_cons]
    split <;> rfl
  | case4 k0 v0 r h1 h2 ih =>
    rw [find?_cons, find?_cons, ih]
    split
    · rename_i h3
      rw [if_neg (fun e => h2 (e.trans h3.symm))]
    · rfl

theorem mem_upsert {k : Nat} {v : β} {m : List (Nat × β)} {e : Nat × β} (h : e ∈ upsert k v m) : e = (k, v) ∨ e ∈ m := by
  fun_induction upsert k v m with
  | case1 => exact Or.inl (List.mem_singleton.1 h)
  | case2 => exact List.mem_cons.1 h
  | case3 => exact (List.mem_cons.1 h).imp_right (List.mem_cons_of_mem _)
  | case4 k0 v0 r h1 h2 ih =>
    rcases List.mem_cons.1 h with h | h
    · exact Or.inr (h ▸ List.mem_cons_self)
    · exact (ih h).imp_right (List.mem_cons_of_mem _)

theorem find?_upsert_self (k : Nat) (v : β) (m : List (Nat × β)) : find? k (upsert k v m) = some v := by
  rw [find?_upsert, if_pos rfl]

theorem find?_upsert_ne {k k' : Nat} (h : k ≠ k') (v : β) (m : List (Nat × β)) :
    find? k' (upsert k v m) = find? k' m := by
  rw [find?_upsert, if_neg h]

theorem mem_keys_upsert {k k' : Nat} {v : β} {m : List (Nat × β)} :
    k' ∈ keys (upsert k v m) ↔ k' = k ∨ k' ∈ keys m := by
  rw [← find?_isSome_iff_mem_keys, ← find?_isSome_iff_mem_keys, find?_upsert]
  by_cases h : k = k'
  · simp [h]
  · simp [h, Ne.symm h]

theorem Sorted.lt_of_lt_head {k k0 : Nat} {v0 : β} {r : List (Nat × β)} (hs : Sorted ((k0, v0) :: r)) (h : k < k0) :
    ∀ k' ∈ keys ((k0, v0) :: r), k < k' :=
  fun k' hk' => (List.mem_cons.1 hk').elim (fun e => e ▸ h) fun hk' => Nat.lt_trans h ((sorted_cons.1 hs).1 k' hk')

theorem sorted_upsert {k : Nat} {v : β} {m : List (Nat × β)} (hs : Sorted m) : Sorted (upsert k v m) := by
  fun_induction upsert k v m with
  | case1 => exact List.pairwise_singleton _ _
  | case2 k0 v0 r h1 => exact sorted_cons.2 ⟨hs.lt_of_lt_head h1, hs⟩
  | case3 => exact sorted_cons.2 (sorted_cons.1 hs)
  | case4 k0 v0 r h1 h2 ih =>
    obtain ⟨hlt, hr⟩ := sorted_cons.1 hs
    refine sorted_cons.2 ⟨?_, ih hr⟩
    intro k' hk'
    rcases mem_keys_upsert.1 hk' with rfl | h
    · omega
    · exact hlt k' h

/-- (needs distinct keys: `erase` removes the first entry only)
    The cases of `erase k m` are those of `find? k m`. -/
theorem find?_erase {k k' : Nat} {m : List (Nat × β)} (hs : Sorted m) :
    find? k' (erase k m) = if k' = k then none else find? k' m := by
  fun_induction erase k m with
  | case1 => simp
  | case2 v0 r =>
    rw [find?_cons]
    split
    · rename_i h2
      rw [h2]
      exact find?_eq_none_of_lt (sorted_cons.1 hs).1
    · rename_i h2
      rw [if_neg (Ne.symm h2)]
  | case3 k0 v0 r h1 ih =>
    rw [find?_cons, find?_cons, ih (sorted_cons.1 hs).2]
    split
    · rename_i h2
      rw [if_neg (fun e => h1 (h2.trans e))]
    · rfl

theorem mem_keys_erase {k k' : Nat} {m : List (Nat × β)} (hs : Sorted m) :
    k' ∈ keys (erase k m) ↔ k' ≠ k ∧ k' ∈ keys m := by
  rw [← find?_isSome_iff_mem_keys, ← find?_isSome_iff_mem_keys, find?_erase hs]
  by_cases h : k' = k <;> simp [h]

theorem erase_sublist (k : Nat) (m : List (Nat × β)) : (erase k m).Sublist m := by
  fun_induction erase k m with
  | case1 => exact List.Sublist.refl _
  | case2 => exact List.sublist_cons_self _ _
  | case3 _ _ _ _ ih => exact ih.cons_cons _

theorem sorted_erase {k : Nat} {m : List (Nat × β)} (hs : Sorted m) : Sorted (erase k m) :=
  hs.of_sublist ((erase_sublist k m).map _)

theorem length_erase {k : Nat} {m : List (Nat × β)} (h : (find? k m).isSome) :
    (erase k m).length + 1 = m.length := by
  fun_induction erase k m with
  | case1 => cases h
  | case2 => rfl
  | case3 k0 v0 r h1 ih =>
    rw [find?_cons, if_neg h1] at h
    rw [List.length_cons, ih h, List.length_cons]

theorem sorted_orInsert {k : Nat} {d : β} {m : List (Nat × β)} (hs : Sorted m) : Sorted (orInsert k d m) := by
  unfold orInsert
  split
  · exact hs
  · exact sorted_upsert hs

theorem find?_orInsert (k k' : Nat) (d : β) (m : List (Nat × β)) :
    find? k' (orInsert k d m) = if k = k' ∧ find? k m = none then some d else find? k' m := by
  unfold orInsert
  cases h : find? k m with
  | none => simp [find?_upsert]
  | some v => simp

theorem getD_find?_orInsert_nil (k k' : Nat) (m : List (Nat × List β)) :
    (find? k' (orInsert k [] m)).getD [] = (find? k' m).getD [] := by
  rw [find?_orInsert]
  split
  · rename_i c
    rw [← c.1, c.2]
    rfl
  · rfl

theorem keys_map (f : β → γ) (m : List (Nat × β)) : keys (m.map fun e => (e.1, f e.2)) = keys m := by
  simp [keys, List.map_map, Function.comp_def]

theorem sorted_map (f : β → γ) {m : List (Nat × β)} (hs : Sorted m) : Sorted (m.map fun e => (e.1, f e.2)) :=
  hs.of_sublist (by rw [keys_map]; exact List.Sublist.refl _)

theorem find?_map (f : β → γ) (k : Nat) (m : List (Nat × β)) :
    find? k (m.map fun e => (e.1, f e.2)) = (find? k m).map f := by
  induction m with
  | nil => rfl
  | cons e r ih =>
    obtain ⟨k0, v0⟩ := e
    simp only [List.map_cons, find?_cons, ih]
    split <;> rfl

theorem sorted_filterMap (g : Nat → β → Option γ) {m : List (Nat × β)} (hs : Sorted m) :
    Sorted (m.filterMap fun e => (g e.1 e.2).map fun x => (e.1, x)) :=
  List.pairwise_map.2 <| (List.pairwise_map.1 hs).filterMap _ fun _ _ h _ hb _ hb' => by
    obtain ⟨_, _, rfl⟩ := Option.map_eq_some_iff.1 hb
    obtain ⟨_, _, rfl⟩ := Option.map_eq_some_iff.1 hb'
    exact h

/-- (needs distinct keys) -/
theorem find?_filterMap (g : Nat → β → Option γ) (k : Nat) {m : List (Nat × β)} (hs : Sorted m) :
    find? k (m.filterMap fun e => (g e.1 e.2).map fun x => (e.1, x)) = (find? k m).bind (g k) := by
  induction m with
  | nil => rfl
  | cons e r ih =>
    obtain ⟨k0, v0⟩ := e
    obtain ⟨hlt, hr⟩ := sorted_cons.1 hs
    rw [List.filterMap_cons, find?_cons]
    by_cases h : k0 = k
    · subst h
      rw [if_pos rfl, Option.bind_some]
      cases hg : g k0 v0 with
      | none => rw [Option.map_none, ih hr, find?_eq_none_of_lt hlt, Option.bind_none]
      | some x => rw [Option.map_some, find?_cons, if_pos rfl]
    · rw [if_neg h]
      cases g k0 v0 with
      | none => exact ih hr
      | some x =>
        rw [Option.map_some, find?_cons, if_neg h]
        exact ih hr

theorem upsert_map (f : β → γ) (k : Nat) (v : β) (m : List (Nat × β)) :
    upsert k (f v) (m.map fun e => (e.1, f e.2)) = (upsert k v m).map fun e => (e.1, f e.2) := by
  induction m with
  | nil => rfl
  | cons e r ih =>
    obtain ⟨k0, v0⟩ := e
    simp only [List.map_cons, upsert]
    split
    · rfl
    · split
      · rfl
      · rw [List.map_cons, ih]

theorem erase_map (f : β → γ) (k : Nat) (m : List (Nat × β)) :
    erase k (m.map fun e => (e.1, f e.2)) = (erase k m).map fun e => (e.1, f e.2) := by
  induction m with
  | nil => rfl
  | cons e r ih =>
    obtain ⟨k0, v0⟩ := e
    simp only [List.map_cons, erase]
    split
    · rfl
    · rw [List.map_cons, ih]

theorem orInsert_map (f : β → γ) (k : Nat) (d : β) (m : List (Nat × β)) :
    orInsert k (f d) (m.map fun e => (e.1, f e.2)) = (orInsert k d m).map fun e => (e.1, f e.2) := by
  unfold orInsert
  rw [find?_map]
  cases find? k m with
  | none =>
    simp only [Option.map_none]
    exact upsert_map f k d m
  | some v => rfl

theorem isSome_find?_orInsert {β : Type} {t t' : Nat} {d : β} {m : List (Nat × β)}
    (h : t = t' ∨ (find? t' m).isSome = true) : (find? t' (orInsert t d m)).isSome = true := by
  rw [find?_orInsert]
  split
  · rfl
  · rename_i c
    rcases h with rfl | h
    · cases hf : find? t m with
      | none => exact absurd ⟨rfl, hf⟩ c
      | some _ => rfl
    · exact h

theorem sum_upsert {β : Type} (k : Nat) (v : List β) {m : List (Nat × List β)} (hs : Sorted m) :
    ((upsert k v m).map fun e => e.2.length).sum + ((find? k m).getD []).length =
      (m.map fun e => e.2.length).sum + v.length := by
  fun_induction upsert k v m with
  | case1 => simp
  | case2 k0 v0 r h1 =>
    rw [find?_eq_none_of_lt (hs.lt_of_lt_head h1)]
    simp only [List.map_cons, List.sum_cons, Option.getD_none, List.length_nil]
    omega
  | case3 v0 r =>
    simp only [find?_cons, if_true, List.map_cons, List.sum_cons, Option.getD_some]
    omega
  | case4 k0 v0 r h1 h2 ih =>
    simp only [find?_cons, if_neg (Ne.symm h2), List.map_cons, List.sum_cons]
    have := ih (sorted_cons.1 hs).2
    omega

theorem length_upsert_of_none {β : Type} {k : Nat} {v : β} {m : List (Nat × β)} (h : find? k m = none) :
    (upsert k v m).length = m.length + 1 := by
  fun_induction upsert k v m with
  | case1 => rfl
  | case2 => rfl
  | case3 => simp [find?_cons] at h
  | case4 k0 v0 r h1 h2 ih =>
    rw [find?_cons, if_neg (Ne.symm h2)] at h
    rw [List.length_cons, ih h, List.length_cons]

theorem length_upsert_of_some {β : Type} {k : Nat} {v : β} {m : List (Nat × β)} (hs : Sorted m)
    (h : (find? k m).isSome = true) : (upsert k v m).length = m.length := by
  fun_induction upsert k v m with
  | case1 => cases h
  | case2 k0 v0 r h1 =>
    rw [find?_eq_none_of_lt (hs.lt_of_lt_head h1)] at h
    cases h
  | case3 => rfl
  | case4 k0 v0 r h1 h2 ih =>
    rw [find?_cons, if_neg (Ne.symm h2)] at h
    rw [List.length_cons, List.length_cons, ih (sorted_cons.1 hs).2 h]

/-- `init_states` starts the clients in index order -/
theorem upsert_of_lt {β : Type} {i : Nat} (v : β) {m : List (Nat × β)} (hlt : ∀ k ∈ keys m, k < i) :
    upsert i v m = m ++ [(i, v)] := by
  fun_induction upsert i v m with
  | case1 => rfl
  | case2 k0 v0 r h1 => exact absurd h1 (Nat.lt_asymm (hlt k0 List.mem_cons_self))
  | case3 => exact absurd (hlt i List.mem_cons_self) (Nat.lt_irrefl i)
  | case4 k0 v0 r h1 h2 ih => rw [ih fun k hk => hlt k (List.mem_cons_of_mem _ hk), List.cons_append]

theorem sum_orInsert_nil {β : Type} (k : Nat) {m : List (Nat × List β)} (hs : Sorted m) :
    ((orInsert k [] m).map fun e => e.2.length).sum = (m.map fun e => e.2.length).sum := by
  unfold orInsert
  cases hf : find? k m with
  | some x => rfl
  | none =>
    have := sum_upsert k [] hs
    rw [hf] at this
    exact this

theorem sum_upsert_push {β : Type} (k : Nat) (x : β) {m : List (Nat × List β)} (hs : Sorted m) :
    ((upsert k ((find? k m).getD [] ++ [x]) m).map fun e => e.2.length).sum = (m.map fun e => e.2.length).sum + 1 := by
  have := sum_upsert k ((find? k m).getD [] ++ [x]) hs
  rw [List.length_append, List.length_singleton] at this
  omega

end SR.Sem.AMap
