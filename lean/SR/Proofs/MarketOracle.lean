import SR.Drv.C05
/-! The bookkeeping oracle `o-mk` (`Drv.C05.oracle`, `oracleEnd`) restated for proofs: `oracleR` is the copy of the oracle they
unfold, `opre` its check before an event, `oact` its action on one. -/
namespace SR.C05Oracle
open SR SR.Drv.C05

def known (o : Obs) : Bool := o.shutSeen || o.dropSeen

/-- what `pop` (`isWake = false`) and `wake` share -/
def opop (k : Nat) (o0 : Obs) (w : Nat) (isWake : Bool) (r : SExp) (cont : Obs → Except String Obs) :
    Except String Obs :=
  let closedKnown := known o0
  let o := { o0 with parked := o0.parked.erase w, mustWake := o0.mustWake.erase w }
  match r with
  | .atom "park" =>
    if !o.market.isEmpty then .error "worker-sleeps-while-jobs-are-on-the-market"
    else if o.emptyBatches > 0 then .error "worker-sleeps-while-a-batch-is-on-the-market"
    else if (awake o k).all (· == w) then .error "everybody-asleep:nobody-left-to-wake-them"
    else if !isWake && closedKnown then .error "pop-sleeps-on-a-closed-market"
    else cont { o with parked := w :: o.parked }
  | r =>
    match resToks? r with
    | none => .error "malformed-result"
    | some [] =>
      cont { o with emptyBatches := o.emptyBatches - 1 }
    | some b =>
      if o.dropSeen then .error "jobs-handed-out-after-a-drop"
      else if !isWake && o.shutSeen then .error "pop-hands-out-jobs-on-a-closed-market"
      else match eraseAll? o.market b with
        | none => .error "job-handed-out-that-is-not-on-the-market(duplicated-or-invented)"
        | some m' =>
          cont { o with market := m', locs := o.locs.set w (o.locs.getD w [] ++ b) }

def opre (k : Nat) (o : Obs) : Ev → Option String
  | .wake w => if o.parked.contains w then none else some "wake-of-a-worker-that-was-not-asleep"
  | .pop w | .push w _ | .split w | .work w _ _ | .drop w =>
    if !(decide (w < k) && !o.parked.contains w && !o.exited.contains w) then some "harness:inactive-worker-acts"
    else if !o.mustWake.isEmpty then some "a-worker-asleep-at-a-stop-did-not-wake"
    else none
  | _ => if !o.mustWake.isEmpty then some "a-worker-asleep-at-a-stop-did-not-wake" else none

def oact (k : Nat) (o : Obs) (e : Ev) (r : SExp) (cont : Obs → Except String Obs) : Except String Obs :=
    let closedKnown := known o
    match e with
    | .xpush toks =>
      if toks.any (o.created.contains ·) then .error "harness:token-reused"
      else
        let o := { o with created := toks ++ o.created }
        if closedKnown then cont o
        else if toks.isEmpty then cont { o with emptyBatches := o.emptyBatches + 1 }
        else cont { o with market := toks ++ o.market }
    | .pop w => opop k o w false r cont
    | .wake w => opop k o w true r cont
    | .push w n =>
      let loc := o.locs.getD w []
      let o' := { o with locs := o.locs.set w (loc.drop n) }
      if closedKnown then cont o'
      else if (loc.take n).isEmpty then cont { o' with emptyBatches := o'.emptyBatches + 1 }
      else cont { o' with market := loc.take n ++ o'.market }
    | .split w =>
      match resToks? r with
      | none => .error "malformed-result"
      | some after =>
        let loc := o.locs.getD w []
        if closedKnown then
          if after.isEmpty then cont { o with locs := o.locs.set w [] }
          else .error "split-on-a-closed-market-kept-jobs"
        else match eraseAll? loc after with
          | none => .error "split-invented-or-duplicated-jobs"
          | some rest => cont { o with locs := o.locs.set w after, market := rest ++ o.market }
    | .work w c fresh =>
      if fresh.any (o.created.contains ·) then .error "harness:token-reused"
      else
        let loc := o.locs.getD w []
        cont { o with locs := o.locs.set w (fresh ++ loc.take (loc.length - c)), created := fresh ++ o.created }
    | .drop w =>
      cont { o with exited := w :: o.exited, locs := o.locs.set w [], dropSeen := true, market := [],
                        emptyBatches := 0, mustWake := o.parked }
    | .xdrop =>
      cont { o with dropSeen := true, market := [], emptyBatches := 0, mustWake := o.parked }
    | .tfire => cont { o with shutSeen := true }
    | .clone => cont o
    | .closed =>
      match r.bool? with
      | none => .error "malformed-result"
      | some b =>
        if b && !(o.market.isEmpty && o.emptyBatches == 0) then .error "is_closed-with-jobs-on-the-market"
        else if b then cont { o with shutSeen := true }
        else cont o
    | .shut =>
      match r.bool? with
      | none => .error "malformed-result"
      | some b =>
        if !b && closedKnown then .error "market-reopened-or-stop-not-visible"
        else if b && !closedKnown then
          if !o.market.isEmpty then .error "closed-by-last-worker-with-jobs-on-the-market"
          else cont { o with shutSeen := true, mustWake := o.parked }
        else cont o

/-- the body of `oracleR` for one event, the recursive call replaced by `cont` (`oracle_cons`, by `rfl`) -/
def obody (k : Nat) (o : Obs) (e : Ev) (r : SExp) (cont : Obs → Except String Obs) : Except String Obs :=
  match opre k o e with
  | some err => .error err
  | none => oact k o e r cont

/-- `Drv.C05.oracle` word for word (`oracle_eq_oracleR`).  Its `.split` clause checks conservation only (`eraseAll?`), not
    WHICH jobs are kept: C05 does not pin that. -/
def oracleR (k : Nat) : Obs → List Ev → List SExp → Except String Obs
  | o, [], [] => .ok o
  | _, [], _ => .error "malformed"
  | _, _, [] => .error "malformed"
  | o, e :: es, r :: rs =>
    let closedKnown := o.shutSeen || o.dropSeen
    let active (w : Nat) : Bool := w < k && !o.parked.contains w && !o.exited.contains w
    let pre : Option String := match e with
      | .wake w => if o.parked.contains w then none else some "wake-of-a-worker-that-was-not-asleep"
      | .pop w | .push w _ | .split w | .work w _ _ | .drop w =>
        if !active w then some "harness:inactive-worker-acts"
        else if !o.mustWake.isEmpty then some "a-worker-asleep-at-a-stop-did-not-wake"
        else none
      | _ => if !o.mustWake.isEmpty then some "a-worker-asleep-at-a-stop-did-not-wake" else none
    match pre with
    | some err => .error err
    | none =>
    let popLike (w : Nat) (isWake : Bool) : Except String Obs :=
      let o := { o with parked := o.parked.erase w, mustWake := o.mustWake.erase w }
      match r with
      | .atom "park" =>
        if !o.market.isEmpty then .error "worker-sleeps-while-jobs-are-on-the-market"
        else if o.emptyBatches > 0 then .error "worker-sleeps-while-a-batch-is-on-the-market"
        else if (awake o k).all (· == w) then .error "everybody-asleep:nobody-left-to-wake-them"
        else if !isWake && closedKnown then .error "pop-sleeps-on-a-closed-market"
        else oracleR k { o with parked := w :: o.parked } es rs
      | r =>
        match resToks? r with
        | none => .error "malformed-result"
        | some [] =>
          oracleR k { o with emptyBatches := o.emptyBatches - 1 } es rs
        | some b =>
          if o.dropSeen then .error "jobs-handed-out-after-a-drop"
          else if !isWake && o.shutSeen then .error "pop-hands-out-jobs-on-a-closed-market"
          else match eraseAll? o.market b with
            | none => .error "job-handed-out-that-is-not-on-the-market(duplicated-or-invented)"
            | some m' =>
              oracleR k { o with market := m', locs := o.locs.set w (o.locs.getD w [] ++ b) } es rs
    match e with
    | .xpush toks =>
      if toks.any (o.created.contains ·) then .error "harness:token-reused"
      else
        let o := { o with created := toks ++ o.created }
        if closedKnown then oracleR k o es rs
        else if toks.isEmpty then oracleR k { o with emptyBatches := o.emptyBatches + 1 } es rs
        else oracleR k { o with market := toks ++ o.market } es rs
    | .pop w => popLike w false
    | .wake w => popLike w true
    | .push w n =>
      let loc := o.locs.getD w []
      let o' := { o with locs := o.locs.set w (loc.drop n) }
      if closedKnown then oracleR k o' es rs
      else if (loc.take n).isEmpty then oracleR k { o' with emptyBatches := o'.emptyBatches + 1 } es rs
      else oracleR k { o' with market := loc.take n ++ o'.market } es rs
    | .split w =>
      match resToks? r with
      | none => .error "malformed-result"
      | some after =>
        let loc := o.locs.getD w []
        if closedKnown then
          if after.isEmpty then oracleR k { o with locs := o.locs.set w [] } es rs
          else .error "split-on-a-closed-market-kept-jobs"
        else match eraseAll? loc after with
          | none => .error "split-invented-or-duplicated-jobs"
          | some rest => oracleR k { o with locs := o.locs.set w after, market := rest ++ o.market } es rs
    | .work w c fresh =>
      if fresh.any (o.created.contains ·) then .error "harness:token-reused"
      else
        let loc := o.locs.getD w []
        oracleR k { o with locs := o.locs.set w (fresh ++ loc.take (loc.length - c)), created := fresh ++ o.created } es rs
    | .drop w =>
      oracleR k { o with exited := w :: o.exited, locs := o.locs.set w [], dropSeen := true, market := [],
                         emptyBatches := 0, mustWake := o.parked } es rs
    | .xdrop =>
      oracleR k { o with dropSeen := true, market := [], emptyBatches := 0, mustWake := o.parked } es rs
    | .tfire => oracleR k { o with shutSeen := true } es rs
    | .clone => oracleR k o es rs
    | .closed =>
      match r.bool? with
      | none => .error "malformed-result"
      | some b =>
        if b && !(o.market.isEmpty && o.emptyBatches == 0) then .error "is_closed-with-jobs-on-the-market"
        else if b then oracleR k { o with shutSeen := true } es rs
        else oracleR k o es rs
    | .shut =>
      match r.bool? with
      | none => .error "malformed-result"
      | some b =>
        if !b && closedKnown then .error "market-reopened-or-stop-not-visible"
        else if b && !closedKnown then
          if !o.market.isEmpty then .error "closed-by-last-worker-with-jobs-on-the-market"
          else oracleR k { o with shutSeen := true, mustWake := o.parked } es rs
        else oracleR k o es rs

theorem oracle_cons (k : Nat) (o : Obs) (e : Ev) (es : List Ev) (r : SExp) (rs : List SExp) :
    oracleR k o (e :: es) (r :: rs) = obody k o e r (fun o' => oracleR k o' es rs) := by
  rfl

/-- both unfold to `obody` by `rfl` -/
theorem oracle_eq_oracleR : @oracle = @oracleR := by
  funext k o evs rs
  induction evs generalizing o rs with
  | nil => cases rs <;> rfl
  | cons e es ih =>
    cases rs with
    | nil => rfl
    | cons r rs =>
      have hb : oracle k o (e :: es) (r :: rs) = obody k o e r (fun o' => oracle k o' es rs) := rfl
      rw [hb, oracle_cons, funext fun o' => ih o' rs]

/-- the shape of `opre` on a worker's own event -/
theorem pre_worker {a m : Bool} {x y : String} :
    (if (!a) = true then some x else if (!m) = true then some y else none) = none ↔ a = true ∧ m = true := by
  cases a <;> cases m <;> simp

/-- the shape of `opre` on the owner's events -/
theorem pre_other {m : Bool} {y : String}
    (h : (if (!m) = true then some y else none) = none) : m = true := by
  cases m <;> simp at h ⊢

theorem active_iff {k w : Nat} {P X : List Nat} :
    (decide (w < k) && !P.contains w && !X.contains w) = true ↔ w < k ∧ w ∉ P ∧ w ∉ X := by
  simp [and_assoc]

def actor : Ev → Option Nat
  | .pop w | .push w _ | .split w | .work w _ _ | .drop w => some w
  | _ => none

theorem obody_of_pre {k o e r cont} (h : opre k o e = none) : obody k o e r cont = oact k o e r cont := by
  unfold obody
  rw [h]

theorem opre_worker {k o e w} (he : actor e = some w) :
    opre k o e = none ↔ (w < k ∧ w ∉ o.parked ∧ w ∉ o.exited) ∧ o.mustWake = [] := by
  cases e <;> cases he
  all_goals exact pre_worker.trans (and_congr active_iff List.isEmpty_iff)

theorem opre_wake {k o w} : opre k o (.wake w) = none ↔ w ∈ o.parked := by simp [opre]

/-- an atom is no token list (`resToks?` is `SExp.nats?`, hence the name): `park` is never read as a batch -/
theorem nats?_atom (a : String) : resToks? (.atom a) = none := rfl

theorem resToks?_list {r : SExp} {b : List Nat} (h : resToks? r = some b) : ∃ xs, r = .list xs := by
  cases r with
  | atom a => simp [nats?_atom] at h
  | list xs => exact ⟨xs, rfl⟩

theorem awake_all {o : Obs} {k w : Nat} :
    (awake o k).all (· == w) = false ↔ ∃ v, v ≠ w ∧ v < k ∧ v ∉ o.parked ∧ v ∉ o.exited := by
  simp [awake, and_comm, and_left_comm]

theorem oracleEnd_none_iff (o : Obs) :
    oracleEnd o = none ↔ o.mustWake = [] ∧ (known o = false → o.market = []) := by
  unfold oracleEnd known
  cases o.mustWake <;> cases o.shutSeen <;> cases o.dropSeen <;> cases o.market <;> simp

/-- the answer of `o-mk` on parsed arguments -/
def verdict (k : Nat) (evs : List Ev) (rs : List SExp) : String :=
  match oracleR k { locs := List.replicate k [] } evs rs with
  | .error err => err
  | .ok o => (oracleEnd o).getD "ok"

/-- the same with `Drv.C05.oracle`, as `handle` computes it -/
def verdictLive (k : Nat) (evs : List Ev) (rs : List SExp) : String :=
  match oracle k { locs := List.replicate k [] } evs rs with
  | .error err => err
  | .ok o => (oracleEnd o).getD "ok"

theorem handle_omk {ksx tcsx esx : SExp} {k : Nat} {evs : List Ev} (rs : List SExp) (hk : ksx.nat? = some k)
    (he : esx.listOf? evOf? = some evs) :
    Drv.C05.handle "o-mk" [ksx, tcsx, esx, .list rs] = some (verdictLive k evs rs) := by
  show (do let k ← ksx.nat?; let evs ← esx.listOf? evOf?; let rs ← (SExp.list rs).list?
           pure (verdictLive k evs rs)) = _
  rw [hk, he]
  rfl

theorem verdictLive_eq : verdictLive = verdict := by
  funext k evs rs
  simp only [verdictLive, verdict, oracle_eq_oracleR]

end SR.C05Oracle
