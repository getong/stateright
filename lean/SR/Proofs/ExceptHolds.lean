/-!
Partial correctness for `Except` programs.  The `iff` lemmas take a `do` block apart along its structure (`simp only`
with them leaves one implication per `←` and per surviving branch of an `if`, branches that throw disappear), so a proof
about a validator written in `Except` names only the facts about the calls it makes.  The last three lemmas read an
`Except` result through `toOption`.
-/
namespace Except
variable {ε α β : Type}

def Holds (m : Except ε α) (Q : α → Prop) : Prop := ∀ a, m = .ok a → Q a

theorem Holds.ok {m : Except ε α} {Q : α → Prop} {a : α} (h : m.Holds Q) (e : m = .ok a) : Q a := h a e

theorem holds_ok {a : α} {Q : α → Prop} : (Except.ok a : Except ε α).Holds Q ↔ Q a :=
  ⟨fun h => h a rfl, fun h _ e => Except.ok.inj e ▸ h⟩

theorem holds_pure {a : α} {Q : α → Prop} : (pure a : Except ε α).Holds Q ↔ Q a := holds_ok

theorem holds_error {e : ε} {Q : α → Prop} : (Except.error e : Except ε α).Holds Q := fun _ h => nomatch h

theorem holds_throw {e : ε} {Q : α → Prop} : (throw e : Except ε α).Holds Q := holds_error

theorem holds_bind {m : Except ε α} {f : α → Except ε β} {Q : β → Prop} :
    (m >>= f).Holds Q ↔ m.Holds fun a => (f a).Holds Q := by
  cases m with
  | error e => exact ⟨fun _ _ h => (nomatch h), fun _ _ h => (nomatch h)⟩
  | ok a => exact ⟨fun h _ e => Except.ok.inj e ▸ h, fun h => h a rfl⟩

theorem holds_ite {c : Prop} [Decidable c] {t e : Except ε α} {Q : α → Prop} :
    (if c then t else e).Holds Q ↔ (c → t.Holds Q) ∧ (¬c → e.Holds Q) := by
  split <;> simp [*]

theorem Holds.mono {m : Except ε α} {Q Q' : α → Prop} (h : m.Holds Q) (hq : ∀ a, Q a → Q' a) : m.Holds Q' :=
  fun a e => hq a (h a e)

theorem toOption_bind (x : Except ε α) (g : α → Except ε β) :
    (x >>= g).toOption = x.toOption.bind fun a => (g a).toOption := by
  cases x <;> rfl

theorem toOption_eq_some {x : Except ε α} {a : α} : x.toOption = some a ↔ x = .ok a := by
  cases x with
  | error e => exact ⟨nofun, nofun⟩
  | ok b => exact ⟨fun h => congrArg Except.ok (Option.some.inj h), fun h => congrArg some (Except.ok.inj h)⟩

theorem toOption_eq_none {x : Except ε α} : x.toOption = none ↔ ∃ e, x = .error e := by
  cases x with
  | error e => exact ⟨fun _ => ⟨e, rfl⟩, fun _ => rfl⟩
  | ok b => exact ⟨nofun, fun h => nomatch h⟩

end Except
