import SR.Proofs.Runtime
/-!
Soundness of the acceptance predicate `SR.Loop.accepts` (`accept_sound`): whatever the machine can do, strict or not, the
acceptance (non-strict) machine `relax C` accepts after canonisation: a log is only ever rejected if the implementation did
something the loop machine cannot do.

The simulation `Rel s a`, between a state `s` of the run and the acceptance state `a` reached on the canonical events: `a` stays
alive (`canonAux` drops `zeroWait`), its clock lags, and every interrupt armed in `s` is armed in `a`, no later.
-/
namespace SR.Loop
open SR.IdCodec
variable {σ μ τ ρ : Type} [DecidableEq τ] [DecidableEq ρ] [DecidableEq σ]

def IntsLe (ints ints' : List (Key τ ρ × Nat)) : Prop :=
  ∀ k d, (k, d) ∈ ints → ∃ d', (k, d') ∈ ints' ∧ d' ≤ d

omit [DecidableEq τ] [DecidableEq ρ] [DecidableEq σ] in
theorem IntsLe.refl (ints : List (Key τ ρ × Nat)) : IntsLe ints ints :=
  fun _ d h => ⟨d, h, Nat.le_refl d⟩

omit [DecidableEq τ] [DecidableEq ρ] [DecidableEq σ] in
theorem IntsLe.trans {i₁ i₂ i₃ : List (Key τ ρ × Nat)} (h₁ : IntsLe i₁ i₂) (h₂ : IntsLe i₂ i₃) : IntsLe i₁ i₃ :=
  fun k d h =>
    have ⟨d₂, m₂, l₂⟩ := h₁ k d h
    have ⟨d₃, m₃, l₃⟩ := h₂ k d₂ m₂
    ⟨d₃, m₃, Nat.le_trans l₃ l₂⟩

omit [DecidableEq σ] in
theorem IntsLe.setInt {i i' : List (Key τ ρ × Nat)} (h : IntsLe i i') (k : Key τ ρ) {v v' : Nat} (hv : v' ≤ v) :
    IntsLe (setInt i k v) (setInt i' k v') := by
  intro k1 d hm
  rcases mem_setInt_iff.1 hm with ⟨hne, hin⟩ | heq
  · obtain ⟨d', h', hle⟩ := h k1 d hin
    exact ⟨d', mem_setInt_iff.2 (.inl ⟨hne, h'⟩), hle⟩
  · cases heq
    exact ⟨v', mem_setInt_iff.2 (.inr rfl), hv⟩

omit [DecidableEq σ] in
theorem IntsLe.modInt {i i' : List (Key τ ρ × Nat)} (h : IntsLe i i') (k : Key τ ρ) {v v' : Nat} (hv : v' ≤ v) :
    IntsLe (modInt i k v) (modInt i' k v') := by
  intro k1 d hm
  rcases mem_modInt_iff.1 hm with ⟨hne, hin⟩ | ⟨heq, d0, hin⟩
  · obtain ⟨d', h', hle⟩ := h k1 d hin
    exact ⟨d', mem_modInt_iff.2 (.inl ⟨hne, h'⟩), hle⟩
  · cases heq
    obtain ⟨d0', h0', _⟩ := h _ d0 hin
    exact ⟨v', mem_modInt_iff.2 (.inr ⟨rfl, _, h0'⟩), hv⟩

omit [DecidableEq σ] in
theorem IntsLe.eraseInt {i i' : List (Key τ ρ × Nat)} (h : IntsLe i i') (k : Key τ ρ) :
    IntsLe (eraseInt i k) (eraseInt i' k) := by
  intro k1 d hm
  obtain ⟨hin, hne⟩ := mem_eraseInt.1 hm
  obtain ⟨d', h', hle⟩ := h k1 d hin
  exact ⟨d', mem_eraseInt.2 ⟨h', hne⟩, hle⟩

omit [DecidableEq σ] in
theorem armMin_le (ints : List (Key τ ρ × Nat)) (k : Key τ ρ) (v : Nat) : IntsLe ints (armMin ints k v) := by
  intro k1 d h
  unfold armMin
  split
  · by_cases hk : k1 = k
    · exact ⟨min d v, List.mem_map.2 ⟨(k1, d), h, (if_pos hk).trans (hk ▸ rfl)⟩, Nat.min_le_left _ _⟩
    · exact ⟨d, List.mem_map.2 ⟨(k1, d), h, if_neg hk⟩, Nat.le_refl _⟩
  · exact ⟨d, List.mem_append_left _ h, Nat.le_refl _⟩

omit [DecidableEq σ] in
theorem armMin_self (ints : List (Key τ ρ × Nat)) (k : Key τ ρ) (v : Nat) :
    ∃ d', (k, d') ∈ armMin ints k v ∧ d' ≤ v := by
  unfold armMin
  split
  · rename_i hany
    obtain ⟨d, hd⟩ := any_key_iff.1 hany
    exact ⟨min d v, List.mem_map.2 ⟨(k, d), hd, if_pos rfl⟩, Nat.min_le_right _ _⟩
  · exact ⟨v, List.mem_append_right _ (List.mem_singleton.2 rfl), Nat.le_refl _⟩

omit [DecidableEq σ] in
theorem foldl_armMin_le {vals : List ρ} {ints : List (Key τ ρ × Nat)} {t : Nat} {k1 : Key τ ρ} {d : Nat}
    (h : (k1, d) ∈ ints) :
    ∃ d', (k1, d') ∈ vals.foldl (fun acc v => armMin acc (.random v) t) ints ∧ d' ≤ d := by
  induction vals generalizing ints d with
  | nil => exact ⟨d, h, Nat.le_refl _⟩
  | cons v r ih =>
    obtain ⟨d1, h1, hle1⟩ := armMin_le ints (.random v) t k1 d h
    obtain ⟨d2, h2, hle2⟩ := ih h1
    exact ⟨d2, h2, Nat.le_trans hle2 hle1⟩

omit [DecidableEq σ] in
theorem foldl_armMin_mem {vals : List ρ} {ints : List (Key τ ρ × Nat)} {t : Nat} {v : ρ}
    (hv : v ∈ vals) :
    ∃ d', (Key.random v, d') ∈ vals.foldl (fun acc v => armMin acc (.random v) t) ints ∧ d' ≤ t := by
  induction vals generalizing ints with
  | nil => cases hv
  | cons x r ih =>
    rcases List.mem_cons.1 hv with rfl | hr
    · obtain ⟨d1, h1, hle1⟩ := armMin_self ints (.random v) t
      obtain ⟨d2, h2, hle2⟩ := foldl_armMin_le (vals := r) (t := t) h1
      exact ⟨d2, h2, Nat.le_trans hle2 hle1⟩
    · exact ih hr

omit [DecidableEq σ] in
/-- (`Loop.setInt`: plain `setInt` would be the lemma `IntsLe.setInt` here) -/
theorem IntsLe.choose {i i' : List (Key τ ρ × Nat)} (h : IntsLe i i') {vals : List ρ} {v : ρ} (hv : v ∈ vals)
    {t d : Nat} (hd : t ≤ d) :
    IntsLe (Loop.setInt i (.random v) d) (vals.foldl (fun acc v => armMin acc (.random v) t) i') := by
  intro k1 d1 hm
  rcases mem_setInt_iff.1 hm with ⟨_, hin⟩ | heq
  · exact h.trans (fun _ _ => foldl_armMin_le) k1 d1 hin
  · cases heq
    obtain ⟨d', h', hle⟩ := foldl_armMin_mem (ints := i') (t := t) hv
    exact ⟨d', h', Nat.le_trans hle hd⟩

omit [DecidableEq σ] in
theorem IntsLe.armMin {i i' : List (Key τ ρ × Nat)} (h : IntsLe i i') (k : Key τ ρ) {v v' : Nat} (hv : v' ≤ v) :
    IntsLe (armMin i k v) (armMin i' k v') := by
  intro k1 d hm
  have dom : ∀ d0, (k1, d0) ∈ i → d0 ≤ d → ∃ d', (k1, d') ∈ Loop.armMin i' k v' ∧ d' ≤ d := fun d0 h0 hle =>
    have ⟨d1, h1, l1⟩ := h.trans (armMin_le i' k v') k1 d0 h0
    ⟨d1, h1, Nat.le_trans l1 hle⟩
  rcases mem_armMin hm with ⟨_, hin⟩ | ⟨rfl, hd | ⟨d0, h0, hle⟩⟩
  · exact dom d hin (Nat.le_refl _)
  · obtain ⟨d', h', hle⟩ := armMin_self i' k1 v'
    exact ⟨d', h', Nat.le_trans hle (Nat.le_trans hv hd)⟩
  · exact dom d0 h0 hle

omit [DecidableEq σ] in
theorem IntsLe.foldl_armMin {vals : List ρ} {i i' : List (Key τ ρ × Nat)} (h : IntsLe i i') {t t' : Nat} (ht : t' ≤ t) :
    IntsLe (vals.foldl (fun acc v => Loop.armMin acc (.random v) t) i)
      (vals.foldl (fun acc v => Loop.armMin acc (.random v) t') i') := by
  induction vals generalizing i i' with
  | nil => exact h
  | cons v r ih => exact ih (h.armMin _ ht)

structure Rel (s a : St σ μ τ ρ) : Prop where
  alive : a.dead = false
  now : a.now ≤ s.now
  st : a.st = s.st
  queue : a.queue = s.queue
  ints : IntsLe s.ints a.ints

omit [DecidableEq τ] [DecidableEq ρ] [DecidableEq σ] in
theorem rel_init : Rel (init : St σ μ τ ρ) (init : St σ μ τ ρ) :=
  ⟨rfl, Nat.le_refl _, rfl, rfl, IntsLe.refl _⟩

omit [DecidableEq τ] [DecidableEq ρ] [DecidableEq σ] in
theorem Rel.idle {s a : St σ μ τ ρ} (hr : Rel s a) {t : Nat} (ht : s.now ≤ t) (d : Bool) (r : List (Src × Bytes)) :
    Rel { s with now := t, dead := d, recvd := r } a :=
  { hr with now := Nat.le_trans hr.now ht }

omit [DecidableEq τ] [DecidableEq ρ] [DecidableEq σ] in
theorem Rel.handler {s a : St σ μ τ ρ} (hr : Rel s a) (t : Nat) (o : Option σ) (q : List (Cmd μ τ ρ))
    {i i' : List (Key τ ρ × Nat)} (hi : IntsLe i i') {cs cs' : List (Call σ μ τ ρ)} {r r' : List (Src × Bytes)}
    {h h' : List (TObs τ)} :
    Rel { s with now := t, st := o, queue := q, ints := i, calls := cs, recvd := r, hist := h }
      { a with now := t, st := o, queue := q, ints := i', calls := cs', recvd := r', hist := h' } :=
  ⟨hr.alive, Nat.le_refl t, rfl, rfl, hi⟩

omit [DecidableEq σ] in
theorem rel_exec {C : Cfg μ} {s a : St σ μ τ ρ} (c : Cmd μ τ ρ) {pick : Nat} (hr : Rel s a) :
    Rel (execCmd C s c s.now pick) (execCmd (relax C) a c a.now 0) := by
  rw [execCmd_eq C, execCmd_eq (relax C)]
  refine ⟨hr.alive, hr.now, hr.st, hr.queue, ?_⟩
  show IntsLe (execCmd C s c s.now pick).ints (execCmd (relax C) a c a.now 0).ints
  cases c with
  | send dst m =>
    show IntsLe (match C.ser m with | none => s | some b => _).ints (match C.ser m with | none => a | some b => _).ints
    cases C.ser m <;> exact hr.ints
  | set x lo hi =>
    refine hr.ints.setInt _ ?_
    -- with `pick = 0` the acceptance machine arms the lower bound `a.now + lo`, and `a.now ≤ s.now`
    rw [Nat.zero_mod]
    have := hr.now
    split <;> omega
  | cancel x => exact hr.ints.modInt _ (Nat.add_le_add_right hr.now _)
  | choose key vals =>
    cases vals with
    | nil => exact hr.ints
    | cons v0 rest =>
      simp only [execCmd, relax, Bool.false_eq_true, if_false]
      -- a strict `C` arms the one chosen value, a non-strict one every candidate, as the acceptance machine does
      split
      · exact hr.ints.choose (getD_mod_length_mem v0 rest pick) (Nat.le_trans hr.now (Nat.le_add_right _ _))
      · exact hr.ints.foldl_armMin hr.now

/-- the acceptance machine's clock stands at the time of the last handler event, which is where `canonAux` puts the
`exec`s -/
theorem accept_sound_aux {C : Cfg μ} (es : List (Ev σ μ τ ρ))
    {s a s' : St σ μ τ ρ} (hr : Rel s a) (h : run C s es = some s') :
    ∃ a', run (relax C) a (canonAux a.now es) = some a' ∧ Rel s' a' := by
  induction es generalizing s a with
  | nil => exact ⟨a, rfl, Option.some.inj h ▸ hr⟩
  | cons e r ih =>
    obtain ⟨s1, hs1, h⟩ := run_cons.1 h
    cases e with
    | start t out cmds =>
      obtain ⟨_, hst, hq, ht, rfl⟩ := step_start_iff.1 hs1
      obtain ⟨a', ha', hr'⟩ := ih (hr.handler t (some out) cmds hr.ints) h
      exact ⟨a', run_cons.2 ⟨_, step_start_iff.2 ⟨hr.alive, hr.st.trans hst, hr.queue.trans hq, Nat.le_trans hr.now ht, rfl⟩, ha'⟩, hr'⟩
    | exec t pick =>
      obtain ⟨c, q, hq, _, ht, rfl⟩ := step_exec_iff.1 hs1
      have hr0 : Rel { s with now := t, queue := q } { a with queue := q } :=
        ⟨hr.alive, Nat.le_trans hr.now ht, hr.st, rfl, hr.ints⟩
      obtain ⟨a', ha', hr'⟩ := ih (rel_exec c (pick := pick) hr0) h
      rw [execCmd_now] at ha'
      exact ⟨a', run_cons.2 ⟨_, step_exec_iff.2 ⟨c, q, hr.queue.trans hq, hr.alive, Nat.le_refl _, rfl⟩, ha'⟩, hr'⟩
    | msg t x bytes stIn out cmds =>
      obtain ⟨m, hm, _, hst, hq, ht, _, rfl⟩ := step_msg_iff.1 hs1
      obtain ⟨a', ha', hr'⟩ := ih (hr.handler t (some out) cmds hr.ints) h
      exact ⟨a', run_cons.2 ⟨_, step_msg_iff.2 ⟨m, hm, hr.alive, hr.st.trans hst, hr.queue.trans hq, Nat.le_trans hr.now ht, rfl, rfl⟩,
        ha'⟩, hr'⟩
    | drop _ _ _ | idle _ | zeroWait _ =>
      obtain ⟨_, ht, d, r, _, rfl⟩ := step_silent rfl hs1
      exact ih (hr.idle ht d r) h
    | fire t k stIn out cmds =>
      obtain ⟨_, hst, hq, ht, hf, rfl⟩ := step_fire_iff.1 hs1
      have hfa : fireable (relax C) a k t = true := by
        obtain ⟨d, hin, hd⟩ := fireable_overdue hf
        obtain ⟨d', h', hle⟩ := hr.ints _ d hin
        simp only [fireable, List.any_eq_true, Bool.and_eq_true, decide_eq_true_eq]
        exact ⟨(k, d'), h', ⟨rfl, Nat.lt_of_le_of_lt hle hd⟩, rfl⟩
      obtain ⟨a', ha', hr'⟩ := ih (hr.handler t (some out) cmds (hr.ints.eraseInt k)) h
      exact ⟨a', run_cons.2 ⟨_, step_fire_iff.2 ⟨hr.alive, hr.st.trans hst, hr.queue.trans hq, Nat.le_trans hr.now ht, hfa, rfl⟩,
        ha'⟩, hr'⟩

/-- `hq`: a run that ends with an empty queue has executed every command of every handler event; the `exec`s in front are for
the commands queued at the start (none for a run from `init`) -/
theorem canon_eq_expand {C : Cfg μ} (es : List (Ev σ μ τ ρ)) {s s' : St σ μ τ ρ} (th : Nat)
    (h : run C s es = some s') (hq : s'.queue = []) :
    canonAux th es = s.queue.map (fun _ => Ev.exec th 0) ++ expand (es.filter isHandler) := by
  induction es generalizing s th with
  | nil =>
    cases Option.some.inj h
    rw [hq]
    rfl
  | cons e r ih =>
    obtain ⟨s1, hs1, h⟩ := run_cons.1 h
    cases e with
    | start t out cmds =>
      obtain ⟨_, _, hq0, _, rfl⟩ := step_start_iff.1 hs1
      rw [hq0]
      exact congrArg (List.cons _) (ih t h)
    | exec t pick =>
      obtain ⟨c, q, hq0, _, _, rfl⟩ := step_exec_iff.1 hs1
      rw [hq0]
      refine congrArg (List.cons _) ((ih th h).trans ?_)
      rw [execCmd_queue]
      rfl
    | msg t x bytes stIn out cmds =>
      obtain ⟨m, _, _, _, hq0, _, _, rfl⟩ := step_msg_iff.1 hs1
      rw [hq0]
      exact congrArg (List.cons _) (ih t h)
    | drop _ _ _ | idle _ | zeroWait _ =>
      obtain ⟨_, _, d, r, _, rfl⟩ := step_silent rfl hs1
      exact ih (s := { s with now := _, dead := d, recvd := r }) th h
    | fire t k stIn out cmds =>
      obtain ⟨_, _, hq0, _, _, rfl⟩ := step_fire_iff.1 hs1
      rw [hq0]
      exact congrArg (List.cons _) (ih t h)

theorem accept_sound {C : Cfg μ} {es : List (Ev σ μ τ ρ)} {s : St σ μ τ ρ}
    (h : run C init es = some s) (hq : s.queue = []) :
    accepts C (es.filter isHandler) = true ∧
    ∃ a, run (relax C) init (expand (es.filter isHandler)) = some a ∧ Rel s a := by
  obtain ⟨a, ha, hr⟩ := accept_sound_aux es rel_init h
  rw [canon_eq_expand es _ h hq] at ha
  exact ⟨congrArg Option.isSome ha, a, ha, hr⟩

end SR.Loop
