import SR.Drv.C17
import SR.Proofs.Runtime
import SR.Proofs.ListAux
import SR.Proofs.ExceptHolds
/-!
The greedy datagram matching of the runtime oracle `o-trace` (`SR.Drv.C17.eventsOf` / `takeFirst`).  First for any pool
element type `α`, receive type `ρ` and feasibility test `ok : ρ → α → Bool` (the exchange argument `greedy_exchange`), then
for the driver: `eventsOf` is `greedy okDg` (`eventsOf_toOption`), and the rest of `checkScenario`'s per-actor body
(`afterMatch`) does not depend on which feasible datagram backs an `on_msg` (`Loop.run_forget`, `afterMatch_transfer`).
-/
namespace SR.RuntimeMatch
open SR.Drv.C17 (takeFirst)

variable {α ρ : Type}

theorem takeFirst_of_split {p : α → Bool} {pre post : List α} {d : α}
    (hd : p d = true) (hpre : ∀ x ∈ pre, p x = false) :
    takeFirst p (pre ++ d :: post) = some (d, pre ++ post) := by
  induction pre with
  | nil => exact if_pos hd
  | cons a r ih =>
    rw [List.cons_append, takeFirst, if_neg (by rw [hpre a List.mem_cons_self]; exact Bool.false_ne_true),
      ih fun x hx => hpre x (List.mem_cons_of_mem a hx)]
    rfl

theorem takeFirst_cases (p : α → Bool) (l : List α) :
    (takeFirst p l = none ∧ ∀ x ∈ l, p x = false) ∨
    ∃ pre d post, l = pre ++ d :: post ∧ takeFirst p l = some (d, pre ++ post) ∧ p d = true ∧ ∀ x ∈ pre, p x = false := by
  -- the three branches of `takeFirst`: empty list, head taken, head skipped
  fun_induction takeFirst p l with
  | case1 => exact .inl ⟨rfl, nofun⟩
  | case2 a r ha => exact .inr ⟨[], a, r, rfl, rfl, ha, nofun⟩
  | case3 a r ha ih =>
    have ha := Bool.eq_false_iff.2 ha
    rcases ih with ⟨h1, h2⟩ | ⟨pre, d, post, rfl, h1, hd, hpre⟩
    · exact .inl ⟨congrArg (Option.map _) h1, List.forall_mem_cons.2 ⟨ha, h2⟩⟩
    · exact .inr ⟨a :: pre, d, post, rfl, congrArg (Option.map _) h1, hd, List.forall_mem_cons.2 ⟨ha, hpre⟩⟩

/-- the greedy pass of `eventsOf`, for an arbitrary feasibility test; result = (chosen entries in log order, left-over pool) -/
def greedy (ok : ρ → α → Bool) : List α → List ρ → Option (List α × List α)
  | pool, [] => some ([], pool)
  | pool, r :: rs =>
    match takeFirst (ok r) pool with
    | none => none
    | some (d, pool') => (greedy ok pool' rs).map fun (ch, left) => (d :: ch, left)

def Paired (ok : ρ → α → Bool) : List ρ → List α → Prop
  | [], [] => True
  | r :: rs, d :: ds => ok r d = true ∧ Paired ok rs ds
  | _, _ => False

/-- A MATCHING of the receives `rs` into the pool: the pool splits, as a multiset, into the entries `ch`
assigned to the receives (the `j`-th receive gets the `j`-th element of `ch`, which is feasible for it) and the
left-over entries `left`.  Being a split of the multiset is injectivity of the assignment: no pool entry is
used twice (`append_perm_iff_index`: such a split exists iff pairwise different positions hold `ch`). -/
structure Matching (ok : ρ → α → Bool) (pool : List α) (rs : List ρ) (ch left : List α) : Prop where
  paired : Paired ok rs ch
  split : (ch ++ left).Perm pool

theorem paired_length {ok : ρ → α → Bool} : ∀ {rs : List ρ} {ch : List α}, Paired ok rs ch → ch.length = rs.length
  | [], [], _ => rfl
  | _ :: _, _ :: _, h => by simp [paired_length h.2]
  | [], _ :: _, h => h.elim
  | _ :: _, [], h => h.elim

theorem paired_subst {ok : ρ → α → Bool} {c d : α} : ∀ {rs : List ρ} {s t : List α},
    (∀ r ∈ rs, ok r d = true → ok r c = true) → Paired ok rs (s ++ d :: t) → Paired ok rs (s ++ c :: t)
  | [], [], _, _, h => h.elim
  | [], _ :: _, _, _, h => h.elim
  | r :: _, [], _, hc, h => ⟨hc r List.mem_cons_self h.1, h.2⟩
  | _ :: _, _ :: _, _, hc, h => ⟨h.1, paired_subst (fun r hr => hc r (List.mem_cons_of_mem _ hr)) h.2⟩

theorem greedy_cons {ok : ρ → α → Bool} {r : ρ} {rs : List ρ} {pool ch left : List α}
    (h : greedy ok pool (r :: rs) = some (ch, left)) :
    ∃ pre d post ch', pool = pre ++ d :: post ∧ ch = d :: ch' ∧ ok r d = true ∧ (∀ x ∈ pre, ok r x = false) ∧
      greedy ok (pre ++ post) rs = some (ch', left) := by
  rw [greedy] at h
  rcases takeFirst_cases (ok r) pool with ⟨ht, _⟩ | ⟨pre, d, post, rfl, ht, hd, hpre⟩
  · rw [ht] at h
    cases h
  · rw [ht] at h
    obtain ⟨⟨ch', left'⟩, hg, he⟩ := Option.map_eq_some_iff.1 h
    cases he
    exact ⟨pre, d, post, ch', rfl, rfl, hd, hpre, hg⟩

theorem greedy_sound {ok : ρ → α → Bool} {rs : List ρ} : ∀ {pool ch left : List α},
    greedy ok pool rs = some (ch, left) → Matching ok pool rs ch left := by
  induction rs with
  | nil =>
    intro pool ch left h
    cases Option.some.inj h
    exact ⟨trivial, List.Perm.refl _⟩
  | cons r rs ih =>
    intro pool ch left h
    obtain ⟨pre, d, post, ch', rfl, rfl, hd, _, hg⟩ := greedy_cons h
    exact ⟨⟨hd, (ih hg).paired⟩, ((ih hg).split.cons d).trans List.perm_middle.symm⟩

/-- the exchange condition on the log; for "same key and sent no later than received" it says that same-key receives
are logged in time order -/
def Exch (ok : ρ → α → Bool) (rs : List ρ) : Prop :=
  rs.Pairwise fun r r' => ∀ c d, ok r c = true → ok r d = true → ok r' d = true → ok r' c = true

/-- the deadline condition on the pool: among entries feasible for a common receive, one that must be delivered (`must`) is
never preceded by one that need not -/
def MustPrefix (ok : ρ → α → Bool) (must : α → Bool) (pool : List α) : Prop :=
  pool.Pairwise fun a b => ∀ r, ok r a = true → ok r b = true → must b = true → must a = true

/-- one round of the exchange argument: a matching of `r :: rs` that leaves nothing due is turned into one that gives `r`
the FIRST feasible entry of the pool, the one `takeFirst` takes -/
theorem exchange_step {ok : ρ → α → Bool} {must : α → Bool} {pool : List α} {r : ρ} {rs : List ρ}
    {ch left : List α}
    (hE : ∀ r' ∈ rs, ∀ c d, ok r c = true → ok r d = true → ok r' d = true → ok r' c = true)
    (hP : MustPrefix ok must pool)
    (hM : Matching ok pool (r :: rs) ch left) (hL : ∀ x ∈ left, must x = false) :
    ∃ d pool', takeFirst (ok r) pool = some (d, pool') ∧ MustPrefix ok must pool' ∧
      ∃ ch' left', Matching ok pool' rs ch' left' ∧ ∀ x ∈ left', must x = false := by
  obtain ⟨hp, hs⟩ := hM
  cases ch with
  | nil => exact hp.elim
  | cons c ch' =>
    obtain ⟨hc, hp'⟩ := hp
    rcases takeFirst_cases (ok r) pool with ⟨_, hn⟩ | ⟨pre, d, post, rfl, ht, hd, hpre⟩
    · cases (hn c (hs.mem_iff.1 List.mem_cons_self)).symm.trans hc
    refine ⟨d, pre ++ post, ht, hP.sublist ((List.sublist_cons_self d post).append_left pre), ?_⟩
    have hs := hs.trans List.perm_middle
    -- the matching uses an entry equal to `d` for `r` itself, for a later receive, or not at all
    rcases List.mem_cons.1 (hs.mem_iff.2 List.mem_cons_self) with rfl | hm
    · exact ⟨ch', left, ⟨hp', hs.cons_inv⟩, hL⟩
    rcases List.mem_append.1 hm with hdc | hdl
    · -- `d` is assigned to a later receive `r'`: give `c` to `r'` instead
      obtain ⟨s, t, rfl⟩ := List.append_of_mem hdc
      rw [List.cons_append, List.append_assoc] at hs
      refine ⟨s ++ c :: t, left, ⟨paired_subst (fun r' hr' => hE r' hr' c d hc hd) hp', ?_⟩, hL⟩
      rw [List.append_assoc]
      exact perm_subst hs
    · -- `d` is left over: leave `c` instead; it comes after `d` in the pool, so it need not be delivered either
      obtain ⟨s, t, rfl⟩ := List.append_of_mem hdl
      rw [List.cons_append, ← List.append_assoc] at hs
      have hs' : (ch' ++ (s ++ c :: t)).Perm (pre ++ post) := by
        rw [← List.append_assoc]
        exact perm_subst hs
      refine ⟨ch', s ++ c :: t, ⟨hp', hs'⟩, ?_⟩
      have hcpost : c ∈ post :=
        (List.mem_append.1 (hs'.mem_iff.1 (List.mem_append_right _ (List.mem_append_right _ List.mem_cons_self)))).resolve_left
          fun h => Bool.false_ne_true ((hpre c h).symm.trans hc)
      have hdc := (List.pairwise_cons.1 (List.pairwise_append.1 hP).2.1).1 c hcpost r hd hc
      have hdm : must d = false := hL d (List.mem_append_right s List.mem_cons_self)
      intro x hx
      rcases List.mem_append.1 hx with h | h
      · exact hL x (List.mem_append_left _ h)
      · rcases List.mem_cons.1 h with rfl | h
        · exact Bool.eq_false_iff.2 fun hm => Bool.false_ne_true (hdm.symm.trans (hdc hm))
        · exact hL x (List.mem_append_right s (List.mem_cons_of_mem d h))

theorem greedy_exchange {ok : ρ → α → Bool} {must : α → Bool} {rs : List ρ} : ∀ {pool ch left : List α},
    Exch ok rs → MustPrefix ok must pool → Matching ok pool rs ch left → (∀ x ∈ left, must x = false) →
    ∃ chg leftg, greedy ok pool rs = some (chg, leftg) ∧ ∀ x ∈ leftg, must x = false := by
  induction rs with
  | nil =>
    intro pool ch left _ _ hM hL
    cases ch with
    | nil => exact ⟨[], pool, rfl, fun x hx => hL x (hM.split.mem_iff.2 hx)⟩
    | cons c ch' => exact hM.paired.elim
  | cons r rs ih =>
    intro pool ch left hE hP hM hL
    have hE' := List.pairwise_cons.1 hE
    obtain ⟨d, pool', ht, hP', ch', left', hM', hL'⟩ := exchange_step hE'.1 hP hM hL
    obtain ⟨chg, leftg, hg, hlg⟩ := ih hE'.2 hP' hM' hL'
    refine ⟨d :: chg, leftg, ?_, hlg⟩
    rw [greedy, ht]
    exact congrArg (Option.map _) hg

theorem greedy_complete {ok : ρ → α → Bool} {rs : List ρ} {pool ch left : List α}
    (hE : Exch ok rs) (hM : Matching ok pool rs ch left) : ∃ chg leftg, greedy ok pool rs = some (chg, leftg) := by
  have hP : MustPrefix ok (fun _ => false) pool := List.pairwise_of_forall fun _ _ _ _ _ => nofun
  obtain ⟨chg, leftg, h, _⟩ := greedy_exchange hE hP hM (fun _ _ => rfl)
  exact ⟨chg, leftg, h⟩

def PairedIdx (ok : ρ → α → Bool) (pool : List α) : List ρ → List Nat → Prop
  | [], [] => True
  | r :: rs, i :: f => (∃ d, pool[i]? = some d ∧ ok r d = true) ∧ PairedIdx ok pool rs f
  | _, _ => False

def Assignment (ok : ρ → α → Bool) (pool : List α) (rs : List ρ) (f : List Nat) : Prop :=
  PairedIdx ok pool rs f ∧ f.Nodup

theorem pairedIdx_iff {ok : ρ → α → Bool} {pool : List α} : ∀ {rs : List ρ} {f : List Nat},
    PairedIdx ok pool rs f ↔ ∃ ch, f.map (fun i => pool[i]?) = ch.map some ∧ Paired ok rs ch
  | [], [] => ⟨fun _ => ⟨[], rfl, trivial⟩, fun _ => trivial⟩
  | [], _ :: _ => ⟨False.elim, fun | ⟨[], h, _⟩ => nomatch h | ⟨_ :: _, _, hp⟩ => hp.elim⟩
  | _ :: _, [] => ⟨False.elim, fun | ⟨[], _, hp⟩ => hp.elim | ⟨_ :: _, h, _⟩ => nomatch h⟩
  | r :: rs, i :: f => by
    constructor
    · rintro ⟨⟨d, hd, hok⟩, h⟩
      obtain ⟨ch, hf, hp⟩ := pairedIdx_iff.1 h
      exact ⟨d :: ch, by rw [List.map_cons, hd, hf, List.map_cons], hok, hp⟩
    · rintro ⟨_ | ⟨d, ch⟩, hf, hp⟩
      · cases hf
      · exact ⟨⟨d, (List.cons.inj hf).1, hp.1⟩, pairedIdx_iff.2 ⟨ch, (List.cons.inj hf).2, hp.2⟩⟩

open SR.Drv.C17 SR.IdCodec SR.Loop

/-- a logged `on_msg`: handler time, source id, message -/
structure Recv where
  t : Nat
  src : Nat
  m : Nat

def recvsOf : List Entry → List Recv
  | [] => []
  | .msg t _ src m _ _ :: r => ⟨t, src, m⟩ :: recvsOf r
  | .start _ _ _ :: r => recvsOf r
  | .timeout _ _ _ _ _ :: r => recvsOf r
  | .random _ _ _ _ _ :: r => recvsOf r

/-- the test `Drv.C17.eventsOf` hands to `takeFirst` (there a lambda; `hp` in `eventsOf_toOption`) -/
def okDg (r : Recv) (d : Dg) : Bool := idOf d.src == r.src && deMsg d.bytes == some r.m && d.t ≤ r.t

/-- the events `eventsOf` builds when `ch` backs the `on_msg` entries, in order; only used with one datagram per
`on_msg` (`Paired`), the last clause makes the function total -/
def backed : List Entry → List Dg → List E
  | [], _ => []
  | .start t st cs :: r, ch => .start t st cs :: backed r ch
  | .timeout t si k st cs :: r, ch => .fire t (.timeout k) si st cs :: backed r ch
  | .random t si x st cs :: r, ch => .fire t (.random x) si st cs :: backed r ch
  | .msg t si _ _ st cs :: r, d :: ch => .msg t d.src d.bytes si st cs :: backed r ch
  | .msg _ _ _ _ _ _ :: _, [] => []

theorem eventsOf_toOption (log : List Entry) : ∀ (pool : List Dg) (i : Nat),
    (eventsOf pool log i).toOption = (greedy okDg pool (recvsOf log)).map fun x => (backed log x.1, x.2) := by
  induction log with
  | nil => exact fun _ _ => rfl
  | cons e r ih =>
    intro pool i
    cases e with
    | msg t si src m st cs =>
      have hp : (fun d : Dg => idOf d.src == src && deMsg d.bytes == some m && decide (d.t ≤ t)) = okDg ⟨t, src, m⟩ := rfl
      rw [eventsOf, recvsOf, greedy, hp]
      cases takeFirst (okDg ⟨t, src, m⟩) pool with
      | none => rfl
      | some x =>
        obtain ⟨d, pool'⟩ := x
        show (eventsOf pool' r (i + 1) >>= _).toOption = _
        rw [Except.toOption_bind, ih]
        dsimp only
        cases greedy okDg pool' (recvsOf r) <;> rfl
    | start _ _ _ | timeout _ _ _ _ _ | random _ _ _ _ _ =>
      rw [eventsOf, Except.toOption_bind, ih]
      show _ = (greedy okDg pool (recvsOf r)).map _
      cases greedy okDg pool (recvsOf r) <;> rfl

theorem eventsOf_greedy_some (log : List Entry) (pool : List Dg) (i : Nat) {ch left : List Dg}
    (h : greedy okDg pool (recvsOf log) = some (ch, left)) : eventsOf pool log i = .ok (backed log ch, left) :=
  Except.toOption_eq_some.1 ((eventsOf_toOption log pool i).trans (congrArg (Option.map _) h))

theorem eventsOf_greedy_none (log : List Entry) (pool : List Dg) (i : Nat)
    (h : greedy okDg pool (recvsOf log) = none) : ∃ e, eventsOf pool log i = .error e :=
  Except.toOption_eq_none.1 ((eventsOf_toOption log pool i).trans (congrArg (Option.map _) h))

def actorPool (actors : List ActorLog) (psent : List Dg) (a : ActorLog) : List Dg :=
  (psent ++ actors.flatMap sendsOf).filter (fun d => d.dst == addrOf a.id)

/-- what `checkScenario` does with an actor once the receives are backed by `evs`, leaving `left`; `none` = passed -/
def afterMatch (a : ActorLog) (precv : List Dg) (observers : List Addr) (tEnd grace i : Nat)
    (evs : List E) (left : List Dg) : Option String :=
  match replay (relax (cfgOf a.id)) init (expand evs) 0 with
  | .error e => some s!"actor={i} {e}"
  | .ok s =>
    let toObs := s.sent.filter (fun p => observers.contains p.1)
    let mine := (sendsOf a).filter (fun d => observers.contains d.dst)
    if toObs.map (fun p => (p.1, p.2)) != mine.map (fun d => (d.dst, d.bytes)) then
      some s!"actor={i} internal-sent-mismatch"
    else
      match compareOut mine (precv.filter (fun d => d.src == addrOf a.id)) with
      | some e => some s!"actor={i} {e}"
      | none =>
        let undelivered := left.filter (mustDeliver (tStartOf a.log tEnd) tEnd grace)
        if !a.log.isEmpty && !undelivered.isEmpty then
          some s!"actor={i} datagram-not-delivered n={undelivered.length} first={(undelivered.head?.map dgKey).getD ""}"
        else none

/-- the pool `checkScenario` hands to `eventsOf`: the actor's pool, must-deliver datagrams first -/
def normPool (actors : List ActorLog) (psent : List Dg) (a : ActorLog) (tEnd grace : Nat) : List Dg :=
  normalise (tStartOf a.log tEnd) tEnd grace (actorPool actors psent a)

theorem go_cons (actors : List ActorLog) (psent precv : List Dg) (observers : List Addr) (tEnd grace : Nat)
    (a : ActorLog) (rest : List ActorLog) (i : Nat) :
    checkScenario.go psent precv observers tEnd grace (actors.flatMap sendsOf) (a :: rest) i =
      match eventsOf (normPool actors psent a tEnd grace) a.log 0 with
      | .error e => some (if logOrdered a.log then s!"actor={i} {e}" else s!"actor={i} log-not-time-ordered {e}")
      | .ok (evs, left) =>
        match afterMatch a precv observers tEnd grace i evs left with
        | some e => some e
        | none => checkScenario.go psent precv observers tEnd grace (actors.flatMap sendsOf) rest (i + 1) := by
  rw [checkScenario.go]
  simp only [normPool, actorPool, afterMatch]
  -- both sides are the same nest of `match`es; the case splits only let `rfl` see that under each of them
  cases eventsOf (normalise (tStartOf a.log tEnd) tEnd grace
      (List.filter (fun d => d.dst == addrOf a.id) (psent ++ List.flatMap sendsOf actors))) a.log 0 with
  | error e => rfl
  | ok p =>
    obtain ⟨evs, left⟩ := p
    dsimp only
    cases replay (relax (cfgOf a.id)) init (expand evs) 0 with
    | error e => rfl
    | ok s =>
      dsimp only
      split
      · rfl
      · cases compareOut (List.filter (fun d => observers.contains d.dst) (sendsOf a))
            (List.filter (fun d => d.src == addrOf a.id) precv) with
        | some e => rfl
        | none =>
          dsimp only
          split <;> rfl

theorem normalise_perm (tStart tEnd grace : Nat) (pool : List Dg) : (normalise tStart tEnd grace pool).Perm pool :=
  List.filter_append_perm _ pool

abbrev S := St Nat Nat Nat Nat

theorem replay_toOption (C : Cfg Nat) (es : List E) : ∀ (s : S) (i : Nat), (replay C s es i).toOption = run C s es := by
  induction es with
  | nil => exact fun _ _ => rfl
  | cons e es ih =>
    intro s i
    rw [replay, run]
    cases step C s e with
    | none => rfl
    | some s1 => exact ih s1 (i + 1)

theorem pairwiseB_iff {α : Type} (R : α → α → Bool) (l : List α) :
    pairwiseB R l = true ↔ l.Pairwise (fun a b => R a b = true) := by
  induction l with
  | nil => exact ⟨fun _ => .nil, fun _ => rfl⟩
  | cons a r ih => simp only [pairwiseB, Bool.and_eq_true, List.all_eq_true, ih, List.pairwise_cons]

theorem logOrdered_iff {log : List Entry} :
    logOrdered log = true ↔ log.Pairwise fun e e' => e.time ≤ e'.time :=
  (pairwiseB_iff _ log).trans (List.Pairwise.iff fun _ _ => decide_eq_true_iff)

theorem poolOrdered_iff {pool : List Dg} :
    poolOrdered pool = true ↔ pool.Pairwise fun a b => sameKey a b = true → a.t ≤ b.t :=
  (pairwiseB_iff _ pool).trans (List.Pairwise.iff fun a b => by cases sameKey a b <;> simp)

theorem deadlineOrdered_iff {tStart tEnd grace : Nat} {pool : List Dg} :
    deadlineOrdered tStart tEnd grace pool = true ↔ pool.Pairwise fun a b =>
      sameKey a b = true → mustDeliver tStart tEnd grace b = true → mustDeliver tStart tEnd grace a = true :=
  (pairwiseB_iff _ pool).trans (List.Pairwise.iff fun a b => by
    cases sameKey a b <;> cases mustDeliver tStart tEnd grace b <;> simp)

theorem filter_eq_nil_iff_false {α : Type} {p : α → Bool} {l : List α} :
    l.filter p = [] ↔ ∀ x ∈ l, p x = false := by
  simp only [List.filter_eq_nil_iff, Bool.not_eq_true]

theorem okDg_iff {r : Recv} {d : Dg} :
    okDg r d = true ↔ idOf d.src = r.src ∧ deMsg d.bytes = some r.m ∧ d.t ≤ r.t := by
  simp [okDg, and_assoc]

theorem okDg_sameKey {r : Recv} {a b : Dg} (ha : okDg r a = true) (hb : okDg r b = true) : sameKey a b = true := by
  rw [okDg_iff] at ha hb
  simp [sameKey, ha.1, hb.1, ha.2.1, hb.2.1]

/-- `recvsOf` as a `filterMap` (`recvsOf_eq`), for `Pairwise.filterMap` -/
def recvOf : Entry → Option Recv
  | .msg t _ src m _ _ => some ⟨t, src, m⟩
  | _ => none

theorem recvsOf_eq (log : List Entry) : recvsOf log = log.filterMap recvOf := by
  induction log with
  | nil => rfl
  | cons e l ih =>
    cases e with
    | msg t si src m st cs => exact congrArg (List.cons _) ih
    | start _ _ _ | timeout _ _ _ _ _ | random _ _ _ _ _ => exact ih

theorem recvOf_time {e : Entry} {r : Recv} (h : recvOf e = some r) : r.t = e.time := by
  cases e with
  | msg t si src m st cs =>
    cases h
    rfl
  | start _ _ _ | timeout _ _ _ _ _ | random _ _ _ _ _ => cases h

/-- same-key receives in time order: the weakest form of the log precondition -/
def RecvsOrdered (rs : List Recv) : Prop :=
  rs.Pairwise fun r r' => r.src = r'.src → r.m = r'.m → r.t ≤ r'.t

theorem exch_of_recvsOrdered {rs : List Recv} (h : RecvsOrdered rs) : Exch okDg rs := by
  refine List.Pairwise.imp ?_ h
  intro r r' hrr c d hc hd hd'
  rw [okDg_iff] at hc hd hd' ⊢
  have hs : r.src = r'.src := hd.1.symm.trans hd'.1
  have hm : r.m = r'.m := Option.some.inj (hd.2.1.symm.trans hd'.2.1)
  have := hrr hs hm
  exact ⟨hc.1.trans hs, hc.2.1.trans (by rw [hm]), by omega⟩

theorem recvsOrdered_of_logOrdered {log : List Entry} (h : logOrdered log = true) : RecvsOrdered (recvsOf log) := by
  rw [recvsOf_eq]
  refine (logOrdered_iff.1 h).filterMap recvOf fun e e' hee r hr r' hr' _ _ => ?_
  rw [recvOf_time hr, recvOf_time hr']
  exact hee

theorem mustPrefix_of_deadlineOrdered {tStart tEnd grace : Nat} {pool : List Dg}
    (h : deadlineOrdered tStart tEnd grace pool = true) :
    MustPrefix okDg (mustDeliver tStart tEnd grace) pool :=
  (deadlineOrdered_iff.1 h).imp fun hab _ ha hb => hab (okDg_sameKey ha hb)

theorem deadlineOrdered_of_poolOrdered {tStart tEnd grace : Nat} {pool : List Dg}
    (hp : poolOrdered pool = true) (he : noEarly tStart pool = true) :
    deadlineOrdered tStart tEnd grace pool = true := by
  refine deadlineOrdered_iff.2 ((poolOrdered_iff.1 hp).imp_of_mem fun {a b} ha _ hab hk hm => ?_)
  have hea : tStart ≤ a.t := of_decide_eq_true (List.all_eq_true.1 he a ha)
  have hab := hab hk
  simp only [sameKey, Bool.and_eq_true, beq_iff_eq] at hk
  simp only [mustDeliver, Bool.and_eq_true, decide_eq_true_eq] at hm ⊢
  exact ⟨⟨hk.2 ▸ hm.1.1, Nat.le_trans (Nat.add_le_add_right hab grace) hm.1.2⟩, hea⟩

theorem backed_rel (id : Nat) {log : List Entry} : ∀ {ch ch' : List Dg},
    Paired okDg (recvsOf log) ch → Paired okDg (recvsOf log) ch' →
    EvsRel (relax (cfgOf id)) (backed log ch) (backed log ch') := by
  induction log with
  | nil => exact fun _ _ => .nil
  | cons e l ih =>
    intro ch ch' h h'
    cases e with
    | msg t si src m st cs =>
      cases ch with
      | nil => exact h.elim
      | cons d ch =>
        cases ch' with
        | nil => exact h'.elim
        | cons d' ch' =>
          obtain ⟨h1, h2⟩ := h
          obtain ⟨h1', h2'⟩ := h'
          rw [okDg_iff] at h1 h1'
          exact .cons (.msg t d.src d'.src d.bytes d'.bytes si st cs (h1.1.trans h1'.1.symm)
            (h1.2.1.trans h1'.2.1.symm)) (ih h2 h2')
    | start _ _ _ | timeout _ _ _ _ _ | random _ _ _ _ _ => exact .cons (.refl _) (ih h h')

theorem run_execs_sent (C : Cfg Nat) (t : Nat) (rest : List E) (cs : List C') : ∀ (s s' : S),
    s.queue = cs → run C s (cs.map (fun _ => Ev.exec t 0) ++ rest) = some s' →
    ∃ s1, run C s1 rest = some s' ∧ s1.queue = [] ∧ s1.sent = s.sent ++ cs.filterMap (sendOf C) := by
  induction cs with
  | nil => exact fun s s' hq h => ⟨s, h, hq, (List.append_nil _).symm⟩
  | cons c cs ih =>
    intro s s' hq h
    obtain ⟨s2, hs, h⟩ := run_cons.1 h
    obtain ⟨c', q, hq', _, _, rfl⟩ := step_exec_iff.1 hs
    cases hq.symm.trans hq'
    obtain ⟨s1, h1, h2, h3⟩ := ih _ s' (execCmd_queue C _ c t 0) h
    refine ⟨s1, h1, h2, ?_⟩
    rw [h3, execCmd_sent, List.filterMap_cons]
    cases sendOf C c <;> simp

theorem run_expand_sent (C : Cfg Nat) (evs : List E) : ∀ (s s' : S),
    s.queue = [] → run C s (expand evs) = some s' →
    s'.queue = [] ∧ s'.sent = s.sent ++ (evs.flatMap evCmds).filterMap (sendOf C) := by
  induction evs with
  | nil =>
    intro s s' hq h
    cases Option.some.inj h
    exact ⟨hq, (List.append_nil _).symm⟩
  | cons e evs ih =>
    intro s s' hq h
    obtain ⟨s2, hs, h⟩ := run_cons.1 h
    have key : s2.queue = evCmds e ∧ s2.sent = s.sent := by
      cases e with
      | start t out cmds =>
        obtain ⟨_, _, _, _, rfl⟩ := step_start_iff.1 hs
        exact ⟨rfl, rfl⟩
      | exec t p =>
        obtain ⟨c, q, hq', _⟩ := step_exec_iff.1 hs
        cases hq.symm.trans hq'
      | msg t a b si so cs =>
        obtain ⟨m, _, _, _, _, _, _, rfl⟩ := step_msg_iff.1 hs
        exact ⟨rfl, rfl⟩
      | drop _ _ _ | idle _ | zeroWait _ =>
        obtain ⟨_, _, _, _, _, rfl⟩ := step_silent rfl hs
        exact ⟨hq, rfl⟩
      | fire t k si so cs =>
        obtain ⟨_, _, _, _, _, rfl⟩ := step_fire_iff.1 hs
        exact ⟨rfl, rfl⟩
    obtain ⟨s1, h1, h2, h3⟩ := run_execs_sent C (evTime e) (expand evs) (evCmds e) s2 s' key.1 h
    obtain ⟨h4, h5⟩ := ih s1 s' h2 h1
    refine ⟨h4, ?_⟩
    rw [h5, h3, key.2, List.flatMap_cons, List.filterMap_append, List.append_assoc]

theorem backed_cmds {log : List Entry} : ∀ {ch : List Dg}, Paired okDg (recvsOf log) ch →
    (backed log ch).flatMap evCmds = log.flatMap Entry.cmds := by
  induction log with
  | nil => exact fun _ => rfl
  | cons e l ih =>
    intro ch h
    cases e with
    | msg t si src m st cs =>
      cases ch with
      | nil => exact h.elim
      | cons d ch => exact congrArg (cs ++ ·) (ih h.2)
    | start _ _ cs | timeout _ _ _ _ cs | random _ _ _ _ cs => exact congrArg (cs ++ ·) (ih h)

theorem sendsOf_map (a : ActorLog) :
    (sendsOf a).map (fun d => (d.dst, d.bytes)) = (a.log.flatMap Entry.cmds).filterMap (sendOf (relax (cfgOf a.id))) := by
  rw [sendsOf]
  induction a.log with
  | nil => rfl
  | cons e l ih =>
    rw [List.flatMap_cons, List.flatMap_cons, List.map_append, List.filterMap_append, ih, List.map_filterMap]
    refine congrArg (· ++ _) (congrArg (List.filterMap · e.cmds) (funext fun c => ?_))
    cases c with
    | send dst m => exact Option.map_map _ _ _
    | set _ _ _ | cancel _ | choose _ _ => rfl

theorem replay_sent (a : ActorLog) {ch : List Dg} (hp : Paired okDg (recvsOf a.log) ch) {s : S}
    (h : run (relax (cfgOf a.id)) init (expand (backed a.log ch)) = some s) :
    s.sent = (sendsOf a).map (fun d => (d.dst, d.bytes)) := by
  obtain ⟨_, h2⟩ := run_expand_sent _ _ init s rfl h
  rw [h2, backed_cmds hp, sendsOf_map]
  rfl

theorem sent_check (observers : List Addr) (a : ActorLog) {s : S}
    (h : s.sent = (sendsOf a).map (fun d => (d.dst, d.bytes))) :
    ((s.sent.filter (fun p => observers.contains p.1)).map (fun p => (p.1, p.2)) !=
      ((sendsOf a).filter (fun d => observers.contains d.dst)).map (fun d => (d.dst, d.bytes))) = false := by
  rw [h, List.filter_map]
  simp [Function.comp_def]

theorem afterMatch_none_iff (a : ActorLog) (precv : List Dg) (observers : List Addr) (tEnd grace i : Nat)
    {ch left : List Dg} (hp : Paired okDg (recvsOf a.log) ch) :
    afterMatch a precv observers tEnd grace i (backed a.log ch) left = none ↔
      accepts (cfgOf a.id) (backed a.log ch) = true ∧
      compareOut ((sendsOf a).filter (fun d => observers.contains d.dst))
        (precv.filter (fun d => d.src == addrOf a.id)) = none ∧
      ∀ x ∈ left, (!a.log.isEmpty && mustDeliver (tStartOf a.log tEnd) tEnd grace x) = false := by
  have hr := replay_toOption (relax (cfgOf a.id)) (expand (backed a.log ch)) init 0
  unfold afterMatch accepts
  cases h1 : replay (relax (cfgOf a.id)) init (expand (backed a.log ch)) 0 with
  | error e =>
    rw [h1] at hr
    rw [show run _ _ _ = none from hr.symm]
    exact ⟨nofun, fun h => nomatch h.1⟩
  | ok s =>
    rw [h1] at hr
    have hr : run _ _ _ = some s := hr.symm
    rw [hr]
    dsimp only
    rw [sent_check observers a (replay_sent a hp hr), if_neg Bool.false_ne_true]
    cases compareOut ((sendsOf a).filter (fun d => observers.contains d.dst))
        (precv.filter (fun d => d.src == addrOf a.id)) with
    | some e => exact ⟨nofun, fun h => nomatch h.2.1⟩
    | none =>
      dsimp only
      cases a.log.isEmpty <;> simp [List.filter_eq_nil_iff]

theorem afterMatch_transfer (a : ActorLog) (precv : List Dg) (observers : List Addr) (tEnd grace i : Nat)
    {ch ch' left left' : List Dg}
    (h : Paired okDg (recvsOf a.log) ch) (h' : Paired okDg (recvsOf a.log) ch')
    (hpass : afterMatch a precv observers tEnd grace i (backed a.log ch) left = none)
    (hleft : ∀ x ∈ left', (!a.log.isEmpty && mustDeliver (tStartOf a.log tEnd) tEnd grace x) = false) :
    afterMatch a precv observers tEnd grace i (backed a.log ch') left' = none := by
  obtain ⟨h1, h2, _⟩ := (afterMatch_none_iff a precv observers tEnd grace i h).1 hpass
  refine (afterMatch_none_iff a precv observers tEnd grace i h').2 ⟨?_, h2, hleft⟩
  have := run_forget _ (evsRel_expand (backed_rel a.id h h')) init init rfl
  rw [accepts, ← Option.isSome_map (f := forget), ← this, Option.isSome_map]
  exact h1

theorem sortStrs_eq_iff (l₁ l₂ : List String) : sortStrs l₁ = sortStrs l₂ ↔ l₁.Perm l₂ :=
  mergeSort_eq_iff_perm (le := fun a b => decide (a ≤ b))
    (fun _ _ _ h1 h2 => decide_eq_true (String.le_trans (of_decide_eq_true h1) (of_decide_eq_true h2)))
    (fun a b => by simpa using String.le_total a b)
    (fun _ _ h1 h2 => String.le_antisymm (of_decide_eq_true h1) (of_decide_eq_true h2)) l₁ l₂

def timesOf (l : List Dg) (e : Dg) : List Nat := sortNats ((l.filter (fun x => dgKey x == dgKey e)).map (·.t))

theorem compareOut_none_iff (expected observed : List Dg) :
    compareOut expected observed = none ↔
      (expected.map dgKey).Perm (observed.map dgKey) ∧
      ∀ e ∈ expected, ∀ p ∈ (timesOf expected e).zip (timesOf observed e), p.1 ≤ p.2 := by
  rw [← sortStrs_eq_iff]
  unfold compareOut timesOf
  dsimp only
  by_cases hk : sortStrs (expected.map dgKey) = sortStrs (observed.map dgKey)
  · simp only [hk, bne_self_eq_false, Bool.false_eq_true, if_false, true_and, ite_eq_right_iff, reduceCtorEq, imp_false,
      List.any_eq_true, not_exists, not_and, decide_eq_true_eq, Nat.not_lt]
  · simp [hk]

theorem deadlineOrdered_normalise (tStart tEnd grace : Nat) (pool : List Dg) :
    deadlineOrdered tStart tEnd grace (normalise tStart tEnd grace pool) = true := by
  rw [deadlineOrdered_iff, normalise, List.pairwise_append]
  refine ⟨List.pairwise_of_forall_mem_list ?_, List.pairwise_of_forall_mem_list ?_, ?_⟩
  · exact fun a ha _ _ _ _ => (List.mem_filter.1 ha).2
  · intro _ _ b hb _ hm
    have := (List.mem_filter.1 hb).2
    rw [hm] at this
    cases this
  · exact fun a ha _ _ _ _ => (List.mem_filter.1 ha).2

theorem matching_normalise {tStart tEnd grace : Nat} {pool : List Dg} {rs : List Recv} {ch left : List Dg} :
    Matching okDg (normalise tStart tEnd grace pool) rs ch left ↔ Matching okDg pool rs ch left :=
  ⟨fun h => ⟨h.paired, h.split.trans (normalise_perm _ _ _ _)⟩,
   fun h => ⟨h.paired, h.split.trans (normalise_perm _ _ _ _).symm⟩⟩

end SR.RuntimeMatch
