import SR.Util.DenseNatMap
/-! C20 (DenseNatMap) and C10 (plans): sorting by a key that takes each of `0..n-1` once puts key `k` at position `k`. -/
namespace SR.DNM
open List

theorem sort_key_pairwise {α} (key : α → Nat) (l : List α) :
    (l.mergeSort (fun a b => decide (key a ≤ key b))).Pairwise (fun a b => key a ≤ key b) := by
  refine (pairwise_mergeSort (le := fun a b => decide (key a ≤ key b)) ?_ ?_ l).imp (by simp)
  · intro a b c
    simp only [decide_eq_true_eq]
    exact Nat.le_trans
  · intro a b
    simp only [Bool.or_eq_true, decide_eq_true_eq]
    exact Nat.le_total _ _

theorem sort_key_range {α} (key : α → Nat) (l : List α) (hperm : (l.map key).Perm (List.range l.length)) :
    (l.mergeSort (fun a b => decide (key a ≤ key b))).map key = List.range l.length :=
  Perm.eq_of_pairwise (le := (· ≤ ·)) (fun _ _ _ _ h1 h2 => Nat.le_antisymm h1 h2)
    (List.pairwise_map.2 (sort_key_pairwise key l)) pairwise_le_range (((mergeSort_perm l _).map key).trans hperm)

theorem sort_key_at {α} (key : α → Nat) (l : List α) (hperm : (l.map key).Perm (List.range l.length))
    (k : Nat) (hk : k < (l.mergeSort (fun a b => decide (key a ≤ key b))).length) :
    key (l.mergeSort (fun a b => decide (key a ≤ key b)))[k] = k := by
  have : ((l.mergeSort (fun a b => decide (key a ≤ key b))).map key)[k]'(by simpa using hk) = k := by
    simp only [sort_key_range key l hperm, List.getElem_range]
  simpa using this

theorem sort_key_get {α} (key : α → Nat) (l : List α) (hperm : (l.map key).Perm (List.range l.length))
    (x : α) (hx : x ∈ l) : (l.mergeSort (fun a b => decide (key a ≤ key b)))[key x]? = some x := by
  obtain ⟨j, hj, hjx⟩ := List.getElem_of_mem ((mergeSort_perm l _).symm.subset hx)
  rw [← hjx, sort_key_at key l hperm j hj, List.getElem?_eq_getElem hj]

theorem zip_range_keys {α} (key : α → Nat) (l : List α) (h : (l.map key).Perm (List.range l.length)) :
    (((List.range l.length).zip l).map fun p => key p.2).Perm (List.range ((List.range l.length).zip l).length) := by
  show (((List.range l.length).zip l).map (key ∘ Prod.snd)).Perm _
  rw [← List.map_map, List.map_snd_zip (by simp), List.length_zip, List.length_range, Nat.min_self]
  exact h

theorem mem_zip_range {V} {vs : List V} {p : Nat × V} (h : p ∈ (List.range vs.length).zip vs) :
    vs[p.1]? = some p.2 := by
  obtain ⟨i, hi, hip⟩ := List.getElem_of_mem h
  have hi' : i < vs.length := by simpa using hi
  rw [List.getElem_zip] at hip
  rw [← hip]
  simp [hi']

theorem sortByKey_perm {V} (ps : List (Nat × V)) : (sortByKey ps).Perm ps := mergeSort_perm _ _

theorem sortByKey_sorted {V} (ps : List (Nat × V)) : (sortByKey ps).Pairwise (fun a b => a.1 ≤ b.1) :=
  sort_key_pairwise Prod.fst ps

theorem sortByKey_length {V} (ps : List (Nat × V)) : (sortByKey ps).length = ps.length :=
  (sortByKey_perm ps).length_eq

theorem fromPairs_of_perm {V} (ps : List (Nat × V)) (hperm : (ps.map (·.1)).Perm (List.range ps.length)) :
    fromPairs ps = some ((sortByKey ps).map (·.2)) := by
  unfold fromPairs
  exact if_pos (by rw [sortByKey_length]; exact sort_key_range Prod.fst ps hperm)

theorem fromPairs_eq_some_iff {V} (ps : List (Nat × V)) (m : List V) :
    fromPairs ps = some m ↔
      (ps.map (·.1)).Perm (List.range ps.length) ∧ m.length = ps.length ∧ ∀ p ∈ ps, get m p.1 = some p.2 := by
  constructor
  · intro h
    unfold fromPairs at h
    unfold get
    simp only at h
    split at h
    · rename_i heq
      cases h
      have hperm : (ps.map (·.1)).Perm (List.range ps.length) := by
        rw [← sortByKey_length ps, ← heq]
        exact ((sortByKey_perm ps).map _).symm
      refine ⟨hperm, by simp [sortByKey_length], fun p hp => ?_⟩
      rw [List.getElem?_map, sortByKey, sort_key_get Prod.fst ps hperm p hp]
      rfl
    · cases h
  · rintro ⟨hperm, hl, hg⟩
    rw [fromPairs_of_perm ps hperm]
    congr 1
    -- position `k` of the sorted list holds a pair with key `k`; `m` holds its value at `k`
    apply List.ext_getElem (by simp [sortByKey_length, hl])
    intro k hk _
    have hk' : k < (sortByKey ps).length := by simpa using hk
    have := hg _ ((sortByKey_perm ps).subset (List.getElem_mem hk'))
    unfold get at this
    rw [show (sortByKey ps)[k].1 = k from sort_key_at Prod.fst ps hperm k hk'] at this
    simpa using ((List.getElem_eq_iff (by omega)).2 this).symm

theorem fromPairs_isSome_iff {V} (ps : List (Nat × V)) :
    (fromPairs ps).isSome ↔ (ps.map (·.1)).Perm (List.range ps.length) := by
  constructor
  · intro h
    obtain ⟨m, hm⟩ := Option.isSome_iff_exists.1 h
    exact ((fromPairs_eq_some_iff ps m).1 hm).1
  · intro h
    rw [fromPairs_of_perm ps h]
    rfl

theorem fromPairs_total {V} (ps : List (Nat × V)) (m : List V) (h : fromPairs ps = some m) :
    m.length = ps.length ∧ ∀ p ∈ ps, get m p.1 = some p.2 :=
  ((fromPairs_eq_some_iff ps m).1 h).2

theorem fromPairs_perm {V} (ps ps' : List (Nat × V)) (h : ps.Perm ps') : fromPairs ps = fromPairs ps' := by
  apply Option.ext
  intro m
  rw [fromPairs_eq_some_iff, fromPairs_eq_some_iff, h.length_eq, ((h.map _).congr_left _)]
  simp only [h.mem_iff]

end SR.DNM
