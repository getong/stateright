import SR.Checker.PathApi
import SR.Proofs.ListAux
/-!
The Path API (C19) on the model of `SR/Checker/PathApi.lean`: decoding and replaying a path, the walk back through a
`generated` map, the url text of a fingerprint path.
-/
namespace SR.PathApi
open SR
variable {σ α : Type}

theorem mem_nextSteps {M : Sys σ α} {s t : σ} {a : α} :
    (a, t) ∈ nextSteps M s ↔ a ∈ M.acts s ∧ M.next s a = some t := by
  simp only [nextSteps, List.mem_filterMap, Option.map_eq_some_iff]
  constructor
  · rintro ⟨a', ha', t', ht', h⟩
    injection h with h1 h2
    subst h1 h2
    exact ⟨ha', ht'⟩
  · rintro ⟨ha, ht⟩
    exact ⟨a, ha, t, ht, rfl⟩

theorem nextSteps_map_snd (M : Sys σ α) (s : σ) : (nextSteps M s).map (·.2) = M.succAll s := by
  simp only [nextSteps, Sys.succAll, List.map_filterMap]
  congr 1
  funext a
  cases M.next s a <;> rfl

/-- `final_state` searches the successor states, `from_fingerprints` the (action, state) steps: same hit -/
theorem find_succAll (M : Sys σ α) (key : σ → Nat) (s : σ) (fp : Nat) :
    (M.succAll s).find? (fun t => key t == fp) =
      ((nextSteps M s).find? (fun p => key p.2 == fp)).map (·.2) := by
  rw [← nextSteps_map_snd, List.find?_map]
  rfl

theorem execFrom_ne_nil {M : Sys σ α} {s : σ} {p : Path σ α} (h : ExecFrom M s p) :
    ∃ x rest, p = (s, x) :: rest := by
  cases h with
  | last => exact ⟨none, [], rfl⟩
  | step _ _ _ => exact ⟨_, _, rfl⟩

theorem encode_execFrom {M : Sys σ α} (key : σ → Nat) {s : σ} {p : Path σ α} (h : ExecFrom M s p) :
    encode key p = key s :: (encode key p).tail := by
  obtain ⟨x, rest, rfl⟩ := execFrom_ne_nil h
  simp [encode]

theorem lastState_cons_cons (e e' : σ × Option α) (r : Path σ α) :
    lastState (e :: e' :: r) = lastState (e' :: r) := by
  simp [lastState, List.getLast?_cons_cons]

theorem lastState_execFrom {M : Sys σ α} {s : σ} {p : Path σ α} (h : ExecFrom M s p) :
    ∃ t, lastState p = some t := by
  obtain ⟨x, r, rfl⟩ := execFrom_ne_nil h
  exact ⟨_, by rw [lastState, List.getLast?_cons]; rfl⟩

theorem lastState_eq_getLast (p : Path σ α) : lastState p = (intoStates p).getLast? := by
  simp [lastState, intoStates, List.getLast?_map]

theorem lastState_eq_of_states {p p' : Path σ α} (h : intoStates p' = intoStates p) :
    lastState p' = lastState p := by
  rw [lastState_eq_getLast, lastState_eq_getLast, h]

theorem encode_getLast (key : σ → Nat) (p : Path σ α) :
    (encode key p).getLast? = (lastState p).map key := by
  simp only [encode, lastState, List.getLast?_map, Option.map_map]
  rfl

theorem exec_snoc {M : Sys σ α} {s0 s t : σ} {a : α} {p : Path σ α} (h : ExecFrom M s0 p)
    (hl : lastState p = some s) (ha : a ∈ M.acts s) (hn : M.next s a = some t) :
    ∃ p', ExecFrom M s0 p' ∧ intoStates p' = intoStates p ++ [t] := by
  induction h with
  | last s0 =>
    simp [lastState] at hl
    subst hl
    exact ⟨[(s0, some a), (t, none)], .step ha hn (.last t), rfl⟩
  | @step s0 t0 a0 rest ha0 hn0 he ih =>
    obtain ⟨x, r, hr⟩ := execFrom_ne_nil he
    rw [hr, lastState_cons_cons, ← hr] at hl
    obtain ⟨rest', he', hs'⟩ := ih hl
    exact ⟨(s0, some a0) :: rest', .step ha0 hn0 he', by simp [intoStates] at hs' ⊢; exact hs'⟩

theorem fromFpsAux_sound (M : Sys σ α) (key : σ → Nat) (fps : List Nat) (s : σ) (p : Path σ α)
    (h : fromFpsAux M key s fps = some p) : ExecFrom M s p ∧ encode key p = key s :: fps := by
  induction fps generalizing s p with
  | nil =>
    simp only [fromFpsAux] at h
    injection h with h
    subst h
    exact ⟨.last s, rfl⟩
  | cons fp rest ih =>
    simp only [fromFpsAux] at h
    split at h
    · cases h
    · rename_i a s' hf
      simp only [Option.map_eq_some_iff] at h
      obtain ⟨p', hp', rfl⟩ := h
      obtain ⟨he, hk⟩ := ih s' p' hp'
      have hmem := List.mem_of_find?_eq_some hf
      have hkey := List.find?_some hf
      simp only [beq_iff_eq] at hkey
      obtain ⟨ha, hn⟩ := mem_nextSteps.1 hmem
      refine ⟨.step ha hn he, ?_⟩
      simp only [encode, List.map_cons] at hk ⊢
      rw [hk, hkey]

theorem fromFingerprints_sound (M : Sys σ α) (key : σ → Nat) (fps : List Nat) (p : Path σ α)
    (h : fromFingerprints M key fps = some p) : IsExec M p ∧ encode key p = fps := by
  cases fps with
  | nil => simp [fromFingerprints] at h
  | cons fp rest =>
    simp only [fromFingerprints] at h
    split at h
    · cases h
    · rename_i s hf
      obtain ⟨he, hk⟩ := fromFpsAux_sound M key rest s p h
      have hkey := List.find?_some hf
      simp only [beq_iff_eq] at hkey
      exact ⟨⟨s, List.mem_of_find?_eq_some hf, he⟩, by rw [hk, hkey]⟩

/-- with an injective fingerprint the first hit is the state that was meant -/
theorem find_step_of_inj {M : Sys σ α} {key : σ → Nat} (inj : ∀ x y, key x = key y → x = y)
    {s t : σ} {a : α} (ha : a ∈ M.acts s) (hn : M.next s a = some t) :
    ∃ a', (nextSteps M s).find? (fun p => key p.2 == key t) = some (a', t) := by
  obtain ⟨⟨a', t'⟩, hf, _, hkey⟩ :=
    exists_find?_of_mem (p := fun p => key p.2 == key t) (mem_nextSteps.2 ⟨ha, hn⟩) (beq_self_eq_true _)
  obtain rfl := inj _ _ (beq_iff_eq.1 hkey)
  exact ⟨a', hf⟩

theorem fromFpsAux_complete {M : Sys σ α} {key : σ → Nat} (inj : ∀ x y, key x = key y → x = y)
    {s : σ} {p : Path σ α} (h : ExecFrom M s p) :
    ∃ p', fromFpsAux M key s (encode key p).tail = some p' ∧ intoStates p' = intoStates p := by
  induction h with
  | last s => exact ⟨[(s, none)], rfl, rfl⟩
  | @step s t a rest ha hn he ih =>
    obtain ⟨p', hp', hs'⟩ := ih
    obtain ⟨a', hf⟩ := find_step_of_inj inj ha hn
    have hk := encode_execFrom key he
    refine ⟨(s, some a') :: p', ?_, ?_⟩
    · simp only [encode, List.map_cons, List.tail_cons] at hk ⊢
      rw [hk]
      simp only [fromFpsAux, hf]
      simp only [encode] at hp'
      rw [hp']
      rfl
    · simp only [intoStates, List.map_cons] at hs' ⊢
      rw [hs']

theorem find_init_of_inj {M : Sys σ α} {key : σ → Nat} (inj : ∀ x y, key x = key y → x = y)
    {s : σ} (hs : s ∈ M.init) : M.init.find? (fun x => key x == key s) = some s := by
  obtain ⟨x, hf, _, hkey⟩ := exists_find?_of_mem (p := fun x => key x == key s) hs (beq_self_eq_true _)
  rw [hf, inj _ _ (beq_iff_eq.1 hkey)]

theorem fp_roundtrip (M : Sys σ α) (key : σ → Nat) (inj : ∀ x y, key x = key y → x = y)
    (p : Path σ α) (h : IsExec M p) :
    ∃ p', fromFingerprints M key (encode key p) = some p' ∧ intoStates p' = intoStates p ∧
      IsExec M p' ∧ encode key p' = encode key p := by
  obtain ⟨s, hs, he⟩ := h
  obtain ⟨p', hp', hst⟩ := fromFpsAux_complete (key := key) inj he
  have : fromFingerprints M key (encode key p) = some p' := by
    rw [encode_execFrom key he]
    simp only [fromFingerprints, find_init_of_inj inj hs]
    exact hp'
  exact ⟨p', this, hst, fromFingerprints_sound M key _ p' this⟩

theorem fromActionsAux_exec [DecidableEq α] {M : Sys σ α} {s : σ} {p : Path σ α} (h : ExecFrom M s p) :
    fromActionsAux M s (intoActions p) = some p := by
  induction h with
  | last s => rfl
  | @step s t a rest ha hn he ih =>
    have : (nextSteps M s).find? (fun p => p.1 == a) = some (a, t) := by
      obtain ⟨⟨a', t'⟩, hf, hm, hk⟩ :=
        exists_find?_of_mem (p := fun p => p.1 == a) (mem_nextSteps.2 ⟨ha, hn⟩) (beq_self_eq_true _)
      obtain rfl : a' = a := beq_iff_eq.1 hk
      rw [hf, Option.some.inj ((mem_nextSteps.1 hm).2.symm.trans hn)]
    simp only [intoActions, List.filterMap_cons] at ih ⊢
    simp only [fromActionsAux, this, ih]
    rfl

theorem fromActionsAux_iff [DecidableEq α] (M : Sys σ α) (acts : List α) (s : σ) (p : Path σ α) :
    fromActionsAux M s acts = some p ↔ ExecFrom M s p ∧ intoActions p = acts := by
  refine ⟨fun h => ?_, fun ⟨he, ha⟩ => ha ▸ fromActionsAux_exec he⟩
  induction acts generalizing s p with
  | nil =>
    simp only [fromActionsAux, Option.some.injEq] at h
    subst h
    exact ⟨ExecFrom.last s, rfl⟩
  | cons a rest ih =>
    simp only [fromActionsAux] at h
    split at h
    · cases h
    · rename_i a' s' hf
      cases hr : fromActionsAux M s' rest with
      | none =>
        rw [hr] at h
        cases h
      | some q =>
        rw [hr] at h
        simp only [Option.map_some, Option.some.injEq] at h
        subst h
        obtain ⟨he, ha⟩ := ih s' q hr
        have hk := List.find?_some hf
        simp only [beq_iff_eq] at hk
        obtain ⟨h1, h2⟩ := mem_nextSteps.1 (List.mem_of_find?_eq_some hf)
        refine ⟨ExecFrom.step h1 h2 he, ?_⟩
        simp only [intoActions, List.filterMap_cons] at ha ⊢
        rw [ha, hk]

theorem finalStateAux_eq (M : Sys σ α) (key : σ → Nat) (fps : List Nat) (s : σ) :
    finalStateAux M key s fps = (fromFpsAux M key s fps).bind lastState := by
  induction fps generalizing s with
  | nil => rfl
  | cons fp rest ih =>
    simp only [finalStateAux, fromFpsAux, find_succAll]
    cases hf : (nextSteps M s).find? (fun p => key p.2 == fp) with
    | none => rfl
    | some x =>
      obtain ⟨a, t⟩ := x
      simp only [Option.map_some, ih]
      cases hp : fromFpsAux M key t rest with
      | none => rfl
      | some p =>
        obtain ⟨he, _⟩ := fromFpsAux_sound M key rest t p hp
        obtain ⟨x, r, rfl⟩ := execFrom_ne_nil he
        simp [lastState_cons_cons]

theorem finalState_eq (M : Sys σ α) (key : σ → Nat) (fps : List Nat) :
    finalState M key fps = (fromFingerprints M key fps).bind lastState := by
  cases fps with
  | nil => rfl
  | cons fp rest =>
    simp only [finalState, fromFingerprints]
    cases M.init.find? (fun s => key s == fp) with
    | none => rfl
    | some s => exact finalStateAux_eq M key rest s

theorem statesView_of_none {M : Sys σ α} {key : σ → Nat} {path : String} (h : parseFps path = none) :
    statesView M key path = none := by
  unfold statesView
  rw [h]

theorem statesView_of_nil {M : Sys σ α} {key : σ → Nat} {path : String} (h : parseFps path = some []) :
    statesView M key path = some (M.init.map Row.init) := by
  unfold statesView
  rw [h]

theorem statesView_of_cons {M : Sys σ α} {key : σ → Nat} {path : String} {f : Nat} {r : List Nat}
    (h : parseFps path = some (f :: r)) :
    statesView M key path = (finalState M key (f :: r)).map (rowsAt M) := by
  unfold statesView
  rw [h]
  show (match finalState M key (f :: r) with | none => none | some s => some (rowsAt M s)) = _
  cases finalState M key (f :: r) <;> rfl

theorem get_cons (e : Nat × Option Nat) (g : Gen) (fp : Nat) :
    Gen.get (e :: g) fp = if e.1 = fp then some e.2 else Gen.get g fp := by
  unfold Gen.get
  by_cases h : e.1 = fp <;> simp [h]

theorem get_isSome_iff (g : Gen) (fp : Nat) : (Gen.get g fp).isSome ↔ fp ∈ g.map (·.1) := by
  simp [Gen.get, List.find?_isSome]

theorem get_eq_none_iff (g : Gen) (fp : Nat) : Gen.get g fp = none ↔ fp ∉ g.map (·.1) := by
  rw [← get_isSome_iff]
  cases Gen.get g fp <;> simp

theorem get_of_nodup {g : Gen} (hn : (g.map (·.1)).Nodup) (fp : Nat) (v : Option Nat) :
    Gen.get g fp = some v ↔ (fp, v) ∈ g := by
  induction g with
  | nil => simp [Gen.get]
  | cons e g ih =>
    rw [List.map_cons, List.nodup_cons] at hn
    rw [get_cons, List.mem_cons]
    by_cases h : e.1 = fp
    · rw [if_pos h]
      constructor
      · intro hv
        exact Or.inl (by rw [← h, ← Option.some.inj hv])
      · rintro (hv | hv)
        · rw [← hv]
        · exact absurd (List.mem_map.2 ⟨(fp, v), hv, h.symm⟩) hn.1
    · rw [if_neg h, ih hn.2]
      exact ⟨Or.inr, fun hv => hv.resolve_left fun hv => h (by rw [← hv])⟩

theorem walkBack_suffix (g : Gen) (fuel fp : Nat) (acc : List Nat) :
    ∃ pre, walkBack g fuel fp acc = pre ++ acc := by
  induction fuel generalizing fp acc with
  | zero => exact ⟨[], rfl⟩
  | succ n ih =>
    simp only [walkBack]
    split
    · exact ⟨[], rfl⟩
    · rename_i prev _
      obtain ⟨pre, h⟩ := ih prev (fp :: acc)
      exact ⟨pre ++ [fp], by rw [h]; simp⟩
    · exact ⟨[fp], rfl⟩

theorem walkBack_last (g : Gen) (fuel fp : Nat) (h : (g.get fp).isSome) :
    (walkBack g (fuel + 1) fp []).getLast? = some fp := by
  simp only [walkBack]
  cases hg : g.get fp with
  | none =>
    rw [hg] at h
    cases h
  | some par =>
    cases par with
    | none => rfl
    | some prev =>
      obtain ⟨pre, hp⟩ := walkBack_suffix g fuel prev [fp]
      simp only [hp]
      simp

theorem genOK_nodup {M : Sys σ α} {key : σ → Nat} {gp : List ((Nat × Option Nat) × List σ)}
    (h : GenOK M key gp) : ((gp.map (·.1)).map (·.1)).Nodup := by
  induction h with
  | nil => exact .nil
  | root _ _ hnone ih => exact List.nodup_cons.2 ⟨(get_eq_none_iff _ _).1 hnone, ih⟩
  | child _ _ _ _ hnone ih => exact List.nodup_cons.2 ⟨(get_eq_none_iff _ _).1 hnone, ih⟩

theorem genOK_get {M : Sys σ α} {key : σ → Nat} {gp : List ((Nat × Option Nat) × List σ)}
    (h : GenOK M key gp) (e : (Nat × Option Nat) × List σ) (hm : e ∈ gp) :
    Gen.get (gp.map (·.1)) e.1.1 = some e.1.2 :=
  (get_of_nodup (genOK_nodup h) _ _).2 (List.mem_map.2 ⟨_, hm, rfl⟩)

theorem get_isSome_mem {gp : List ((Nat × Option Nat) × List σ)} {fp : Nat}
    (h : (Gen.get (gp.map (·.1)) fp).isSome) : ∃ par path, ((fp, par), path) ∈ gp := by
  rw [get_isSome_iff, List.map_map] at h
  obtain ⟨x, hx, rfl⟩ := List.mem_map.1 h
  exact ⟨x.1.2, x.2, hx⟩

/-- the walk looks at the map only through the lookups of the entries it passes: any map that holds the entries of
`gp` will do -/
theorem genOK_walk {M : Sys σ α} {key : σ → Nat} {gp : List ((Nat × Option Nat) × List σ)}
    (h : GenOK M key gp) (g : Gen) : (∀ e ∈ gp, Gen.get g e.1.1 = some e.1.2) →
      ∀ e ∈ gp, ∀ fuel acc, gp.length ≤ fuel → walkBack g fuel e.1.1 acc = e.2.map key ++ acc := by
  induction h with
  | nil => nofun
  | root _ _ _ ih =>
    intro hg e hm fuel acc hf
    rcases List.mem_cons.1 hm with rfl | hm
    · cases fuel with
      | zero => cases hf
      | succ n => simp [walkBack, hg _ List.mem_cons_self]
    · exact ih (fun e he => hg e (List.mem_cons_of_mem _ he)) e hm fuel acc (Nat.le_of_succ_le hf)
  | child _ hin _ _ _ ih =>
    intro hg e hm fuel acc hf
    have ih := ih fun e he => hg e (List.mem_cons_of_mem _ he)
    rcases List.mem_cons.1 hm with rfl | hm
    · cases fuel with
      | zero => cases hf
      | succ n =>
        -- one step back to the parent's entry, which is older
        simp only [walkBack, hg _ List.mem_cons_self]
        rw [ih _ hin n _ (Nat.le_of_succ_le_succ hf)]
        simp
    · exact ih e hm fuel acc (Nat.le_of_succ_le hf)

theorem genOK_exec {M : Sys σ α} {key : σ → Nat} {gp : List ((Nat × Option Nat) × List σ)}
    (h : GenOK M key gp) : ∀ e ∈ gp,
      ∃ p, IsExec M p ∧ intoStates p = e.2 ∧ (∃ s, e.2.getLast? = some s ∧ key s = e.1.1) := by
  induction h with
  | nil => nofun
  | @root gp s _ hinit _ ih =>
    intro e hm
    rcases List.mem_cons.1 hm with rfl | hm
    · exact ⟨[(s, none)], ⟨s, hinit, .last s⟩, rfl, s, rfl, rfl⟩
    · exact ih e hm
  | @child gp par' path' s t _ hin hlast hsucc _ ih =>
    intro e hm
    rcases List.mem_cons.1 hm with rfl | hm
    · obtain ⟨p, ⟨s0, hs0, he⟩, hst, _⟩ := ih _ hin
      simp only [Sys.succAll, List.mem_filterMap] at hsucc
      obtain ⟨a, ha, hn⟩ := hsucc
      have hl : lastState p = some s := (lastState_eq_getLast p).trans (hst ▸ hlast)
      obtain ⟨p', he', hs'⟩ := exec_snoc he hl ha hn
      exact ⟨p', ⟨s0, hs0, he'⟩, by rw [hs', hst], t, by simp, rfl⟩
    · exact ih e hm

/-- `hl`: the walk's fuel is `g.length + 1` -/
theorem genOK_reconstruct {M : Sys σ α} {key : σ → Nat} (inj : ∀ x y, key x = key y → x = y)
    {gp : List ((Nat × Option Nat) × List σ)} (h : GenOK M key gp) {g : Gen}
    (hg : ∀ e ∈ gp, Gen.get g e.1.1 = some e.1.2) (hl : gp.length ≤ g.length)
    {fp : Nat} {par : Option Nat} {path : List σ} (hm : ((fp, par), path) ∈ gp) :
    ∃ p, reconstructPath M key g fp = some p ∧ intoStates p = path ∧ IsExec M p ∧
      encode key p = path.map key := by
  obtain ⟨p0, hex, (hst : intoStates p0 = path), _⟩ := genOK_exec h _ hm
  have hw : walkBack _ _ fp [] = path.map key ++ [] := genOK_walk h g hg _ hm (g.length + 1) [] (Nat.le_succ_of_le hl)
  have henc : encode key p0 = path.map key := by rw [← hst]; simp [encode, intoStates]
  obtain ⟨p', hp', hst', hex', henc'⟩ := fp_roundtrip M key inj p0 hex
  refine ⟨p', ?_, by rw [hst', hst], hex', by rw [henc', henc]⟩
  unfold reconstructPath
  rw [hw, List.append_nil, ← henc]
  exact hp'

theorem digit_of_mem {n : Nat} {c : Char} (h : c ∈ Nat.toDigits 10 n) : ('0' ≤ c && c ≤ '9') = true := by
  have := Nat.isDigit_of_mem_toDigits (b := 10) (by decide) (by decide) h
  simp only [Char.isDigit, Bool.and_eq_true, decide_eq_true_eq] at this ⊢
  exact ⟨this.1, this.2⟩

/-- `48` is `'0'.toNat` -/
theorem foldl_digits (n : Nat) :
    (Nat.toDigits 10 n).foldl (fun acc c => acc * 10 + (c.toNat - 48)) 0 = n := by
  simpa [Nat.ofDigitChars, Nat.mul_comm] using Nat.ofDigitChars_ten_toDigits (n := n)

/-- `18446744073709551616` is `2^64`: a fingerprint is a `NonZeroU64` -/
theorem parseFp_digits {n : Nat} (h0 : 0 < n) (h1 : n < 18446744073709551616) :
    parseFp (Nat.toDigits 10 n) = some n := by
  have hne : Nat.toDigits 10 n ≠ [] := Nat.toDigits_ne_nil
  have hplus : ∀ r, Nat.toDigits 10 n ≠ '+' :: r := by
    intro r e
    have : '+' ∈ Nat.toDigits 10 n := by rw [e]; simp
    have := digit_of_mem this
    revert this
    decide
  unfold parseFp
  have hm : (match Nat.toDigits 10 n with | '+' :: r => r | _ => Nat.toDigits 10 n) = Nat.toDigits 10 n := by
    split
    · rename_i r e
      exact absurd e (hplus r)
    · rfl
  have hall : (Nat.toDigits 10 n).all (fun c => '0' ≤ c && c ≤ '9') = true := by
    rw [List.all_eq_true]
    intro c hc
    exact digit_of_mem hc
  simp only [hall, foldl_digits]
  simp [hne]
  omega

/-! The splitter and the encoder of the model are `List.splitOn` and `List.intercalate`: the round trip is core's
`List.splitOn_intercalate`. -/

theorem splitSlash_eq (cs : List Char) : splitSlash cs = cs.splitOn '/' := by
  induction cs with
  | nil => rfl
  | cons c r ih =>
    rw [splitSlash, ih, List.splitOn_cons_eq_if_modifyHead]
    have := List.splitOn_ne_nil '/' r
    split <;> simp_all

theorem encodeChars_eq (fps : List Nat) : encodeChars fps = ['/'].intercalate (fps.map (Nat.toDigits 10)) := by
  fun_induction encodeChars fps <;> simp_all

theorem noslash_digits (n : Nat) : '/' ∉ Nat.toDigits 10 n := by
  intro h
  have := digit_of_mem h
  revert this
  decide

theorem splitSlash_encode (fps : List Nat) (hne : fps ≠ []) :
    splitSlash ('/' :: encodeChars fps) = [] :: fps.map (Nat.toDigits 10) := by
  rw [splitSlash_eq, encodeChars_eq, List.splitOn_cons_eq_if_modifyHead, if_pos (beq_self_eq_true _),
    List.splitOn_intercalate _ _ (by simpa using hne)]
  intro l hl
  obtain ⟨n, _, rfl⟩ := List.mem_map.1 hl
  exact noslash_digits n

theorem encode_last_not_slash (fps : List Nat) (hne : fps ≠ []) :
    ('/' :: encodeChars fps).getLast? ≠ some '/' := by
  intro h
  -- a trailing `/` would make the last piece empty, and it is the digits of the last fingerprint
  have hs := splitSlash_encode fps hne
  obtain ⟨ys, hys⟩ := List.getLast?_eq_some_iff.1 h
  rw [hys, splitSlash_eq, List.splitOn_append_cons_self] at hs
  have := congrArg List.getLast? hs
  cases fps with
  | nil => exact hne rfl
  | cons a r =>
    simp only [List.splitOn_nil, List.getLast?_append, List.getLast?_singleton, Option.some_or, List.map_cons,
      List.getLast?_cons_cons] at this
    obtain ⟨n, _, hn⟩ := List.mem_map.1 (List.mem_of_getLast? (l := (a :: r).map _) this.symm)
    exact Nat.toDigits_ne_nil hn

theorem parse_encode (fps : List Nat) (hne : fps ≠ [])
    (hr : ∀ f ∈ fps, 0 < f ∧ f < 18446744073709551616) :
    parseFpsChars ('/' :: encodeChars fps) = some fps := by
  unfold parseFpsChars
  simp only [encode_last_not_slash fps hne, if_false, splitSlash_encode fps hne]
  have hf : (fps.map (Nat.toDigits 10)).filterMap parseFp = fps := by
    clear hne
    induction fps with
    | nil => rfl
    | cons a r ih =>
      have ha := hr a List.mem_cons_self
      rw [List.map_cons, List.filterMap_cons_some (parseFp_digits ha.1 ha.2),
        ih fun f hf => hr f (List.mem_cons_of_mem _ hf)]
  simp [List.filterMap_cons_none (show parseFp [] = none from rfl), hf]

theorem parseFps_encodeStr (key : σ → Nat) (p : Path σ α) (hne : p ≠ [])
    (hr : ∀ f ∈ encode key p, 0 < f ∧ f < 18446744073709551616) :
    parseFps ("/" ++ encodeStr key p) = some (encode key p) := by
  have : ("/" ++ encodeStr key p).toList = '/' :: encodeChars (encode key p) := by simp [encodeStr]
  unfold parseFps
  rw [this]
  exact parse_encode _ (by simpa [encode] using hne) hr

end SR.PathApi
