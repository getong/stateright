import SR.Proofs.ActorSys
import SR.Proofs.ActorNetTrace
/-! Membership in `actions` and what holds at every reachable system state: `St.WF`, `St.NetOk`, `St.CrashInv`. -/
namespace SR.Actor

variable {σ η : Type}

def offered (sys : ActorSys σ η) (e : Env) : List Action :=
  (if sys.lossy then [Action.drop e] else []) ++ if e.dst < sys.n then [Action.deliver e] else []

/-- `prev_channel` suppresses a delivery behind another envelope of the same flow; `iter_deliverable` yields one per flow -/
theorem netActions_eq_flatMap (sys : ActorSys σ η) (L : List Env) (prev : Option (Nat × Nat))
    (hd : sys.initNet.isOrdered = true → (L.map flowOf).Nodup ∧ ∀ c, prev = some c → c ∉ L.map flowOf) :
    netActions sys prev L = L.flatMap (offered sys) := by
  -- 2 = a delivery suppressed behind the same flow: excluded by `hd`; 3 = ordered, 4 = unordered, 5 = no such recipient
  fun_induction netActions sys prev L
  case case1 => rfl
  case case2 ho _ => exact absurd List.mem_cons_self ((hd ho).2 _ rfl)
  case case3 hn ho _ ih =>
    have := List.nodup_cons.1 (hd ho).1
    rw [ih fun _ => ⟨this.2, fun c hc => Option.some.inj hc ▸ this.1⟩]
    simp [offered, hn]
    rfl
  case case4 hn ho ih =>
    rw [ih fun h => absurd h ho]
    simp [offered, hn]
    rfl
  case case5 hn ih =>
    rw [ih fun ho => ⟨(List.nodup_cons.1 (hd ho).1).2, fun c hc hm => (hd ho).2 c hc (List.mem_cons_of_mem _ hm)⟩]
    simp [offered, hn]
    rfl

theorem mem_offered (sys : ActorSys σ η) (e : Env) (a : Action) :
    a ∈ offered sys e ↔ (sys.lossy = true ∧ .drop e = a) ∨ (e.dst < sys.n ∧ .deliver e = a) := by
  by_cases hl : sys.lossy = true <;> by_cases hn : e.dst < sys.n <;> simp [offered, hl, hn, eq_comm]

theorem netActions_kinds (sys : ActorSys σ η) (prev : Option (Nat × Nat)) (L : List Env) (a : Action)
    (h : a ∈ netActions sys prev L) : (∃ e, a = .deliver e) ∨ (∃ e, a = .drop e) := by
  induction L generalizing prev with
  | nil => cases h
  | cons e es ih =>
    -- every branch of the loop body is a drop and a delivery of `e`, or less, in front of a recursive call
    unfold netActions at h
    grind

theorem mem_timeoutActions (timers : List (List Nat)) (a : Action) :
    a ∈ timeoutActions timers ↔ ∃ i t ts, a = .timeout i t ∧ timers[i]? = some ts ∧ t ∈ ts := by
  simp only [timeoutActions, List.mem_flatMap, List.mem_map]
  constructor
  · rintro ⟨⟨ts, i⟩, hp, t, ht, rfl⟩
    exact ⟨i, t, ts, rfl, List.mem_zipIdx_iff_getElem?.1 hp, ht⟩
  · rintro ⟨i, t, ts, rfl, hts, ht⟩
    exact ⟨(ts, i), List.mem_zipIdx_iff_getElem?.2 hts, t, ht, rfl⟩

theorem mem_crashActions (k : Nat) (crashed : List Bool) (a : Action) :
    a ∈ crashActions k crashed ↔ ∃ i, a = .crash i ∧ countCrashed crashed < k ∧ crashed[i]? = some false := by
  unfold crashActions
  by_cases hk : countCrashed crashed < k
  · simp only [hk, if_true, List.mem_filterMap]
    constructor
    · rintro ⟨⟨b, i⟩, hp, ha⟩
      have hb := List.mem_zipIdx_iff_getElem?.1 hp
      cases b with
      | true => simp at ha
      | false => simp at ha; exact ⟨i, ha.symm, trivial, hb⟩
    · rintro ⟨i, rfl, _, hi⟩
      exact ⟨(false, i), List.mem_zipIdx_iff_getElem?.2 hi, by simp⟩
  · simp [hk]

theorem mem_randomActions (random : List (List (Nat × List Nat))) (a : Action) :
    a ∈ randomActions random ↔ ∃ i k r m cs, a = .selectRandom i k r ∧ random[i]? = some m ∧ (k, cs) ∈ m ∧ r ∈ cs := by
  simp only [randomActions, List.mem_flatMap, List.mem_map]
  constructor
  · rintro ⟨⟨m, i⟩, hp, ⟨k, cs⟩, hkv, r, hr, rfl⟩
    exact ⟨i, k, r, m, cs, rfl, List.mem_zipIdx_iff_getElem?.1 hp, hkv, hr⟩
  · rintro ⟨i, k, r, m, cs, rfl, hm, hkv, hr⟩
    exact ⟨(m, i), List.mem_zipIdx_iff_getElem?.2 hm, (k, cs), hkv, r, hr, rfl⟩

theorem canon_sendAll {n : Net} (hc : n.Canon) (es : List Env) : (sendAll n es).Canon :=
  es.foldlRecOn Net.send hc fun _ hm e _ => canon_send hm e

theorem sameKind_sendAll (n : Net) (es : List Env) : sameKind n (sendAll n es) :=
  es.foldlRecOn Net.send (sameKind_refl n) fun m hm e _ => sameKind_trans hm (sameKind_send m e)

/-- `actions` and `next_state` ask `init_network` for the kind (`sys.initNet.isOrdered` in `netActions` and `step`), not the
    network of the state: `sameKind` is what lets a lemma about `st.net` answer that test (`sameKind_isOrdered`) -/
def St.NetOk (sys : ActorSys σ η) (st : St σ η) : Prop := st.net.Canon ∧ sameKind sys.initNet st.net

theorem consume_cases {n n' : Net} {a : Action} (h : consume n a = some n') :
    n' = n ∨ ∃ op, n.apply op = some n' := by
  cases a with
  | deliver e => exact .inr ⟨.deliver e, h⟩
  | drop e => exact .inr ⟨.drop e, h⟩
  | timeout i t => exact .inl (Option.some.inj h).symm
  | crash i => exact .inl (Option.some.inj h).symm
  | selectRandom i k r => exact .inl (Option.some.inj h).symm

theorem sameKind_consume {n n' : Net} {a : Action} (h : consume n a = some n') : sameKind n n' := by
  rcases consume_cases h with rfl | ⟨op, h⟩
  · exact sameKind_refl _
  · exact sameKind_apply h

theorem canon_consume {n n' : Net} {a : Action} (hc : n.Canon) (h : consume n a = some n') : n'.Canon := by
  rcases consume_cases h with rfl | ⟨op, h⟩
  · exact hc
  · exact canon_apply hc h

theorem queue_sendAll {net : Net} (hk : net.isOrdered = true) (es : List Env) (f : Nat × Nat) :
    (sendAll net es).queue f = net.queue f ++ (es.filter (fun e => flowOf e = f)).map (·.msg) := by
  induction es generalizing net with
  | nil => simp [sendAll]
  | cons e es ih =>
    cases net with
    | dup _ _ => cases hk
    | nondup _ => cases hk
    | ord flows =>
      simp only [sendAll, List.foldl_cons] at ih ⊢
      rw [ih rfl, queue_send]
      by_cases hf : flowOf e = f <;> simp [hf]

theorem netOk_specInit (sys : ActorSys σ η) (hc : sys.initNet.Canon) : (specInit sys).NetOk sys :=
  ⟨canon_sendAll hc _, sameKind_sendAll _ _⟩

theorem netActions_of_netOk {sys : ActorSys σ η} {st : St σ η} (hn : st.NetOk sys) :
    netActions sys none st.net.iterDeliverable = st.net.iterDeliverable.flatMap (offered sys) :=
  netActions_eq_flatMap sys _ _ fun ho =>
    ⟨nodup_flows_iterDeliverable hn.1 ((sameKind_isOrdered hn.2).symm.trans ho), nofun⟩

theorem mem_actions_iff (sys : ActorSys σ η) (st : St σ η) (hn : st.NetOk sys) (a : Action) :
    a ∈ actions sys st ↔ enabledSpec sys st a := by
  simp only [actions, List.mem_append, netActions_of_netOk hn, List.mem_flatMap, mem_offered, mem_timeoutActions,
    mem_crashActions, mem_randomActions]
  cases a with
  | deliver e => simp [enabledSpec]
  | drop e => simpa [enabledSpec] using and_comm
  | crash i => simp [enabledSpec]
  | timeout i t =>
    simp only [enabledSpec, reduceCtorEq, and_false, false_and, exists_false, or_false, false_or]
    exact ⟨fun ⟨_, _, ts, h, h1, h2⟩ => by cases h; exact ⟨ts, h1, h2⟩, fun ⟨ts, h1, h2⟩ => ⟨_, _, ts, rfl, h1, h2⟩⟩
  | selectRandom i k r =>
    simp only [enabledSpec, reduceCtorEq, and_false, false_and, exists_false, or_false, false_or]
    exact ⟨fun ⟨_, _, _, m, cs, h, h'⟩ => by cases h; exact ⟨m, cs, h'⟩, fun ⟨m, cs, h'⟩ => ⟨_, _, _, m, cs, rfl, h'⟩⟩

theorem countCrashed_set_true (l : List Bool) (i : Nat) (h : l[i]? = some false) :
    countCrashed (l.set i true) = countCrashed l + 1 := by
  obtain ⟨hlt, hi⟩ := List.getElem?_eq_some_iff.1 h
  simp only [countCrashed, ← List.count_eq_length_filter, List.count_set hlt, hi]
  simp

def St.CrashInv (sys : ActorSys σ η) (st : St σ η) : Prop :=
  (∀ i : Nat, st.crashed[i]? = some true → st.timers[i]? = some [] ∧ st.random[i]? = some []) ∧
  countCrashed st.crashed ≤ sys.maxCrashes

theorem crashInv_specInit (sys : ActorSys σ η) : (specInit sys).CrashInv sys := by
  refine ⟨?_, ?_⟩
  · intro i hi
    simp [specInit, List.getElem?_replicate] at hi
  · have : countCrashed (List.replicate sys.n false) = 0 := by
      simp [countCrashed]
    simp [specInit, this]

/-- one inversion of the step serves the three parts -/
theorem inv_step {sys : ActorSys σ η} {st st' : St σ η} {a : Action} (hwf : st.WF sys) (hok : st.NetOk sys)
    (hinv : st.CrashInv sys) (ha : a ∈ actions sys st) (h : step sys st a = .next st') :
    st'.WF sys ∧ st'.NetOk sys ∧ st'.CrashInv sys := by
  have hen := (mem_actions_iff sys st hok a).1 ha
  rw [step_eq_specStep sys st a hwf] at h
  rcases specStep_next h with ⟨e, net, _, hd, rfl⟩ | ⟨i, rfl, hlt, rfl⟩ | ⟨j, ev, hev, hh⟩
  · exact ⟨hwf, ⟨canon_apply (op := .drop e) hok.1 hd, sameKind_trans hok.2 (sameKind_apply (op := .drop e) hd)⟩, hinv⟩
  · refine ⟨wf_crashOf i hwf, hok, fun j hj => ?_, ?_⟩
    · by_cases hij : i = j
      · subst hij
        simp [crashOf, hwf.2.1, hwf.2.2.1, hlt]
      · simp only [crashOf, List.getElem?_set_ne hij] at hj ⊢
        exact hinv.1 j hj
    · simp only [crashOf, countCrashed_set_true _ _ hen.2]
      exact hen.1
  · -- the actor that handles an event is up: its timers and choices may change, nobody else's do
    obtain ⟨s, ns, cmds, _, hup, _, _, hnx⟩ := specHandlerStep_next hh
    obtain ⟨net, _, _, hcon, _, _, rfl⟩ := specNext_eq_some hnx
    have hup : st.crashed[j]? ≠ some true := by
      intro hc
      cases a with
      | deliver e => cases hev; exact hup ⟨hc, rfl⟩
      | timeout i t =>
        cases hev
        obtain ⟨ts, hts, ht⟩ := hen
        rw [(hinv.1 j hc).1] at hts
        cases hts
        cases ht
      | selectRandom i k r =>
        cases hev
        obtain ⟨m, cs, hm, hkv, _⟩ := hen
        rw [(hinv.1 j hc).2] at hm
        cases hm
        cases hkv
      | drop e => cases hev
      | crash i => cases hev
    obtain ⟨hA, hT, hR, hC⟩ := hwf
    refine ⟨⟨by simp [hA], by simp [hT], by simp [hR], hC⟩, ⟨canon_sendAll (canon_consume hok.1 hcon) _,
      sameKind_trans hok.2 (sameKind_trans (sameKind_consume hcon) (sameKind_sendAll _ _))⟩, fun i hi => ?_, hinv.2⟩
    have hij : j ≠ i := fun e => hup (e ▸ hi)
    simp only [List.getElem?_set_ne hij]
    exact hinv.1 i hi

theorem reach_inv (sys : ActorSys σ η) (inB : St σ η → Bool) (hc : sys.initNet.Canon) {st : St σ η}
    (h : (sys.toSys inB).Reach st) : st.WF sys ∧ st.NetOk sys ∧ st.CrashInv sys := by
  induction h with
  | init hi => exact (mem_initB_toSys.1 hi).1 ▸ ⟨wf_specInit sys, netOk_specInit sys hc, crashInv_specInit sys⟩
  | step _ hs ih =>
    obtain ⟨⟨a, hmem, hst⟩, _⟩ := mem_succB_toSys.1 hs
    exact inv_step ih.1 ih.2.1 ih.2.2 hmem hst

end SR.Actor
