import SR.Proofs.SemSearch
import SR.Proofs.ListAux
/-!
Recording: the tester obtained by `record rt s0 es` from a well-formed history satisfies `RInv`
with `es` (`rinv_record`) — queue entries are the completed operations of each thread in order, the recorded
last-completed maps say exactly who returned before the invocation (C08_bookkeeping), in-flight
entries are the pending invocations.
-/
namespace SR.Sem
open AMap Tester
variable {S Op Ret : Type}

def newInv (n t : Nat) : Event Op Ret → List (Nat × Op)
  | .inv t' op => if t' = t then [(n, op)] else []
  | .ret _ _ => []

def newRet (n t : Nat) : Event Op Ret → List (Nat × Ret)
  | .ret t' r => if t' = t then [(n, r)] else []
  | .inv _ _ => []

theorem invsOf_snoc (es : List (Event Op Ret)) (e : Event Op Ret) (t : Nat) :
    invsOf (es ++ [e]) t = invsOf es t ++ newInv es.length t e := by
  unfold invsOf
  rw [List.zipIdx_append, List.filterMap_append]
  congr 1
  cases e with
  | inv t' op => by_cases h : t' = t <;> simp [newInv, h]
  | ret t' r => simp [newInv]

theorem retsOf_snoc (es : List (Event Op Ret)) (e : Event Op Ret) (t : Nat) :
    retsOf (es ++ [e]) t = retsOf es t ++ newRet es.length t e := by
  unfold retsOf
  rw [List.zipIdx_append, List.filterMap_append]
  congr 1
  cases e with
  | inv t' op => simp [newRet]
  | ret t' r => by_cases h : t' = t <;> simp [newRet, h]

theorem fst_of_mem_newInv {n t : Nat} {e : Event Op Ret} : ∀ x ∈ newInv n t e, x.1 = n := by
  intro x hx
  cases e with
  | ret t' r => cases hx
  | inv t' op =>
    rw [newInv] at hx
    split at hx
    · rw [List.mem_singleton.1 hx]
    · cases hx

theorem fst_of_mem_newRet {n t : Nat} {e : Event Op Ret} : ∀ x ∈ newRet n t e, x.1 = n := by
  intro x hx
  cases e with
  | inv t' op => cases hx
  | ret t' r =>
    rw [newRet] at hx
    split at hx
    · rw [List.mem_singleton.1 hx]
    · cases hx

theorem retsOf_snoc_inv (es : List (Event Op Ret)) (t : Nat) (op : Op) (t' : Nat) :
    retsOf (es ++ [.inv t op]) t' = retsOf es t' := by
  rw [retsOf_snoc]
  exact List.append_nil _

theorem invsOf_snoc_ret (es : List (Event Op Ret)) (t : Nat) (r : Ret) (t' : Nat) :
    invsOf (es ++ [.ret t r]) t' = invsOf es t' := by
  rw [invsOf_snoc]
  exact List.append_nil _

theorem invsOf_snoc_inv_self (es : List (Event Op Ret)) (t : Nat) (op : Op) :
    invsOf (es ++ [.inv t op]) t = invsOf es t ++ [(es.length, op)] := by
  rw [invsOf_snoc, newInv, if_pos rfl]

theorem retsOf_snoc_ret_self (es : List (Event Op Ret)) (t : Nat) (r : Ret) :
    retsOf (es ++ [.ret t r]) t = retsOf es t ++ [(es.length, r)] := by
  rw [retsOf_snoc, newRet, if_pos rfl]

theorem invsOf_snoc_inv_ne (es : List (Event Op Ret)) {t t' : Nat} (h : t ≠ t') (op : Op) :
    invsOf (es ++ [.inv t op]) t' = invsOf es t' := by
  rw [invsOf_snoc, newInv, if_neg h]
  exact List.append_nil _

theorem retsOf_snoc_ret_ne (es : List (Event Op Ret)) {t t' : Nat} (h : t ≠ t') (r : Ret) :
    retsOf (es ++ [.ret t r]) t' = retsOf es t' := by
  rw [retsOf_snoc, newRet, if_neg h]
  exact List.append_nil _

@[simp] theorem invsOf_nil (t : Nat) : invsOf ([] : List (Event Op Ret)) t = [] := rfl
@[simp] theorem retsOf_nil (t : Nat) : retsOf ([] : List (Event Op Ret)) t = [] := rfl

section positions
variable {es : List (Event Op Ret)} {e : Event Op Ret} {a b : OpId}

theorem retPos_isSome_iff : (∃ q, retPos es a = some q) ↔ a.2 < (retsOf es a.1).length :=
  exists_map_getElem?_iff _ _ _

theorem retAt_isSome_iff : (∃ r, retAt es a = some r) ↔ a.2 < (retsOf es a.1).length :=
  exists_map_getElem?_iff _ _ _

theorem opAt_isSome_iff : (∃ o, opAt es a = some o) ↔ a.2 < (invsOf es a.1).length :=
  exists_map_getElem?_iff _ _ _

theorem isOp_of_opAt {op : Op} (h : opAt es a = some op) : IsOp es a := opAt_isSome_iff.1 ⟨op, h⟩

theorem invPos_isSome_of_opAt {es : List (Event Op Ret)} {a : OpId} {o : Op} (h : opAt es a = some o) :
    ∃ p, invPos es a = some p :=
  (exists_map_getElem?_iff _ _ _).2 (isOp_of_opAt h)

theorem opAt_snoc_of_lt (h : a.2 < (invsOf es a.1).length) : opAt (es ++ [e]) a = opAt es a := by
  unfold opAt
  rw [invsOf_snoc, List.getElem?_append_left h]

theorem invPos_snoc_of_lt (h : a.2 < (invsOf es a.1).length) : invPos (es ++ [e]) a = invPos es a := by
  unfold invPos
  rw [invsOf_snoc, List.getElem?_append_left h]

theorem retAt_snoc_of_lt (h : a.2 < (retsOf es a.1).length) : retAt (es ++ [e]) a = retAt es a := by
  unfold retAt
  rw [retsOf_snoc, List.getElem?_append_left h]

theorem retPos_snoc_of_lt (h : a.2 < (retsOf es a.1).length) : retPos (es ++ [e]) a = retPos es a := by
  unfold retPos
  rw [retsOf_snoc, List.getElem?_append_left h]

theorem retPos_snoc {q : Nat} (h : retPos (es ++ [e]) a = some q) : retPos es a = some q ∨ q = es.length := by
  unfold retPos at h
  rw [retsOf_snoc] at h
  exact map_getElem?_append fst_of_mem_newRet h

theorem invPos_snoc {p : Nat} (h : invPos (es ++ [e]) a = some p) : invPos es a = some p ∨ p = es.length := by
  unfold invPos at h
  rw [invsOf_snoc] at h
  exact map_getElem?_append fst_of_mem_newInv h

theorem retPos_lt {q : Nat} : retPos es a = some q → q < es.length := by
  induction es using snoc_induction with
  | nil => exact fun h => nomatch h
  | snoc es e ih =>
    intro h
    rw [List.length_append]
    rcases retPos_snoc h with h | rfl
    · exact Nat.lt_add_right _ (ih h)
    · exact Nat.lt_succ_self _

theorem invPos_lt {p : Nat} : invPos es a = some p → p < es.length := by
  induction es using snoc_induction with
  | nil => exact fun h => nomatch h
  | snoc es e ih =>
    intro h
    rw [List.length_append]
    rcases invPos_snoc h with h | rfl
    · exact Nat.lt_add_right _ (ih h)
    · exact Nat.lt_succ_self _

theorem precedesRT_snoc (hb : b.2 < (invsOf es b.1).length) : PrecedesRT (es ++ [e]) a b ↔ PrecedesRT es a b := by
  unfold PrecedesRT
  rw [invPos_snoc_of_lt hb]
  constructor
  · rintro ⟨q, p, hq, hp, hlt⟩
    rcases retPos_snoc hq with h | h
    · exact ⟨q, p, h, hp, hlt⟩
    · have := invPos_lt hp
      omega
  · rintro ⟨q, p, hq, hp, hlt⟩
    exact ⟨q, p, (retPos_snoc_of_lt (retPos_isSome_iff.1 ⟨q, hq⟩)).trans hq, hp, hlt⟩

theorem LcOk.snoc {rt : Bool} {es : List (Event Op Ret)} {e : Event Op Ret} {b : OpId} {lc : LC}
    (h : LcOk rt es b lc) (hb : b.2 < (invsOf es b.1).length) : LcOk rt (es ++ [e]) b lc :=
  ⟨h.sorted, h.self, fun a ha => by rw [precedesRT_snoc hb]; exact h.iff a ha⟩

theorem Recorded.snoc {rt : Bool} {x : LC × Op × Ret} (h : Recorded rt es a x) : Recorded rt (es ++ [e]) a x :=
  have hi := isOp_of_opAt h.op
  ⟨(opAt_snoc_of_lt hi).trans h.op, (retAt_snoc_of_lt (retAt_isSome_iff.1 ⟨_, h.ret⟩)).trans h.ret, h.lc.snoc hi⟩

theorem SameThread.snoc (h : SameThread es) (hle : ∀ t, (retsOf es t).length ≤ (invsOf es t).length) :
    SameThread (es ++ [e]) := by
  rintro ⟨t, i⟩ ⟨t', j⟩ (rfl : t = t') ⟨q, p, hq, hp, hlt⟩
  show i < j
  rcases retPos_snoc hq with hq' | rfl
  · have hi : i < (retsOf es t).length := retPos_isSome_iff.1 ⟨q, hq'⟩
    by_cases hj : j < (invsOf es t).length
    · rw [invPos_snoc_of_lt hj] at hp
      exact h (t, i) (t, j) rfl ⟨q, p, hq', hp, hlt⟩
    · have := hle t
      omega
  · -- the new event is the last one: nothing is invoked after it
    have := invPos_lt hp
    rw [List.length_append, List.length_singleton] at this
    omega

end positions

theorem wellFormed_snoc {es : List (Event Op Ret)} {e : Event Op Ret} :
    WellFormed (es ++ [e]) ↔ WellFormed es ∧ Admissible es e := by
  constructor
  · intro h
    refine ⟨?_, h es e [] rfl⟩
    intro p e' q heq
    exact h p e' (q ++ [e]) (by rw [heq]; simp)
  · rintro ⟨h1, h2⟩ p e' q heq
    rcases List.eq_nil_or_concat q with rfl | ⟨q', e'', rfl⟩
    · obtain ⟨rfl, h3⟩ := List.append_inj' heq rfl
      cases h3
      exact h2
    · rw [List.concat_eq_append, ← List.cons_append, ← List.append_assoc] at heq
      exact h1 p e' q' (List.append_inj' heq rfl).1

theorem wellFormed_nil : WellFormed ([] : List (Event Op Ret)) := by
  intro p e q h
  cases p <;> cases h

/-- the entry of `last_completed` for thread `k`, built at an invocation of `t` -/
def lastIdx {β : Type} (t k : Nat) (cs : List β) : Option Nat := if k = t ∨ cs.isEmpty then none else some (cs.length - 1)

theorem lastCompleted_eq (hist : List (Nat × List (LC × Op × Ret))) (t : Nat) :
    lastCompleted true hist t = hist.filterMap fun e => (lastIdx t e.1 e.2).map fun x => (e.1, x) := by
  unfold lastCompleted lastIdx
  rw [if_pos rfl]
  congr 1
  funext e
  split <;> rfl

theorem sorted_lastCompleted {hist : List (Nat × List (LC × Op × Ret))} (hs : Sorted hist) (rt : Bool) (t : Nat) :
    Sorted (lastCompleted rt hist t) := by
  cases rt with
  | false => exact sorted_nil
  | true =>
    rw [lastCompleted_eq]
    exact sorted_filterMap (lastIdx t) hs

theorem lastCompleted_iff {hist : List (Nat × List (LC × Op × Ret))} (hs : Sorted hist) (rt : Bool) (t p i : Nat) :
    (∃ m, find? p (lastCompleted rt hist t) = some m ∧ i ≤ m) ↔
      rt = true ∧ p ≠ t ∧ i < ((find? p hist).getD []).length := by
  cases rt with
  | false => simp [lastCompleted]
  | true =>
    rw [lastCompleted_eq, find?_filterMap (lastIdx t) p hs]
    cases find? p hist with
    | none => simp
    | some cs =>
      by_cases hp : p = t
      · simp [lastIdx, hp]
      · cases cs with
        | nil => simp [lastIdx]
        | cons c cs' =>
          simp only [lastIdx, Option.bind_some, hp, List.isEmpty_cons, Bool.false_eq_true, or_self, if_false,
            Option.some.injEq, exists_eq_left', Option.getD_some, List.length_cons, ne_eq, not_false_eq_true, true_and]
          omega

theorem precedesRT_new_inv {es : List (Event Op Ret)} {t : Nat} (op : Op)
    (hnf : (invsOf es t).length = (retsOf es t).length) (a : OpId) :
    PrecedesRT (es ++ [.inv t op]) a (t, (retsOf es t).length) ↔ a.2 < (retsOf es a.1).length := by
  have hinv : invPos (es ++ [Event.inv t op]) (t, (retsOf es t).length) = some es.length := by
    unfold invPos
    rw [invsOf_snoc_inv_self, List.getElem?_append_right (Nat.le_of_eq hnf), hnf, Nat.sub_self]
    rfl
  have hr : retPos (es ++ [Event.inv t op]) a = retPos es a := by
    unfold retPos
    rw [retsOf_snoc_inv]
  unfold PrecedesRT
  rw [hinv, hr]
  constructor
  · rintro ⟨q, p, hq, _, _⟩
    exact retPos_isSome_iff.1 ⟨q, hq⟩
  · intro hlt
    obtain ⟨q, hq⟩ := retPos_isSome_iff.2 hlt
    exact ⟨q, es.length, hq, rfl, retPos_lt hq⟩

/-- C08_bookkeeping at the moment of invocation -/
theorem lcOk_lastCompleted {rt : Bool} {es : List (Event Op Ret)} {hist : List (Nat × List (LC × Op × Ret))}
    (hs : Sorted hist) (hlen : ∀ t, ((find? t hist).getD []).length = (retsOf es t).length)
    (t : Nat) (op : Op) (hnf : (invsOf es t).length = (retsOf es t).length) :
    LcOk rt (es ++ [.inv t op]) (t, (retsOf es t).length) (lastCompleted rt hist t) := by
  refine ⟨sorted_lastCompleted hs rt t, ?_, ?_⟩
  · cases hf : find? t (lastCompleted rt hist t) with
    | none => rfl
    | some m => exact absurd rfl ((lastCompleted_iff hs rt t t 0).1 ⟨m, hf, Nat.zero_le m⟩).2.1
  · intro a ha
    rw [precedesRT_new_inv op hnf, lastCompleted_iff hs, hlen]
    exact and_congr_right fun _ => and_iff_right ha

/-- `count` ties the tester to `es`: a thread with an in-flight entry has one more invocation than returns, the others
    as many; every later proof reads "in flight" off this equation. -/
structure RInv (rt : Bool) (es : List (Event Op Ret)) (T : Tester S Op Ret) : Prop where
  valid : T.valid = true
  hSorted : Sorted T.hist
  fSorted : Sorted T.inflight
  sameThread : SameThread es
  hist : ∀ t, ((find? t T.hist).getD []).length = (retsOf es t).length ∧
    ∀ i e, ((find? t T.hist).getD [])[i]? = some e → Recorded rt es (t, i) e
  count : ∀ t, (invsOf es t).length = (retsOf es t).length + (find? t T.inflight).toList.length
  infl : ∀ t lc op, find? t T.inflight = some (lc, op) →
    (find? t T.hist).isSome = true ∧ opAt es (t, (retsOf es t).length) = some op ∧ LcOk rt es (t, (retsOf es t).length) lc

section
variable {rt : Bool} {es : List (Event Op Ret)} {T : Tester S Op Ret}

theorem RInv.inFlight_iff (h : RInv rt es T) (t : Nat) : InFlightIn es t ↔ (find? t T.inflight).isSome = true := by
  unfold InFlightIn
  rw [h.count t]
  cases find? t T.inflight <;> simp

theorem RInv.inflight_none (h : RInv rt es T) {t : Nat} (hn : ¬ InFlightIn es t) : find? t T.inflight = none :=
  Option.not_isSome_iff_eq_none.1 (mt (h.inFlight_iff t).2 hn)

theorem rinv_nil (rt : Bool) (s0 : S) : RInv rt ([] : List (Event Op Ret)) (Tester.new s0) :=
  ⟨rfl, sorted_nil, sorted_nil, (fun _ _ _ ⟨_, _, h, _⟩ => nomatch h), fun _ => ⟨rfl, (fun _ _ h => nomatch h)⟩,
    fun _ => rfl, (fun _ _ _ h => nomatch h)⟩

theorem RInv.step_inv (h : RInv rt es T) {t : Nat} {op : Op} (hadm : Admissible es (.inv t op)) :
    find? t T.inflight = none ∧ step rt T (.inv t op) =
      ({ T with inflight := upsert t (lastCompleted rt T.hist t, op) T.inflight, hist := orInsert t [] T.hist }, .ok) := by
  have hnf := h.inflight_none hadm
  exact ⟨hnf, by simp only [step, onInvoke, h.valid, Bool.not_true, Bool.false_eq_true, if_false, hnf]⟩

theorem RInv.step_ret (h : RInv rt es T) {t : Nat} {r : Ret} (hadm : Admissible es (.ret t r)) :
    ∃ lc op, find? t T.inflight = some (lc, op) ∧ step rt T (.ret t r) =
      ({ T with inflight := erase t T.inflight,
                hist := upsert t ((find? t T.hist).getD [] ++ [(lc, op, r)]) T.hist }, .ok) := by
  cases hf : find? t T.inflight with
  | none => exact absurd ((h.inFlight_iff t).1 hadm) (by rw [hf]; exact Bool.false_ne_true)
  | some lcop =>
    exact ⟨lcop.1, lcop.2, rfl, by simp only [step, onReturn, h.valid, Bool.not_true, Bool.false_eq_true, if_false, hf]⟩

theorem rinv_step (h : RInv rt es T) (e : Event Op Ret) (hadm : Admissible es e) :
    RInv rt (es ++ [e]) (step rt T e).1 ∧ (step rt T e).2 = Res.ok := by
  have hst : SameThread (es ++ [e]) := h.sameThread.snoc fun t => Nat.le.intro (h.count t).symm
  cases e with
  | inv t op =>
    obtain ⟨hnf, hstep⟩ := h.step_inv hadm
    have hlen : (invsOf es t).length = (retsOf es t).length := by
      rw [h.count t, hnf]
      rfl
    rw [hstep]
    refine ⟨⟨h.valid, sorted_orInsert h.hSorted, sorted_upsert h.fSorted, hst, ?_, ?_, ?_⟩, rfl⟩
    · intro t'
      rw [getD_find?_orInsert_nil, retsOf_snoc_inv]
      exact ⟨(h.hist t').1, fun i x hg => ((h.hist t').2 i x hg).snoc⟩
    · intro t'
      rw [retsOf_snoc_inv]
      by_cases ht : t = t'
      · subst ht
        rw [find?_upsert_self, invsOf_snoc_inv_self, List.length_append, hlen]
        rfl
      · rw [find?_upsert_ne ht, invsOf_snoc_inv_ne es ht]
        exact h.count t'
    · intro t' lc op' hf
      rw [retsOf_snoc_inv]
      by_cases ht : t = t'
      · subst ht
        rw [find?_upsert_self] at hf
        cases hf
        refine ⟨isSome_find?_orInsert (Or.inl rfl), ?_, lcOk_lastCompleted h.hSorted (fun t => (h.hist t).1) t op hlen⟩
        unfold opAt
        rw [invsOf_snoc_inv_self, List.getElem?_append_right (Nat.le_of_eq hlen), hlen, Nat.sub_self]
        rfl
      · rw [find?_upsert_ne ht] at hf
        obtain ⟨h1, h3, h4⟩ := h.infl t' lc op' hf
        have hi : (retsOf es t').length < (invsOf es t').length := (h.inFlight_iff t').2 (by rw [hf]; rfl)
        exact ⟨isSome_find?_orInsert (Or.inr h1), (opAt_snoc_of_lt hi).trans h3, h4.snoc hi⟩
  | ret t r =>
    obtain ⟨lc, op, hf, hstep⟩ := h.step_ret hadm
    obtain ⟨_, hop, hlc⟩ := h.infl t lc op hf
    have hi : (retsOf es t).length < (invsOf es t).length := hadm
    rw [hstep]
    refine ⟨⟨h.valid, sorted_upsert h.hSorted, sorted_erase h.fSorted, hst, ?_, ?_, ?_⟩, rfl⟩
    · intro t'
      by_cases ht : t = t'
      · subst ht
        rw [find?_upsert_self, Option.getD_some, retsOf_snoc_ret_self, List.length_append, List.length_append, (h.hist t).1]
        refine ⟨rfl, ?_⟩
        intro i x hg
        rcases getElem?_snoc_eq_some hg with hg | ⟨hie, hg⟩
        · exact ((h.hist t).2 i x hg).snoc
        · cases hg
          rw [hie, (h.hist t).1]
          refine ⟨(opAt_snoc_of_lt hi).trans hop, ?_, hlc.snoc hi⟩
          unfold retAt
          rw [retsOf_snoc_ret_self, List.getElem?_append_right (Nat.le_refl _), Nat.sub_self]
          rfl
      · rw [find?_upsert_ne ht, retsOf_snoc_ret_ne es ht]
        exact ⟨(h.hist t').1, fun i x hg => ((h.hist t').2 i x hg).snoc⟩
    · intro t'
      rw [find?_erase h.fSorted, invsOf_snoc_ret]
      by_cases ht : t' = t
      · subst ht
        rw [if_pos rfl, retsOf_snoc_ret_self, List.length_append, h.count t', hf]
        rfl
      · rw [if_neg ht, retsOf_snoc_ret_ne es (Ne.symm ht)]
        exact h.count t'
    · intro t' lc' op' hf'
      rw [find?_erase h.fSorted] at hf'
      by_cases ht : t' = t
      · rw [if_pos ht] at hf'
        cases hf'
      · rw [if_neg ht] at hf'
        obtain ⟨h1, h3, h4⟩ := h.infl t' lc' op' hf'
        have hi' : (retsOf es t').length < (invsOf es t').length := (h.inFlight_iff t').2 (by rw [hf']; rfl)
        rw [retsOf_snoc_ret_ne es (Ne.symm ht), find?_upsert_ne (Ne.symm ht)]
        exact ⟨h1, (opAt_snoc_of_lt hi').trans h3, h4.snoc hi'⟩

end

theorem record_append (rt : Bool) (s0 : S) (l1 l2 : List (Event Op Ret)) :
    record rt s0 (l1 ++ l2) = l2.foldl (fun T e => (step rt T e).1) (record rt s0 l1) :=
  List.foldl_append

theorem record_snoc (rt : Bool) (s0 : S) (es : List (Event Op Ret)) (e : Event Op Ret) :
    record rt s0 (es ++ [e]) = (step rt (record rt s0 es) e).1 :=
  record_append rt s0 es [e]

theorem rinv_record {rt : Bool} (s0 : S) : ∀ es : List (Event Op Ret), WellFormed es → RInv rt es (record rt s0 es) := by
  intro es
  induction es using snoc_induction with
  | nil =>
    intro _
    exact rinv_nil rt s0
  | snoc es e ih =>
    intro hwf
    obtain ⟨h1, h2⟩ := wellFormed_snoc.1 hwf
    rw [record_snoc]
    exact (rinv_step (ih h1) e h2).1

end SR.Sem
