import SR.Proofs.SemAMap
import SR.Sem.SeqCons
/-!
The literal transcription of the sequential-consistency tester (`SCTester`) behaves exactly like
`Tester` with `rt = false`: recording commutes with `SCTester.embed`, and the two searches return
the same result. Hence everything proved for `Tester false` holds for `SCTester`.
-/
namespace SR.Sem
open AMap
variable {S Op Ret : Type}

namespace SCTester

def eH (cs : List (Op × Ret)) : List (LC × Op × Ret) := cs.map fun x => (([] : LC), x.1, x.2)
def eF (op : Op) : LC × Op := (([] : LC), op)

theorem embed_eq (T : SCTester S Op Ret) :
    embed T = { init := T.init, hist := T.hist.map fun e => (e.1, eH e.2),
                inflight := T.inflight.map fun e => (e.1, eF e.2), valid := T.valid } := rfl

theorem embed_new (s0 : S) : embed (SCTester.new s0 : SCTester S Op Ret) = Tester.new s0 := rfl

theorem embed_step (T : SCTester S Op Ret) (e : Event Op Ret) :
    embed (step T e).1 = (Tester.step false (embed T) e).1 ∧ (step T e).2 = (Tester.step false (embed T) e).2 := by
  have hv' : (embed T).valid = T.valid := rfl
  have hfm : ∀ t, find? t (embed T).inflight = (find? t T.inflight).map eF := fun t => find?_map eF t T.inflight
  have hfh : ∀ t, find? t (embed T).hist = (find? t T.hist).map eH := fun t => find?_map eH t T.hist
  cases e with
  | inv t op =>
    rw [step, Tester.step]
    unfold onInvoke Tester.onInvoke
    rw [hv', hfm]
    cases hv : T.valid with
    | false => exact ⟨rfl, rfl⟩
    | true =>
      simp only [Bool.not_true, Bool.false_eq_true, if_false]
      cases hf : find? t T.inflight with
      | some x => exact ⟨by simp only [Option.map_some]; rw [embed_eq, embed_eq], rfl⟩
      | none =>
        simp only [Option.map_none, and_true]
        rw [embed_eq, embed_eq]
        simp only [Tester.lastCompleted, Bool.false_eq_true, if_false]
        congr 1
        · exact (orInsert_map eH t [] T.hist).symm
        · exact (upsert_map eF t op T.inflight).symm
  | ret t r =>
    rw [step, Tester.step]
    unfold onReturn Tester.onReturn
    rw [hv', hfm, hfh]
    cases hv : T.valid with
    | false => exact ⟨rfl, rfl⟩
    | true =>
      simp only [Bool.not_true, Bool.false_eq_true, if_false]
      cases hf : find? t T.inflight with
      | none =>
        simp only [Option.map_none, and_true]
        rw [embed_eq, embed_eq]
        simp only
        congr 1
        exact (orInsert_map eH t [] T.hist).symm
      | some op =>
        simp only [Option.map_some, eF, and_true]
        rw [embed_eq, embed_eq]
        simp only
        congr 1
        · have : (Option.map eH (find? t T.hist)).getD [] ++ [(([] : LC), op, r)]
              = eH ((find? t T.hist).getD [] ++ [(op, r)]) := by
            cases find? t T.hist <;> simp [eH]
          rw [this]
          exact (upsert_map eH t _ T.hist).symm
        · exact (erase_map eF t T.inflight).symm

theorem embed_record (s0 : S) (es : List (Event Op Ret)) : embed (record s0 es) = Tester.record false s0 es :=
  (List.foldl_hom embed fun T e => (embed_step T e).1.symm).symm

theorem results_eq (T : SCTester S Op Ret) (es : List (Event Op Ret)) :
    results T es = Tester.results false (embed T) es := by
  induction es generalizing T with
  | nil => rfl
  | cons e es ih =>
    simp only [results, Tester.results]
    rw [(embed_step T e).2, ih, (embed_step T e).1]

theorem len_embed (T : SCTester S Op Ret) : (embed T).len = T.len := by
  unfold Tester.len len
  rw [embed_eq]
  simp only [List.length_map, List.map_map]
  congr 1
  apply congrArg
  apply List.map_congr_left
  intro e _
  simp [eH]

/-- forget index and (empty) map of a queue entry -/
def pItem (it : Tester.Item Op Ret) : Op × Ret := (it.2.2.1, it.2.2.2)
def pQ (Q : Tester.Queues Op Ret) : Queues Op Ret := Q.map fun e => (e.1, e.2.map pItem)
def pF (F : Tester.InFlights Op) : List (Nat × Op) := F.map fun e => (e.1, e.2.2)

/-- Every recorded last-completed map is empty. The search of `Tester` runs on the enumerated queues, which are no
    `embed` image (the literal search has no indices), so the two searches are compared through the projections
    `pQ`, `pF`, on the states that satisfy this. -/
structure NoLc (Q : Tester.Queues Op Ret) (F : Tester.InFlights Op) : Prop where
  queues : ∀ e ∈ Q, ∀ it ∈ e.2, it.2.1 = []
  inflight : ∀ e ∈ F, e.2.1 = []

theorem violation_nil (Q : Tester.Queues Op Ret) : Tester.violation [] Q = false := rfl

theorem branch_eq (spec : SeqSpec S Op Ret) (obj : S) {Q : Tester.Queues Op Ret} {F : Tester.InFlights Op} {t : Nat}
    {rem : List (Tester.Item Op Ret)} (hn : NoLc Q F) (hm : (t, rem) ∈ Q) :
    branch spec obj (pQ Q) (pF F) t (rem.map pItem) =
      (Tester.branch spec obj Q F t rem).map (fun r => (r.1, pQ r.2.1, pF r.2.2.1, r.2.2.2)) ∧
    ∀ r, Tester.branch spec obj Q F t rem = some r → NoLc r.2.1 r.2.2.1 := by
  cases rem with
  | nil =>
    have hfm : find? t (pF F) = (find? t F).map Prod.snd := find?_map Prod.snd t F
    simp only [List.map_nil, branch, Tester.branch]
    rw [hfm]
    cases hf : find? t F with
    | none => exact ⟨rfl, nofun⟩
    | some x =>
      obtain ⟨lc, op⟩ := x
      cases (hn.inflight _ (mem_of_find? hf) : lc = [])
      simp only [Option.map_some, violation_nil, Bool.false_eq_true, if_false]
      rw [show erase t (pF F) = pF (erase t F) from erase_map Prod.snd t F]
      refine ⟨rfl, ?_⟩
      rintro _ ⟨⟩
      exact ⟨hn.queues, fun e he => hn.inflight e ((erase_sublist t F).subset he)⟩
  | cons it rest =>
    obtain ⟨i, lc, op, r⟩ := it
    cases (hn.queues _ hm _ List.mem_cons_self : lc = [])
    simp only [List.map_cons, pItem, branch, Tester.branch, violation_nil, Bool.false_eq_true, if_false]
    split
    · rw [Option.map_some]
      refine ⟨?_, ?_⟩
      · congr 3
        exact upsert_map (·.map pItem) t rest Q
      · rintro _ ⟨⟩
        refine ⟨fun e he it' hit' => ?_, hn.inflight⟩
        rcases mem_upsert he with rfl | he
        · exact hn.queues _ hm it' (List.mem_cons_of_mem _ hit')
        · exact hn.queues e he it' hit'
    · exact ⟨rfl, nofun⟩

theorem tryThreads_eq (spec : SeqSpec S Op Ret)
    {recL : List (Op × Ret) → S → Tester.Queues Op Ret → Tester.InFlights Op → Option (List (Op × Ret))}
    {recS : List (Op × Ret) → S → Queues Op Ret → List (Nat × Op) → Option (List (Op × Ret))}
    (hrec : ∀ acc obj Q F, NoLc Q F → recS acc obj (pQ Q) (pF F) = recL acc obj Q F)
    (acc : List (Op × Ret)) (obj : S) {Q : Tester.Queues Op Ret} {F : Tester.InFlights Op} (hn : NoLc Q F)
    (entries : List (Nat × List (Tester.Item Op Ret))) (hsub : ∀ e ∈ entries, e ∈ Q) :
    tryThreads spec recS acc obj (pQ Q) (pF F) (entries.map fun e => (e.1, e.2.map pItem)) =
      Tester.tryThreads spec recL acc obj Q F entries := by
  induction entries with
  | nil => rfl
  | cons e rest ih =>
    obtain ⟨t, rem⟩ := e
    obtain ⟨hbe, hbn⟩ := branch_eq spec obj hn (hsub _ List.mem_cons_self)
    have ih' := ih (fun e he => hsub e (List.mem_cons_of_mem _ he))
    simp only [List.map_cons, tryThreads, Tester.tryThreads]
    rw [hbe]
    cases hb : Tester.branch spec obj Q F t rem with
    | none => exact ih'
    | some res =>
      obtain ⟨obj', Q', F', x⟩ := res
      simp only [Option.map_some]
      rw [hrec _ _ _ _ (hbn _ hb)]
      cases recL (acc ++ [x]) obj' Q' F' with
      | some h => rfl
      | none => exact ih'

theorem all_empty_pQ (Q : Tester.Queues Op Ret) :
    (pQ Q).all (fun e => e.2.isEmpty) = Q.all (fun e => e.2.isEmpty) := by
  unfold pQ
  rw [List.all_map]
  congr 1
  funext e
  exact List.isEmpty_map

theorem serialize_eq (spec : SeqSpec S Op Ret) : ∀ (fuel : Nat) (acc : List (Op × Ret)) (obj : S)
    (Q : Tester.Queues Op Ret) (F : Tester.InFlights Op), NoLc Q F →
    serialize spec fuel acc obj (pQ Q) (pF F) = Tester.serialize spec fuel acc obj Q F := by
  intro fuel
  induction fuel with
  | zero =>
    intros
    rfl
  | succ fuel ih =>
    intro acc obj Q F hn
    simp only [serialize, Tester.serialize, all_empty_pQ]
    split
    · rfl
    · exact tryThreads_eq spec ih acc obj hn Q (fun _ h => h)

theorem noLc_embed (T : SCTester S Op Ret) : NoLc (Tester.enumQueues (embed T).hist) (embed T).inflight := by
  constructor
  · intro e he it hit
    obtain ⟨e0, he0, rfl⟩ := List.mem_map.1 he
    obtain ⟨e1, _, rfl⟩ := List.mem_map.1 he0
    obtain ⟨p, hp, rfl⟩ := List.mem_map.1 hit
    obtain ⟨y, _, hy⟩ := List.mem_map.1 (List.fst_mem_of_mem_zipIdx hp)
    exact congrArg Prod.fst hy.symm
  · intro e he
    obtain ⟨e1, _, rfl⟩ := List.mem_map.1 he
    rfl

theorem pQ_enumQueues_embed (T : SCTester S Op Ret) : pQ (Tester.enumQueues (embed T).hist) = T.hist := by
  unfold pQ Tester.enumQueues
  rw [embed_eq, List.map_map, List.map_map]
  refine Eq.trans (List.map_congr_left (g := id) ?_) (List.map_id T.hist)
  intro e _
  refine Prod.ext rfl ?_
  show ((e.2.map fun x => (([] : LC), x.1, x.2)).zipIdx.map fun x => (x.2, x.1)).map pItem = e.2
  rw [List.map_map]
  show (e.2.map fun x => (([] : LC), x.1, x.2)).zipIdx.map ((fun y : LC × Op × Ret => (y.2.1, y.2.2)) ∘ Prod.fst) = e.2
  rw [← List.map_map, List.zipIdx_map_fst, List.map_map]
  exact Eq.trans (List.map_congr_left (g := id) fun _ _ => rfl) (List.map_id _)

theorem pF_embed (T : SCTester S Op Ret) : pF (embed T).inflight = T.inflight := by
  unfold pF
  rw [embed_eq, List.map_map]
  exact Eq.trans (List.map_congr_left (g := id) fun _ _ => rfl) (List.map_id _)

theorem serializedHistory_eq (spec : SeqSpec S Op Ret) (T : SCTester S Op Ret) :
    serializedHistory spec T = Tester.serializedHistory spec (embed T) := by
  unfold serializedHistory Tester.serializedHistory
  rw [len_embed, ← serialize_eq spec _ _ _ _ _ (noLc_embed T), pQ_enumQueues_embed, pF_embed]
  rfl

theorem serializedHistory_record (spec : SeqSpec S Op Ret) (s0 : S) (es : List (Event Op Ret)) :
    serializedHistory spec (record s0 es) = Tester.serializedHistory spec (Tester.record false s0 es) := by
  rw [serializedHistory_eq, embed_record]

theorem results_record (s0 : S) (es : List (Event Op Ret)) :
    results (SCTester.new s0) es = Tester.results false (Tester.new s0) es := by
  rw [results_eq, embed_new]

theorem len_record_eq (s0 : S) (es : List (Event Op Ret)) : (record s0 es).len = (Tester.record false s0 es).len := by
  rw [← embed_record, len_embed]

theorem valid_record (s0 : S) (es : List (Event Op Ret)) : (record s0 es).valid = (Tester.record false s0 es).valid := by
  rw [← embed_record]
  rfl

end SCTester
end SR.Sem
