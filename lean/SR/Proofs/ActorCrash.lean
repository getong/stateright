import SR.Actor.Spec
/-! Crash faults: a crash commutes with the steps of other actors. -/
namespace SR.Actor

variable {σ η : Type}

theorem specStep_crash (sys : ActorSys σ η) (st : St σ η) (i : Nat) (hi : i < sys.n) :
    specStep sys st (.crash i) = .next (crashOf i st) := by
  simp [specStep, hi, crashOf]

theorem specNext_crashOf {sys : ActorSys σ η} {st : St σ η} {a : Action} {i j : Nat} {s : σ} {ns : Option σ}
    {cmds : List Cmd} (hij : i ≠ j) :
    specNext sys (crashOf i st) a j s ns cmds = (specNext sys st a j s ns cmds).map (crashOf i) := by
  unfold specNext
  simp only [crashOf, List.getElem?_set_ne hij]
  split <;> simp [crashOf, List.set_comm _ _ hij]

theorem specStep_crashOf (sys : ActorSys σ η) (st : St σ η) (a : Action) (i : Nat)
    (hother : actorOfAction a ≠ some i) (hc : ∀ k, a ≠ .crash k) :
    specStep sys (crashOf i st) a = (specStep sys st a).map (crashOf i) := by
  have key : ∀ (j : Nat) (ev : Event), i ≠ j →
      specHandlerStep sys (crashOf i st) a j ev = (specHandlerStep sys st a j ev).map (crashOf i) := by
    intro j ev hij
    have h1 : (crashOf i st).actors = st.actors := rfl
    have h2 : (crashOf i st).crashed[j]? = st.crashed[j]? := by simp [crashOf, List.getElem?_set_ne hij]
    -- the tests read the same values in both states; in the last branch the successors are those of `specNext_crashOf`
    fun_cases specHandlerStep sys st a j ev <;>
      simp only [specHandlerStep, *, specNext_crashOf hij, if_true, if_false, Bool.false_eq_true]
    case case6 s _ _ ns cmds _ _ => cases specNext sys st a j s ns cmds <;> rfl
    all_goals rfl
  cases a with
  | drop e =>
    simp only [specStep, crashOf]
    cases st.net.onDrop e <;> rfl
  | crash k => exact absurd rfl (hc k)
  | deliver e => exact key e.dst _ (fun h => hother (congrArg some h.symm))
  | timeout j t => exact key j _ (fun h => hother (congrArg some h.symm))
  | selectRandom j k r => exact key j _ (fun h => hother (congrArg some h.symm))

end SR.Actor
