import SR.Proofs.DenseNatMap
/-! Lemmas for C10 (a): `planOf` is the stable sorting permutation — the inverse of the permutation that the
first (stable, by value) sort of `from_values_to_sort` applies to the indices. -/
namespace SR.DNM
open List

section plan
variable {V : Type} (le : V → V → Bool)

/-- `combined` after the first (stable, by value) sort: the sorting permutation with the values attached -/
def sortedIdx (vs : List V) : List (Nat × V) :=
  ((List.range vs.length).zip vs).mergeSort (fun a b => le a.2 b.2)

theorem sortedIdx_perm (vs : List V) : (sortedIdx le vs).Perm ((List.range vs.length).zip vs) :=
  mergeSort_perm _ _

theorem sortedIdx_length (vs : List V) : (sortedIdx le vs).length = vs.length := by
  rw [(sortedIdx_perm le vs).length_eq]
  simp

theorem sortedIdx_fst_perm (vs : List V) : ((sortedIdx le vs).map (·.1)).Perm (List.range vs.length) := by
  have := (sortedIdx_perm le vs).map (·.1)
  rwa [List.map_fst_zip (by simp)] at this

theorem planOf_eq (vs : List V) :
    planOf le vs = (((List.range (sortedIdx le vs).length).zip (sortedIdx le vs)).mergeSort
      (fun a b => decide (a.2.1 ≤ b.2.1))).map (·.1) := rfl

theorem planOf_perm (vs : List V) : (planOf le vs).Perm (List.range vs.length) := by
  rw [planOf_eq]
  have h := (mergeSort_perm ((List.range (sortedIdx le vs).length).zip (sortedIdx le vs))
    (fun a b => decide (a.2.1 ≤ b.2.1))).map (·.1)
  rw [List.map_fst_zip (by simp)] at h
  exact h.trans (by rw [sortedIdx_length])

theorem planOf_length (vs : List V) : (planOf le vs).length = vs.length := by
  rw [(planOf_perm le vs).length_eq]
  simp

/-- the plan in the form the `reindexO` / `place` lemmas ask for -/
theorem planOf_perm_range (vs : List V) : (planOf le vs).Perm (List.range (planOf le vs).length) := by
  rw [planOf_length]
  exact planOf_perm le vs

theorem planOf_spec (vs : List V) (i : Nat) (hi : i < vs.length) :
    ∃ k, ∃ hk : k < (sortedIdx le vs).length,
      (planOf le vs)[i]? = some k ∧ (sortedIdx le vs)[k] = (i, vs[i]) := by
  have hm : (i, vs[i]) ∈ (List.range vs.length).zip vs := List.mem_iff_getElem.2 ⟨i, by simpa using hi, by simp⟩
  obtain ⟨k, hk, hkp⟩ := List.getElem_of_mem ((sortedIdx_perm le vs).symm.subset hm)
  refine ⟨k, hk, ?_, hkp⟩
  -- the second sort is by the original index, a permutation of `0..n-1`
  have hkeys := zip_range_keys Prod.fst (sortedIdx le vs) (by rw [sortedIdx_length]; exact sortedIdx_fst_perm le vs)
  have hx : (k, (i, vs[i])) ∈ (List.range (sortedIdx le vs).length).zip (sortedIdx le vs) :=
    List.mem_iff_getElem.2 ⟨k, by simpa using hk, by simp [hkp]⟩
  rw [planOf_eq, List.getElem?_map, sort_key_get (fun p : Nat × Nat × V => p.2.1) _ hkeys _ hx]
  rfl

theorem sortedIdx_lex (htr : ∀ a b c : V, le a b = true → le b c = true → le a c = true)
    (hto : ∀ a b : V, (le a b || le b a) = true) (vs : List V) :
    (sortedIdx le vs).Pairwise (fun a b => le a.2 b.2 = true ∧ (le b.2 a.2 = true → a.1 ≤ b.1)) := by
  -- `mergeSort` agrees with the sort that breaks ties by position (`mergeSort_zipIdx`), and here the position is `a.1`
  have hfst : ∀ a ∈ ((List.range vs.length).zip vs).zipIdx.mergeSort (zipIdxLE fun a b => le a.2 b.2), a.2 = a.1.1 := by
    intro a ha
    obtain ⟨_, h⟩ := List.getElem?_eq_some_iff.1 (List.mem_zipIdx_iff_getElem?.1 (mem_mergeSort.1 ha))
    simp [← h]
  rw [sortedIdx, ← mergeSort_zipIdx (le := fun (a b : Nat × V) => le a.2 b.2), List.pairwise_map]
  refine (pairwise_mergeSort (zipIdxLE_trans fun a b c : Nat × V => htr a.2 b.2 c.2)
    (zipIdxLE_total fun a b : Nat × V => hto a.2 b.2) _).imp_of_mem ?_
  intro a b ha hb h
  simpa [zipIdxLE, hfst a ha, hfst b hb, Decidable.imp_iff_not_or] using h

/-- the plan orders the indices lexicographically by (value, index) -/
theorem planOf_lt_iff (htr : ∀ a b c : V, le a b = true → le b c = true → le a c = true)
    (hto : ∀ a b : V, (le a b || le b a) = true) (vs : List V) (i j : Nat) (hi : i < vs.length) (hj : j < vs.length) :
    (∃ pi pj, (planOf le vs)[i]? = some pi ∧ (planOf le vs)[j]? = some pj ∧ pi < pj) ↔
      le vs[i] vs[j] = true ∧ (le vs[j] vs[i] = true → i < j) := by
  obtain ⟨ki, hki, e1, c1⟩ := planOf_spec le vs i hi
  obtain ⟨kj, hkj, e2, c2⟩ := planOf_spec le vs j hj
  have pw := List.pairwise_iff_getElem.1 (sortedIdx_lex le htr hto vs)
  have h1 := pw ki kj hki hkj
  have h2 := pw kj ki hkj hki
  rw [c1, c2] at h1 h2
  simp only [e1, e2, Option.some.injEq]
  constructor
  · rintro ⟨_, _, rfl, rfl, h⟩
    -- on a tie `i ≤ j`, and `i ≠ j` because their positions differ
    refine ⟨(h1 h).1, fun c => Nat.lt_of_le_of_ne ((h1 h).2 c) fun e => ?_⟩
    subst e
    rw [e1] at e2
    injection e2
    omega
  · rintro ⟨a, b⟩
    refine ⟨_, _, rfl, rfl, ?_⟩
    -- the same position would mean `i = j`, the opposite order of positions the opposite lexicographic order
    rcases Nat.lt_trichotomy ki kj with h | h | h
    · exact h
    · subst h
      rw [c1] at c2
      injection c2 with e
      subst e
      exact absurd (b a) (Nat.lt_irrefl _)
    · have := b (h2 h).1
      have := (h2 h).2 a
      omega

end plan

end SR.DNM
