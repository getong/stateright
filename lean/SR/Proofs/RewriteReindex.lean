import SR.Util.Rewrite
import SR.Proofs.DenseNatMap
import SR.Proofs.ListAux
/-! Lemmas for C10 (a)/(b): `reindexO` puts (the rewritten) element `i` at position `plan[i]`, and
agrees with the declarative `place`. -/
namespace SR.RW
open List SR.DNM

theorem reindexO_some_iff {plan : List Nat} (hperm : plan.Perm (List.range plan.length)) {α}
    (f : α → Option α) (xs ys : List α) :
    reindexO plan f xs = some ys ↔
      ys.length = plan.length ∧ ∀ i (hi : i < plan.length), (xs[i]?).bind f = ys[plan[i]]? := by
  unfold reindexO
  rw [mapM_some_iff, (mergeSort_perm _ _).length_eq, List.length_map, List.length_zip, List.length_range,
    Nat.min_self, forall_perm_range hperm]
  refine and_congr Iff.rfl (forall_congr' fun i => forall_congr' fun hi => ?_)
  -- sorted by their first components, the pairs `(plan[i], i)` have `(plan[i], i)` at position `plan[i]`
  rw [sort_key_get Prod.fst _ ?_ (plan[i], i) ?_]
  · rfl
  · rw [List.map_map, List.length_map]
    exact zip_range_keys id plan (by simpa using hperm)
  · exact List.mem_map.2 ⟨(i, plan[i]), List.mem_iff_getElem.2 ⟨i, by simpa using hi, by simp⟩, rfl⟩

theorem place_some_iff {π : List Nat} (hperm : π.Perm (List.range π.length)) {α} (zs ys : List α) :
    place π zs = some ys ↔ ys.length = π.length ∧ ∀ i (hi : i < π.length), zs[i]? = ys[π[i]]? := by
  unfold place
  rw [mapM_some_iff, List.length_range, forall_perm_range hperm]
  refine and_congr Iff.rfl (forall_congr' fun i => forall_congr' fun hi => ?_)
  rw [List.getElem?_range (perm_range_lt hperm i hi)]
  simp only [Option.bind_some, List.getElem_mem, if_true, (perm_range_nodup hperm).idxOf_getElem i hi]

theorem reindexO_eq_place {plan : List Nat} (hperm : plan.Perm (List.range plan.length)) {α}
    (f : α → Option α) (xs : List α) :
    reindexO plan f xs = ((xs.take plan.length).mapM f).bind (place plan) := by
  cases hz : (xs.take plan.length).mapM f with
  | none =>
    -- had `reindexO` succeeded, every element of the prefix would have rewritten successfully
    show reindexO plan f xs = none
    cases hr : reindexO plan f xs with
    | none => rfl
    | some ys =>
      obtain ⟨hl, h⟩ := (reindexO_some_iff hperm f xs ys).1 hr
      have hs : ((xs.take plan.length).mapM f).isSome := by
        refine mapM_isSome_of_forall f _ fun x hx => ?_
        obtain ⟨i, hi, rfl⟩ := List.getElem_of_mem hx
        simp only [List.length_take] at hi
        have := h i (by omega)
        have hp := perm_range_lt hperm i (by omega)
        rw [List.getElem?_eq_getElem (by omega), List.getElem?_eq_getElem (by omega), Option.bind_some] at this
        rw [List.getElem_take, this]
        rfl
      rw [hz] at hs
      cases hs
  | some zs =>
    show reindexO plan f xs = place plan zs
    have hzs : ∀ i, i < plan.length → (xs[i]?).bind f = zs[i]? := fun i hi => by
      obtain ⟨zl, zh⟩ := (mapM_some_iff f _ zs).1 hz
      simp only [List.length_take] at zl zh
      by_cases hx : i < xs.length
      · rw [← zh i (by omega), List.getElem?_take_of_lt hi]
      · rw [List.getElem?_eq_none (by omega), List.getElem?_eq_none (by omega)]
        rfl
    apply Option.ext
    intro ys
    rw [reindexO_some_iff hperm, place_some_iff hperm]
    exact and_congr Iff.rfl (forall_congr' fun i => forall_congr' fun hi => by rw [hzs i hi])

theorem place_mapM_take {π : List Nat} (hperm : π.Perm (List.range π.length)) {α} (f : α → Option α)
    (xs zs ys : List α) (h1 : (xs.take π.length).mapM f = some zs) (h2 : place π zs = some ys) :
    ys.length = π.length ∧ ∀ i (hi : i < π.length), (xs[i]?).bind f = ys[π[i]]? := by
  refine (reindexO_some_iff hperm f xs ys).1 ?_
  rw [reindexO_eq_place hperm, h1]
  exact h2

end SR.RW
