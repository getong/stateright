import SR.Proofs.Market
/-! The invariants of the job market along every run, and the measure of its shutdown phase. -/
namespace SR.Market

/-- `oc` is `≤` only: the `Drop` of a clone that is no worker's takes one off `open_count` (`OInv` below: `=` while open, for
    `tc = k`).  `dropped`, `exited`: a `Drop` closes the market and clears the batches, and a worker leaves by its `Drop` only. -/
structure PInv (s : MState) : Prop where
  wf : s.pcs.length = s.locs.length
  oc : s.openCount ≤ s.pcs.count .running
  noLost : NoLost s.pcs
  dropped : s.dropped = true → s.isOpen = false ∧ s.batches = []
  exited : Pc.exited ∈ s.pcs → s.dropped = true

theorem popEff_pinv {s s' : MState} {w : Nat} (h : PInv s) (hw : s.pcs[w]? = some .running)
    (hp : PopEff s w s') : PInv s' := by
  cases hp with
  | got hb =>
    refine ⟨by simpa using h.wf, h.oc, h.noLost, ?_, h.exited⟩
    intro hd
    cases hb.symm.trans (h.dropped hd).2
  | close hb =>
    exact ⟨by simpa [length_notifyAll] using h.wf, Nat.zero_le _, noLost_notifyAll _, fun _ => ⟨rfl, hb⟩,
      fun he => h.exited (exited_mem_notifyAll.1 he)⟩
  | park _ hne =>
    -- a colleague is still counted, so somebody is running
    have hc := count_set_leave hw (p := .parked false) nofun
    have hoc := h.oc
    have hcnt : s.openCount - 1 ≤ (s.pcs.set w (.parked false)).count .running := by omega
    have hpos : 0 < (s.pcs.set w (.parked false)).count .running := by omega
    exact ⟨by simpa using h.wf, hcnt, noLost_of_running (List.count_pos_iff.1 hpos), h.dropped,
      fun he => (List.mem_or_eq_of_mem_set he).elim h.exited nofun⟩

theorem pinv_woken {s : MState} {w : Nat} {b : Bool} (h : PInv s) (hw : s.pcs[w]? = some (.parked b)) :
    PInv (woken s w) := by
  have hc := count_set_enter hw (q := .running) nofun
  have hoc := h.oc
  have hcnt : s.openCount + 1 ≤ (s.pcs.set w .running).count .running := by omega
  exact ⟨by simpa [woken] using h.wf, hcnt, noLost_of_running (List.mem_iff_getElem?.2 ⟨w, getElem?_woken hw⟩),
    h.dropped, fun he => (List.mem_or_eq_of_mem_set he).elim h.exited nofun⟩

theorem pinv_share {s : MState} (h : PInv s) (ho : s.isOpen = true) (picks : List Nat)
    (bs locs : List (List Tok)) (cr : List Tok) (hl : locs.length = s.locs.length) :
    PInv { s with batches := bs, locs := locs, created := cr, pcs := notifyPicks s.pcs picks } := by
  refine ⟨by simp [length_notifyPicks, hl, h.wf], ?_, noLost_notifyPicks _ h.noLost, ?_, ?_⟩
  · exact (count_notifyPicks s.pcs picks (q := .running) (by simp)).symm ▸ h.oc
  · intro hd
    cases ho.symm.trans (h.dropped hd).1
  · intro he
    exact h.exited ((mem_iff_of_count_eq (count_notifyPicks s.pcs picks (q := .exited) (by simp))).1 he)

theorem pinv_local {s : MState} (h : PInv s) (locs : List (List Tok)) (cr co : List Tok)
    (hl : locs.length = s.locs.length) : PInv { s with locs := locs, created := cr, consumed := co } :=
  ⟨h.wf.trans hl.symm, h.oc, h.noLost, h.dropped, h.exited⟩

theorem pinv_dropMarket {s : MState} (h : PInv s) : PInv (dropMarket s) := by
  refine ⟨by simp [dropMarket, length_notifyAll, h.wf], ?_, noLost_notifyAll _, fun _ => ⟨rfl, rfl⟩, fun _ => rfl⟩
  have := h.oc
  simp only [dropMarket, count_notifyAll]
  omega

theorem pinv_step {s s' : MState} {m : Step} (h : PInv s) (hs : step s m = some s') : PInv s' := by
  cases step_eff hs with
  | popClosed => exact h
  | popBegin hw _ hp => exact popEff_pinv h hw hp
  | wake hw hp => exact popEff_pinv (pinv_woken h hw) (getElem?_woken hw) hp
  | pushClosed | splitClosed | rearrange | work | xpushClosed => exact pinv_local h _ _ _ (by simp)
  | push _ ho | split _ ho | xpush _ ho => exact pinv_share h ho _ _ _ _ (by simp)
  | xdrop => exact pinv_dropMarket h
  | timeout => exact ⟨h.wf, h.oc, h.noLost, fun hd => ⟨rfl, (h.dropped hd).2⟩, h.exited⟩
  | @drop w hw =>
    have hd := pinv_dropMarket h
    have hc := count_set_leave (getElem?_notifyAll_running hw) (p := .exited) nofun
    have h1 := h.oc
    have h2 : (notifyAll s.pcs).count .running = s.pcs.count .running := count_notifyAll s.pcs .running
    have hcnt : s.openCount - 1 ≤ ((notifyAll s.pcs).set w .exited).count .running := by omega
    exact ⟨by simpa [dropMarket] using hd.wf, hcnt, fun hp => absurd hp (not_parkedFalse_mem_drop s.pcs w),
      hd.dropped, fun _ => rfl⟩

/-- `cons` while the market is open only: a stop discards jobs on purpose (`dropMarket`; `push`, `split` on a closed market) -/
structure TInv (s : MState) : Prop where
  nodup : s.created.Nodup
  cons : s.isOpen = true → ∀ t, (tokensIn s).count t + s.consumed.count t = s.created.count t

theorem tinv_closed {s : MState} (hn : s.created.Nodup) (hc : s.isOpen = false) : TInv s :=
  ⟨hn, fun ho => by cases hc.symm.trans ho⟩

/-- `pcs`, `oc` are there so that the steps' record updates unify -/
theorem tinv_move {s : MState} (h : TInv s) {w : Nat} (hw : w < s.locs.length) (bs : List (List Tok))
    (l cr co : List Tok) (pcs : List Pc) (oc : Nat) (hn : (cr ++ s.created).Nodup)
    (hbal : ∀ t, bs.flatten.count t + l.count t + co.count t
      = s.batches.flatten.count t + (s.locs.getD w []).count t + cr.count t) :
    TInv { s with batches := bs, locs := s.locs.set w l, created := cr ++ s.created,
                  consumed := co ++ s.consumed, pcs := pcs, openCount := oc } := by
  refine ⟨hn, fun ho t => ?_⟩
  have hc := h.cons ho t
  have hs := count_flatten_set t s.locs w l hw
  have hb := hbal t
  simp only [tokensIn, List.count_append] at hc ⊢
  omega

theorem popEff_tinv {s s' : MState} {w : Nat} (hw : w < s.locs.length) (h : TInv s) (hp : PopEff s w s') :
    TInv s' := by
  cases hp with
  | got hb =>
    refine tinv_move h hw _ _ [] [] _ _ h.nodup fun t => ?_
    simp only [hb, List.flatten_cons, List.count_append, List.count_nil]
    omega
  | close => exact tinv_closed h.nodup rfl
  | park => exact ⟨h.nodup, h.cons⟩  -- only `pcs`, `openCount` change

theorem tinv_step {s s' : MState} {m : Step} (hp : PInv s) (h : TInv s) (hs : step s m = some s') :
    TInv s' := by
  have lt {w : Nat} {p : Pc} (hw : s.pcs[w]? = some p) : w < s.locs.length :=
    hp.wf ▸ lt_length_of_getElem? hw
  cases step_eff hs with
  | popClosed => exact h
  | popBegin hw _ hp => exact popEff_tinv (lt hw) h hp
  | wake hw hp => exact popEff_tinv (s := woken s _) (lt hw) ⟨h.nodup, h.cons⟩ hp
  | pushClosed _ hc | splitClosed _ hc => exact tinv_closed h.nodup hc
  | xpushClosed hf hc => exact tinv_closed (nodup_fresh hf h.nodup) hc
  | drop | xdrop | timeout => exact tinv_closed h.nodup rfl
  | @push w n _ hw =>
    refine tinv_move h (lt hw) _ _ [] [] _ _ h.nodup fun t => ?_
    have := count_take_add_drop t n (s.locs.getD w [])
    simp only [List.flatten_cons, List.count_append, List.count_nil]
    omega
  | split hw _ hr =>
    subst hr
    exact tinv_move h (lt hw) _ _ [] [] _ _ h.nodup fun t => count_splitLoop t _ _ _ _
  | @work w c fresh hw hf =>
    refine tinv_move h (lt hw) _ _ fresh _ _ _ (nodup_fresh hf h.nodup) fun t => ?_
    have := count_take_add_drop t ((s.locs.getD w []).length - c) (s.locs.getD w [])
    simp only [List.count_append]
    omega
  | rearrange hw hperm => exact tinv_move h (lt hw) _ _ [] [] _ _ h.nodup fun t => by rw [hperm.count_eq t]
  | @xpush toks _ hf =>
    refine ⟨nodup_fresh hf h.nodup, fun ho t => ?_⟩
    have hc := h.cons ho t
    simp only [tokensIn, List.flatten_cons, List.count_append] at hc ⊢
    omega

structure MInv (s : MState) : Prop where
  p : PInv s
  t : TInv s

theorem count_replicate_running (k : Nat) : (List.replicate k Pc.running).count .running = k := by
  simp

/-- `tc ≤ k` is what `PInv.oc` needs: `open_count` starts at `tc`, and `k` workers are running -/
theorem minv_init (k tc : Nat) (h : tc ≤ k) : MInv (init k tc) := by
  refine ⟨⟨by simp [init], by simpa [init] using h, ?_, by simp [init], ?_⟩, ⟨by simp [init], ?_⟩⟩
  · intro hp
    simp [init] at hp
  · intro hp
    simp [init] at hp
  · intro _ t
    simp [init, tokensIn]

theorem minv_step {s s' : MState} {m : Step} (h : MInv s) (hs : step s m = some s') : MInv s' :=
  ⟨pinv_step h.p hs, tinv_step h.p h.t hs⟩

theorem mrun_induct {P : MState → Prop} (hstep : ∀ {s s' : MState} {m : Step}, P s → step s m = some s' → P s')
    (ms : List Step) {s : MState} (h : P s) : P (mrun s ms) :=
  List.foldlRecOn ms _ h fun s hs m _ => by
    cases e : step s m with
    | none => exact hs
    | some s' => exact hstep hs e

theorem minv_mrun {s : MState} (ms : List Step) (h : MInv s) : MInv (mrun s ms) :=
  mrun_induct minv_step ms h

theorem mrun_append (s : MState) (ms ms' : List Step) : mrun s (ms ++ ms') = mrun (mrun s ms) ms' := by
  simp [mrun, List.foldl_append]

theorem popEff_isOpen {s s' : MState} {w : Nat} (hp : PopEff s w s') :
    s'.isOpen = s.isOpen ∨ s'.isOpen = false ∧ Pc.parked false ∉ s'.pcs := by
  cases hp with
  | close => exact .inr ⟨rfl, not_parkedFalse_mem_notifyAll _⟩
  | _ => exact .inl rfl

/-- whoever closes the market notifies every waiting worker, the timeout thread's first critical section excepted -/
theorem step_isOpen {s s' : MState} {m : Step} (hs : step s m = some s') :
    s'.isOpen = s.isOpen ∨ s'.isOpen = false ∧ (Pc.parked false ∉ s'.pcs ∨ m = .timeoutFire) := by
  cases step_eff hs with
  | popBegin _ _ hp => exact (popEff_isOpen hp).imp_right (.imp_right .inl)
  | wake _ hp => exact (popEff_isOpen hp).imp_right (.imp_right .inl)
  | drop => exact .inr ⟨rfl, .inl (not_parkedFalse_mem_drop _ _)⟩
  | xdrop => exact .inr ⟨rfl, .inl (not_parkedFalse_mem_notifyAll _)⟩
  | timeout => exact .inr ⟨rfl, .inr rfl⟩
  | _ => exact .inl rfl

open ReplayComplete.Full (strip) in
theorem strip_keep {l l' : List Pc} (h : l'.map strip = l.map strip) :
    ∃ (w : Nat) (p : Pc), l'.map strip = (l.set w p).map strip ∧ l[w]? ≠ some .exited :=
  ⟨l.length, .running, by rw [List.set_eq_of_length_le (Nat.le_refl _), h], by simp⟩

open ReplayComplete.Full (strip) in
/-- `w` is out of range where no program counter changes (`strip_keep`) -/
theorem step_strip {s s' : MState} {m : Step} (hs : step s m = some s') :
    ∃ (w : Nat) (p : Pc), s'.pcs.map strip = (s.pcs.set w p).map strip ∧ s.pcs[w]? ≠ some .exited := by
  cases step_eff hs with
  | popBegin hw _ hp =>
    cases hp with
    | got => exact strip_keep rfl
    | close => exact strip_keep (strip_notifyAll _)
    | park => exact ⟨_, _, rfl, by simp [hw]⟩
  | @wake w _ _ hw hp =>
    have hne : s.pcs[w]? ≠ some .exited := by simp [hw]
    cases hp with
    | got => exact ⟨w, _, rfl, hne⟩
    | close => exact ⟨w, _, strip_notifyAll _, hne⟩
    | park => exact ⟨w, _, congrArg _ (List.set_set ..), hne⟩
  | push | xpush | split => exact strip_keep (strip_notifyPicks ..)
  | @drop w hw => exact ⟨w, .exited, by simp only [List.map_set, strip_notifyAll], by simp [hw]⟩
  | xdrop => exact strip_keep (strip_notifyAll _)
  | _ => exact strip_keep rfl

theorem step_pcs_length {s s' : MState} {m : Step} (hs : step s m = some s') : s'.pcs.length = s.pcs.length := by
  obtain ⟨w, p, h, -⟩ := step_strip hs
  simpa using congrArg List.length h

theorem mrun_pcs_length (ms : List Step) : ∀ s : MState, (mrun s ms).pcs.length = s.pcs.length := fun s =>
  mrun_induct (P := fun s' => s'.pcs.length = s.pcs.length) (fun h hs => (step_pcs_length hs).trans h) ms rfl

theorem step_exited {s s' : MState} {m : Step} (hs : step s m = some s') {v : Nat}
    (h : s.pcs[v]? = some Pc.exited) : s'.pcs[v]? = some Pc.exited := by
  obtain ⟨w, p, e, hw⟩ := step_strip hs
  refine strip_get e.symm (fun _ => nofun) ?_
  rwa [List.getElem?_set_ne fun e' : w = v => hw (e' ▸ h)]

/-- for `tc = k` (`oinv_init`); guarded because a `Drop` closes the market and may leave `≤` only (`PInv.oc`) -/
def OInv (s : MState) : Prop := s.isOpen = true → s.openCount = s.pcs.count .running

theorem oinv_closed {s : MState} (hc : s.isOpen = false) : OInv s :=
  fun ho => by cases hc.symm.trans ho

theorem popEff_oinv {s s' : MState} {w : Nat} (h : OInv s) (hw : s.pcs[w]? = some .running)
    (hp : PopEff s w s') : OInv s' := by
  cases hp with
  | got => exact h
  | close => exact oinv_closed rfl
  | park =>
    intro ho
    have hc := count_set_leave hw (p := .parked false) nofun
    have := h ho
    show s.openCount - 1 = (s.pcs.set w (.parked false)).count .running
    omega

theorem oinv_woken {s : MState} {w : Nat} {b : Bool} (h : OInv s) (hw : s.pcs[w]? = some (.parked b)) :
    OInv (woken s w) := by
  intro ho
  have hc := count_set_enter hw (q := .running) nofun
  have := h ho
  show s.openCount + 1 = (s.pcs.set w .running).count .running
  omega

theorem oinv_preserved {s s' : MState} {m : Step} (h : OInv s) (hs : step s m = some s') : OInv s' := by
  cases step_eff hs with
  | popBegin hw _ hp => exact popEff_oinv h hw hp
  | wake hw hp => exact popEff_oinv (oinv_woken h hw) (getElem?_woken hw) hp
  | push | split | xpush => exact fun ho => (count_notifyPicks s.pcs _ (q := .running) (by simp)).symm ▸ h ho
  | drop | xdrop | timeout => exact oinv_closed rfl
  | _ => exact h

theorem oinv_init (k : Nat) : OInv (init k k) := by
  intro _
  simp [init]

def nonExited (pcs : List Pc) : Nat := pcs.length - pcs.count .exited
def parkedN (pcs : List Pc) : Nat := pcs.count (.parked true) + pcs.count (.parked false)
def notifiedN (pcs : List Pc) : Nat := pcs.count (.parked true)
def shutdownMeasure (s : MState) : Nat × Nat × Nat := (nonExited s.pcs, parkedN s.pcs, notifiedN s.pcs)

abbrev MLt : Nat × Nat × Nat → Nat × Nat × Nat → Prop :=
  Prod.Lex (· < ·) (Prod.Lex (· < ·) (· < ·))

theorem mlt_wf : WellFounded MLt :=
  (Prod.lex Nat.lt_wfRel (Prod.lex Nat.lt_wfRel Nat.lt_wfRel)).wf

theorem parkedN_notifyAll (pcs : List Pc) : parkedN (notifyAll pcs) = parkedN pcs := by
  simp [parkedN, count_notifyAll]

theorem nonExited_notifyAll (pcs : List Pc) : nonExited (notifyAll pcs) = nonExited pcs := by
  simp [nonExited, count_notifyAll, length_notifyAll]

theorem shutdown_drop_decreases {s s' : MState} {w : Nat} (hs : step s (.drop w) = some s') :
    MLt (shutdownMeasure s') (shutdownMeasure s) := by
  cases step_eff hs with
  | drop hw =>
    have hc := count_set_enter (getElem?_notifyAll_running hw) (q := .exited) nofun
    have hle := List.count_le_length (a := Pc.exited) (l := (notifyAll s.pcs).set w .exited)
    have he := nonExited_notifyAll s.pcs
    apply Prod.Lex.left
    simp only [nonExited, List.length_set] at hle he ⊢
    omega

theorem shutdown_wake_decreases {s s' : MState} {w : Nat} (hb : s.batches = [])
    (hw : s.pcs[w]? = some (.parked true)) (hs : step s (.wake w) = some s') :
    MLt (shutdownMeasure s') (shutdownMeasure s) := by
  cases step_eff hs with
  | wake _ hp =>
    cases hp with
    | got hb' => cases hb.symm.trans hb'
    | close =>
      -- `open_count` counts the woken worker alone (`- 1 == 0` after its own `+= 1`): it returns empty (and notifies)
      have e := count_set_other hw (p := .running) (q := .exited) nofun nofun
      have t := count_set_leave hw (p := .running) nofun
      have f := count_set_other hw (p := .running) (q := .parked false) nofun nofun
      simp only [shutdownMeasure, woken, nonExited_notifyAll, parkedN_notifyAll]
      simp only [nonExited, parkedN, List.length_set]
      apply Prod.Lex.right'
      · omega
      · apply Prod.Lex.left
        omega
    | park =>
      have e := count_set_other hw (p := .parked false) (q := .exited) nofun nofun
      have t := count_set_leave hw (p := .parked false) nofun
      have f := count_set_enter hw (q := .parked false) nofun
      simp only [shutdownMeasure, woken, List.set_set, nonExited, parkedN, notifiedN, List.length_set]
      apply Prod.Lex.right'
      · omega
      · apply Prod.Lex.right'
        · omega
        · omega

end SR.Market
