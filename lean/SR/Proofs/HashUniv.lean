import SR.Proofs.HashBytes
import SR.Proofs.VClock
/-! C04 by induction on the type code, in one table (`codec_all`).  A map is a set of pairs, a vector clock the `Vec<u32>` of
its `trim`, the pending choices a `Vec<(usize, HashableHashMap<String, Vec<R>>)>` (`Ty.pending`). -/
namespace SR.Hash
open List

theorem pendingFrom_map {α β} (f : α → β) : ∀ (i : Nat) (l : List (List α)),
    pendingFrom i (l.map fun m => m.map f) = (pendingFrom i l).map fun p => (p.1, p.2.map f)
  | _, [] => rfl
  | i, m :: ms => by
    cases m <;> simp [pendingFrom, pendingFrom_map f (i + 1) ms]

theorem pendingFrom_sublist {α} : ∀ (i : Nat) (l : List (List α)),
    (pendingFrom i l).Sublist ((List.range' i l.length).zip l)
  | _, [] => .slnil
  | i, m :: ms => by
    have ih := pendingFrom_sublist (i + 1) ms
    unfold pendingFrom
    split
    · exact ih.cons _
    · exact ih.cons_cons _

theorem pending_ok {α} {Q : List α → Prop} {l : List (List α)} (w : LenOk l ∧ AllMem Q l) :
    LenOk (pendingFrom 0 l) ∧ AllMem (fun p => NatLt 64 p.1 ∧ Q p.2) (pendingFrom 0 l) := by
  have s := pendingFrom_sublist 0 l
  refine ⟨Nat.lt_of_le_of_lt (by simpa using s.length_le) w.1, fun p hp => ?_⟩
  obtain ⟨h1, h2⟩ := List.of_mem_zip (s.subset hp)
  exact ⟨Nat.lt_trans (by simpa using h1) w.1, w.2 _ h2⟩

abbrev Ty.pending (r : Ty) : Ty := .vec (.tup .usize (Ty.choiceMap r))

theorem choicesToks_map {α} (h : List Tok → UInt64) (f : α → List Tok) (l : List (List α)) :
    choicesToks h (l.map fun m => m.map f) =
      seqToks false ((pendingFrom 0 l).map fun p => [Tok.usize p.1] ++ setToks h (p.2.map f)) := by
  simp only [choicesToks, pendingFrom_map, seqToks, List.length_map, List.flatMap_def, List.map_map,
    Bool.false_eq_true, if_false]
  rfl

theorem toks_choices (h : List Tok → UInt64) (r : Ty) (l : Val (.choices r)) :
    toks h (.choices r) l = toks h (Ty.pending r) (pendingFrom 0 l) :=
  choicesToks_map h _ l

theorem wf_trim {h : List Tok → UInt64} {P : List Tok → Prop} {c : Val .vclock} (w : WF h P .vclock c) :
    WF h P (.vec .u32) (VClock.trim c) :=
  ⟨Nat.lt_of_le_of_lt (VClock.trim_sublist c).length_le w.1, fun x hx => w.2 x ((VClock.trim_sublist c).subset hx)⟩

/-- What C04 says of two values with streams `s`, `t`, related by `R` (`≈`), compared by `==` with answer `rb`;
`W`: both are well-formed. -/
structure Agree (s t : List Tok) (rb : Bool) (R W : Prop) : Prop where
  resp : R → s = t
  sound : rb = true → R
  core : W → Core (flat s) (flat t) R
  complete : W → R → rb = true

theorem Agree.mono {s t rb R W W'} (c : Agree s t rb R W) (i : W' → W) : Agree s t rb R W' :=
  ⟨c.resp, c.sound, fun w => c.core (i w), fun w => c.complete (i w)⟩

theorem Agree.decides {s t rb R W} (c : Agree s t rb R W) (w : W) : rb = true ↔ R :=
  ⟨c.sound, c.complete w⟩

theorem Agree.stream_iff {s t rb R W} (c : Agree s t rb R W) (w : W) : R ↔ s = t :=
  ⟨c.resp, fun e => (c.core w).of_eq (congrArg flat e)⟩

/-- an enum variant: the same discriminant in front of both payloads -/
theorem Agree.tag {s t rb R W} (c : Agree s t rb R W) (d : Nat) (hd : d < 2 ^ (8 * 8)) :
    Agree (discToks d s) (discToks d t) rb R W :=
  ⟨fun r => congrArg _ (c.resp r), c.sound, fun w => by
    simp only [flat_discToks]
    exact ((core_le hd hd).append fun _ => c.core w).imp And.right, c.complete⟩

/-- two different variants -/
theorem agree_tags {d1 d2 : Nat} (ne : d1 ≠ d2) (h1 : d1 < 2 ^ (8 * 8)) (h2 : d2 < 2 ^ (8 * 8)) (s t : List Tok) (W : Prop) :
    Agree (discToks d1 s) (discToks d2 t) false False W :=
  ⟨False.elim, Bool.noConfusion, fun _ => by
    simp only [flat_discToks]
    exact ((core_le h1 h2).append fun e => absurd e ne).imp And.right, fun _ => False.elim⟩

/-- `Agree` of any two values of one type: `W` well-formedness, `f` the stream, `r` the `==`, `R` the `≈` -/
def Codec {α} (W : α → Prop) (f : α → List Tok) (r : α → α → Bool) (R : α → α → Prop) : Prop :=
  ∀ a b, Agree (f a) (f b) (r a b) (R a b) (W a ∧ W b)

theorem codec_eq {α} [BEq α] [LawfulBEq α] {W : α → Prop} {f : α → List Tok}
    (c : ∀ a b, W a → W b → Core (flat (f a)) (flat (f b)) (a = b)) : Codec W f (· == ·) Eq :=
  fun a b => ⟨congrArg f, eq_of_beq, fun w => c a b w.1 w.2, fun _ => beq_iff_eq.2⟩

theorem codec_int (c : Nat → Tok) (w : Nat) (hc : ∀ n, (c n).flat = le w n) :
    Codec (NatLt (8 * w)) (fun n => [c n]) natEqB Eq :=
  codec_eq fun n m hn hm => by
    simp only [flat_cons, flat_nil, hc, List.append_nil]
    exact core_le hn hm

theorem codec_str : Codec StrOk strToks bytesEqB Eq :=
  codec_eq fun a b wa wb => by
    simp only [flat_strToks]
    exact core_str a b wa wb

theorem Codec.pair {α β} {W1 : α → Prop} {W2 : β → Prop} {f1 : α → List Tok} {f2 : β → List Tok} {r1 r2 R1 R2}
    (c1 : Codec W1 f1 r1 R1) (c2 : Codec W2 f2 r2 R2) :
    Codec (fun p : α × β => W1 p.1 ∧ W2 p.2) (fun p => f1 p.1 ++ f2 p.2) (pairB r1 r2)
      (fun p q => R1 p.1 q.1 ∧ R2 p.2 q.2) := by
  intro p q
  have a1 := c1 p.1 q.1
  have a2 := c2 p.2 q.2
  refine ⟨fun e => by simp only [a1.resp e.1, a2.resp e.2],
    fun e => ⟨a1.sound (Bool.and_eq_true_iff.1 e).1, a2.sound (Bool.and_eq_true_iff.1 e).2⟩, fun w => ?_,
    fun w e => Bool.and_eq_true_iff.2 ⟨a1.complete ⟨w.1.1, w.2.1⟩ e.1, a2.complete ⟨w.1.2, w.2.2⟩ e.2⟩⟩
  simp only [flat_append]
  exact (a1.core ⟨w.1.1, w.2.1⟩).append fun _ => a2.core ⟨w.1.2, w.2.2⟩

theorem Codec.seq {α} {W : α → Prop} {f : α → List Tok} {r R} (c : Codec W f r R) (blk : Bool) :
    Codec (fun l => LenOk l ∧ AllMem W l) (fun l => seqToks blk (l.map f)) (all2B r) (All2 R) := by
  intro l1 l2
  refine ⟨fun e => congrArg (seqToks blk) (map_eq_of_all2 (fun a _ b _ => (c a b).resp) e),
    fun e => all2_imp (fun a _ b _ => (c a b).sound) (all2B_eq_true.1 e), fun w => ?_,
    fun w e => all2B_eq_true.2 (all2_imp (fun a ha b hb => (c a b).complete ⟨w.1.2 a ha, w.2.2 b hb⟩) e)⟩
  simp only [flat_seqToks, List.length_map, List.flatMap_map]
  exact ((core_le (w := 8) w.1.1 w.2.1).append fun hl => core_seq l1 l2 hl
    fun a ha b hb => (c a b).core ⟨w.1.2 a ha, w.2.2 b hb⟩).imp And.right

/-- `W'`: what the model asks of an element; it gives the element's own well-formedness and `P` of its stream -/
theorem Codec.set {α} {W W' : α → Prop} {f : α → List Tok} {r R} (c : Codec W f r R)
    {h : List Tok → UInt64} {P : List Tok → Prop} (hinj : InjOnP h P) (hw : ∀ e, W' e → W e ∧ P (f e)) :
    Codec (fun l => LenOk l ∧ AllMem W' l) (fun l => setToks h (l.map f)) (permByB r) (PermBy R) := by
  intro l1 l2
  refine ⟨setToks_congr h f R l1 l2 (fun a _ b _ => (c a b).resp), permByB_sound (fun a b => (c a b).sound) l1 l2,
    fun w => ?_, fun w => ?_⟩
  all_goals have ww := fun a ha b hb => And.intro (hw a (w.1.2 a ha)).1 (hw b (w.2.2 b hb)).1
  · exact core_set h f R l1 l2 w.1.1 w.2.1 fun a ha b hb eh =>
      ((c a b).stream_iff (ww a ha b hb)).2 (hinj _ _ (hw a (w.1.2 a ha)).2 (hw b (w.2.2 b hb)).2 eh)
  · exact fun p => (permByB_iff_map f l1 l2 fun a ha b hb =>
        ((c a b).decides (ww a ha b hb)).trans ((c a b).stream_iff (ww a ha b hb))).2
      (p.map_perm f fun a _ b _ => (c a b).resp)

theorem codec_all (h : List Tok → UInt64) (P : List Tok → Prop) (hinj : InjOnP h P) :
    ∀ (τ : Ty), Codec (WF h P τ) (toks h τ) (equivB τ) (Equiv τ) := by
  intro τ
  induction τ with
  | unit => exact fun _ _ => ⟨fun _ => rfl, fun _ => trivial, fun _ _ _ e => ⟨trivial, e⟩, fun _ _ => rfl⟩
  | bool =>
    refine codec_eq (α := Bool) fun a b _ _ x y hxy => ?_
    have lt : ∀ c : Bool, (cond c 1 0 : Nat) < 2 ^ 8 := by decide
    have inj : ∀ c d : Bool, (cond c 1 0 : Nat) = cond d 1 0 → c = d := by decide
    obtain ⟨e, exy⟩ := (codec_int .u8 1 (fun _ => rfl) _ _).core ⟨lt a, lt b⟩ x y hxy
    exact ⟨inj a b e, exy⟩
  | u8 => exact codec_int .u8 1 fun _ => rfl
  | u32 => exact codec_int .u32 4 fun _ => rfl
  | u64 | id => exact codec_int .u64 8 fun _ => rfl
  | usize => exact codec_int .usize 8 fun _ => rfl
  | str => exact codec_str
  | arc t ih => exact ih
  | tup s t ihs iht => exact ihs.pair iht
  | enum2 s t ihs iht =>
    intro a b
    cases a <;> cases b <;> try exact agree_tags (by decide) (by decide) (by decide) _ _ _
    · exact (ihs _ _).tag 0 (by decide)
    · exact (iht _ _).tag 1 (by decide)
  | enum3 s t u ihs iht ihu =>
    intro a b
    rcases a with a | a | a <;> rcases b with b | b | b <;> try exact agree_tags (by decide) (by decide) (by decide) _ _ _
    · exact (ihs _ _).tag 0 (by decide)
    · exact (iht _ _).tag 1 (by decide)
    · exact (ihu _ _).tag 2 (by decide)
  | vec t ih | deque t ih | bset t ih => exact ih.seq _
  | bmap k v ihk ihv => exact (ihk.pair ihv).seq false
  | hset t ih => exact ih.set hinj fun _ => id
  | hmap k v ihk ihv => exact (ihk.pair ihv).set hinj fun _ w => ⟨⟨w.1, w.2.1⟩, w.2.2⟩
  | vclock =>
    -- the `Vec<u32>` of the trimmed clocks, with `VectorClock::eq` in place of the slices' `==`
    intro a b
    have c := (codec_int .u32 4 fun _ => rfl).seq true (VClock.trim a) (VClock.trim b)
    have e : All2 Eq (VClock.trim a) (VClock.trim b) ↔ Equiv .vclock a b := all2_eq.trans VClock.trim_eq_iff
    exact ⟨fun r => c.resp (e.2 r), (VClock.veq_iff a b).1, fun w => (c.core ⟨wf_trim w.1, wf_trim w.2⟩).imp e.1,
      fun _ => (VClock.veq_iff a b).2⟩
  | choices r ih =>
    -- `≈` and `==` at `.choices r` are by definition those of `Ty.pending r` at the pending entries (`pendB` unfolds to
    -- `pairB natEqB`), so the `exact` checks them; the stream needs `toks_choices`, well-formedness `pending_ok`
    intro a b
    rw [toks_choices, toks_choices]
    exact (((codec_int .usize 8 fun _ => rfl).pair ((codec_str.pair (ih.seq _)).set hinj
      fun _ w => ⟨⟨w.1, w.2.1, w.2.2.1⟩, w.2.2.2⟩)).seq false _ _).mono (And.imp pending_ok pending_ok)

/-- no well-formedness is needed: the table is read at the empty `P`, where `InjOnP` is free -/
theorem equivB_sound (τ : Ty) (a b : Val τ) : equivB τ a b = true → Equiv τ a b :=
  (codec_all (fun _ => 0) (fun _ => False) (fun _ _ f => f.elim) τ a b).sound

theorem core_all (h : List Tok → UInt64) (P : List Tok → Prop) (hinj : InjOnP h P) (τ : Ty) (a b : Val τ)
    (wa : WF h P τ a) (wb : WF h P τ b) : Core (flat (toks h τ a)) (flat (toks h τ b)) (Equiv τ a b) :=
  (codec_all h P hinj τ a b).core ⟨wa, wb⟩

end SR.Hash
