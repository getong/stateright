import SR.Sem.Objects
/-! Helper lemmas for C18 (reference objects): the three hand-written `is_valid_step`s and the table-driven spec in
both modes satisfy the contract `SeqSpec.Lawful`; for a lawful spec `is_valid_history` accepts exactly the traces. -/
namespace SR.Sem
variable {S Op Ret : Type}

theorem SeqSpec.Lawful.of_step {spec : SeqSpec S Op Ret}
    (h : ∀ s op r, ((spec.isValidStep s op r).1 = true ↔ (spec.invoke s op).2 = r) ∧
      ((spec.isValidStep s op r).1 = true → (spec.isValidStep s op r).2 = (spec.invoke s op).1)) : spec.Lawful :=
  ⟨fun s op r => (h s op r).1, fun s op r => (h s op r).2⟩

theorem register_lawful (V : Type) [DecidableEq V] : (register V).Lawful :=
  .of_step fun s op r => by
    cases op <;> cases r <;> simp [register, Register.invoke, Register.isValidStep]

theorem woRegister_lawful (V : Type) [DecidableEq V] : (woRegister V).Lawful :=
  .of_step fun s op r => by
    cases op <;> cases r <;> cases s <;>
      simp [woRegister, WORegister.invoke, WORegister.isValidStep] <;> split <;> simp_all

theorem vec_lawful (V : Type) [DecidableEq V] : (vec V).Lawful :=
  .of_step fun s op r => by
    cases op <;> cases r <;> simp [vec, Vec.invoke, Vec.isValidStep]

theorem tableSpec_lawful (tbl : Table) (mode : Nat) : (tableSpec tbl mode).Lawful :=
  .of_step fun s op r => by
    simp only [tableSpec, Table.isValidStep, SeqSpec.defaultStep]
    split
    · simp
    · split <;> simp_all

theorem SeqSpec.Lawful.validHistory_iff {spec : SeqSpec S Op Ret} (h : spec.Lawful) (s : S) (l : List (Op × Ret)) :
    spec.isValidHistory s l = true ↔ l = spec.trace s (l.map (·.1)) := by
  unfold SeqSpec.isValidHistory
  fun_induction SeqSpec.validHistory spec s l with
  | case1 => exact iff_of_true rfl rfl
  | case2 s op r l p hv ih =>
    -- accepted step
    rw [ih, List.map_cons, SeqSpec.trace, h.state s op r hv, (h.verdict s op r).1 hv]
    exact ⟨fun e => congrArg _ e, fun e => List.tail_eq_of_cons_eq e⟩
  | case3 s op r l p hv =>
    -- rejected step
    refine iff_of_false Bool.false_ne_true fun e => hv ((h.verdict s op r).2 ?_)
    exact (congrArg Prod.snd (List.head_eq_of_cons_eq e)).symm

theorem SeqSpec.Lawful.validHistory_state {spec : SeqSpec S Op Ret} (h : spec.Lawful) (s : S) (l : List (Op × Ret))
    (hv : spec.isValidHistory s l = true) : (spec.validHistory s l).2 = spec.run s (l.map (·.1)) := by
  unfold SeqSpec.isValidHistory at hv
  fun_induction SeqSpec.validHistory spec s l with
  | case1 => rfl
  | case2 s op r l p hs ih => rw [ih hv, List.map_cons, SeqSpec.run, h.state s op r hs]
  | case3 => cases hv

end SR.Sem
