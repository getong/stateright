import SR.Checker.Fuel
import SR.Proofs.Checker.Sched
import SR.Proofs.Checker.Spec
import SR.Proofs.Checker.Control
/-!
On a model with finitely many reachable states the worker loop of `SR/Checker/Sched.lean` comes to an end by itself: every
iteration either performs a state-changing machine step (`mu` drops) or starts or ends a block, which cannot happen
twice in a row.  So `3 * mu + wgt` drops at every iteration (`schedNext_some`; `wgt` ∈ {1, 2} is 2 where a block is about to
start or end; a step pays 3 and raises `wgt` by 1 at most, so the factor is generous), `3 * mu + 2` iterations suffice,
and the state the scheduler returns in is quiescent (`schedule_done`, `runSingle_enough`).  A well-formed explicit graph is
such a model whatever the key function, properties and configuration, and `Graph.fuel` is at least that many iterations.
-/
namespace SR.Checker
open SR

section
variable {σ κ α : Type} [DecidableEq κ]
variable {P : Params σ κ α}

theorem runFrom_dropJobs_stopped (n : Nat) (s : St σ κ) (hs : s.stopped = true) (hl : s.frontier.length ≤ n) :
    (runFrom P s (List.replicate n (.dropJob 0))).frontier = [] ∧
      (runFrom P s (List.replicate n (.dropJob 0))).active = s.active := by
  induction n generalizing s with
  | zero => exact ⟨List.eq_nil_of_length_eq_zero (Nat.le_zero.1 hl), rfl⟩
  | succ n ih =>
    have hstep : (stepDropJob P 0 s).stopped = true ∧ (stepDropJob P 0 s).active = s.active ∧
        (stepDropJob P 0 s).frontier.length ≤ n := by
      simp only [stepDropJob, hs, Bool.true_or, if_true]
      cases hf : s.frontier[0]? with
      | none =>
        have := List.getElem?_eq_none_iff.1 hf
        exact ⟨hs, rfl, Nat.le_trans this (Nat.zero_le n)⟩
      | some j =>
        have := length_eraseIdx_add_one (lt_length_of_getElem? hf)
        exact ⟨rfl, rfl, Nat.le_of_succ_le_succ (Nat.le_trans (Nat.le_of_eq this) hl)⟩
    obtain ⟨h1, h2⟩ := ih (stepDropJob P 0 s) hstep.1 hstep.2.2
    exact ⟨h1, h2.trans hstep.2.1⟩

/-- the scheduler stops only between jobs and drops everything in the same iteration -/
def StopClean (s : St σ κ) : Prop := s.stopped = true → s.frontier = [] ∧ s.active = []

theorem stopClean_of_no_stop {s : St σ κ} (hns : s.stopped = false) {cs : List Choice}
    (hcs : ∀ c ∈ cs, ∀ why, c ≠ Choice.stop why) : StopClean (runFrom P s cs) := by
  intro h
  obtain ⟨pre, why, post, e, _⟩ := stopped_only_if s hns cs h
  have hmem : Choice.stop why ∈ cs := e ▸ List.mem_append_right _ List.mem_cons_self
  exact absurd rfl (hcs _ hmem why)

theorem stopClean_stop {s : St σ κ} (ha : s.active = []) {why : Why} (hen : stopEnabled P why s = true) :
    StopClean (runFrom P s (.stop why :: List.replicate s.frontier.length (.dropJob 0))) := by
  have e : stepStop P why s = { s with stopped := true } := if_pos hen
  show StopClean (runFrom P (stepStop P why s) _)
  rw [e]
  have h := runFrom_dropJobs_stopped (P := P) s.frontier.length { s with stopped := true } rfl (Nat.le_refl _)
  exact fun _ => ⟨h.1, h.2.trans ha⟩

theorem w0choice_ne_stop (front : Bool) (a : Active σ) (why : Why) : w0choice P front a ≠ .stop why := by
  unfold w0choice
  split
  · split <;> nofun
  · nofun
  · nofun

theorem schedNext_some {R : List σ} {D : Nat} (hfin : Fin P R D) {d : Discipline} {s : St σ κ} {bl : Nat}
    {cs : List Choice} {bl' : Nat} (hs : SInv P s) (hc : StopClean s) (h : schedNext P d s bl = some (cs, bl')) :
    3 * mu P R D (runFrom P s cs) + wgt (runFrom P s cs) bl' < 3 * mu P R D s + wgt s bl ∧
      StopClean (runFrom P s cs) := by
  have hw := wgt_le (runFrom P s cs) bl'
  have he := schedNext_spec (P := P) d s bl
  rw [h] at he
  cases he with
  | @work a n _ ha0 =>
    have hns : s.stopped = false := by
      cases hst : s.stopped with
      | false => rfl
      | true =>
        rw [(hc hst).2] at ha0
        cases ha0
    have := mu_runFrom_cons_lt hfin hs (w0_enabled (d == .dfs) ha0) (List.replicate n (.dropJob 0))
    refine ⟨by omega, stopClean_of_no_stop hns ?_⟩
    intro c hc why
    rcases List.mem_cons.1 hc with rfl | hc
    · exact w0choice_ne_stop _ a why
    · rw [List.eq_of_mem_replicate hc]
      nofun
  | @stop why _ hact hns hen =>
    have := mu_runFrom_cons_lt hfin hs (c := .stop why) ⟨hen, hns⟩ (List.replicate s.frontier.length (.dropJob 0))
    exact ⟨by omega, stopClean_stop hact hen⟩
  | block hlt => exact ⟨Nat.add_lt_add_left hlt _, hc⟩
  | take _ _ hns hf =>
    have := mu_runFrom_cons_lt hfin hs (take0_enabled hf) []
    refine ⟨by omega, stopClean_of_no_stop hns ?_⟩
    intro c hc
    rw [List.mem_singleton.1 hc]
    nofun

theorem schedNext_none {d : Discipline} {s : St σ κ} {bl : Nat} (hc : StopClean s)
    (h : schedNext P d s bl = none) : Quiescent s := by
  have he := schedNext_spec (P := P) d s bl
  rw [h] at he
  cases he with
  | done hact h => exact ⟨h.elim (fun hst => (hc hst).1) id, hact⟩

theorem schedule_done {R : List σ} {D : Nat} (hfin : Fin P R D) (d : Discipline) (fuel : Nat) (s : St σ κ)
    (bl : Nat) (hs : SInv P s) (hc : StopClean s) (hle : 3 * mu P R D s + wgt s bl ≤ fuel) :
    Quiescent (runFrom P s (schedule P d fuel s bl)) ∧
      ∀ fuel', fuel ≤ fuel' → schedule P d fuel' s bl = schedule P d fuel s bl := by
  fun_induction schedule P d fuel s bl with
  | case1 s bl =>
    cases h : schedNext P d s bl with
    | none => exact ⟨schedNext_none hc h, fun fuel' _ => by cases fuel' <;> simp only [schedule, h]⟩
    | some r =>
      have := (schedNext_some hfin hs hc h).1
      omega
  | case2 fuel s bl h =>
    exact ⟨schedNext_none hc h, fun fuel' _ => by cases fuel' <;> simp only [schedule, h]⟩
  | case3 fuel s bl cs bl' h ih =>
    obtain ⟨hlt, hc'⟩ := schedNext_some hfin hs hc h
    obtain ⟨hq, hst⟩ := ih (sinv_runFrom hs cs) hc' (by omega)
    refine ⟨by rwa [runFrom_append], fun fuel' hle' => ?_⟩
    obtain ⟨m, rfl⟩ : ∃ m, fuel' = m + 1 := ⟨fuel' - 1, by omega⟩
    simp only [schedule, h, hst m (by omega)]

theorem runSingle_enough (P : Params σ κ α) {R : List σ} {D : Nat} (hfin : Fin P R D) (d : Discipline)
    (fuel : Nat) (hfuel : 3 * mu P R D (init P.M P.props P.key) + 2 ≤ fuel) :
    Quiescent (runSingle P d fuel) ∧ ∀ fuel', fuel ≤ fuel' → runSingle P d fuel' = runSingle P d fuel := by
  have hw := wgt_le (init P.M P.props P.key) (if d == Discipline.ondemand then 0 else blockSize)
  obtain ⟨h1, h2⟩ := schedule_done hfin d fuel (init P.M P.props P.key) _ sinv_init (fun h => by cases h)
    (Nat.le_trans (Nat.add_le_add_left hw _) hfuel)
  refine ⟨h1, fun fuel' hle => ?_⟩
  unfold runSingle
  rw [h2 fuel' hle]

end

theorem Graph.length_le_maxDeg (g : Graph) {r : List (Option Nat)} (hr : r ∈ g.adj) : r.length ≤ g.maxDeg :=
  (foldl_max_ge List.length g.adj 0).2 r hr

theorem Graph.row_length_le (g : Graph) (s : Nat) : (g.adj.getD s []).length ≤ g.maxDeg := by
  rw [List.getD_eq_getElem?_getD]
  cases h : g.adj[s]? with
  | none => simp
  | some r => exact g.length_le_maxDeg (List.mem_of_getElem? h)

theorem Graph.succB_length_le (g : Graph) (s : Nat) : (g.toSys.succB s).length ≤ g.maxDeg := by
  have h1 : (g.toSys.succB s).length ≤ (g.toSys.succAll s).length := List.length_filter_le _ _
  have h2 : (g.toSys.succAll s).length ≤ (g.toSys.acts s).length := List.length_filterMap_le _ _
  have h3 : (g.toSys.acts s).length = (g.adj.getD s []).length := by simp [Graph.toSys]
  have h4 := g.row_length_le s
  omega

theorem Graph.fin {κ : Type} {g : Graph} (hwf : g.WF) (P : Params Nat κ Nat) (hM : P.M = g.toSys) :
    Fin P (List.range g.n) g.maxDeg := by
  refine ⟨?_, ?_⟩
  · intro s hs
    rw [hM] at hs
    exact List.mem_range.2 (Graph.reach_lt hwf hs)
  · intro s _
    rw [hM]
    exact g.succB_length_le s

section
variable {κ : Type} [DecidableEq κ]

theorem fuel_dominates (g : Graph) (P : Params Nat κ Nat) (hM : P.M = g.toSys) :
    3 * mu P (List.range g.n) g.maxDeg (init P.M P.props P.key) + 2 ≤ g.fuel P.props.length := by
  have := mu_init_le P (List.range g.n) g.maxDeg
  have hA : Ac P g.maxDeg = 2 * P.props.length + g.maxDeg + 6 := by
    simp only [Ac, Bc, Ec, Lp]
    omega
  rw [List.length_range, hA, hM] at this
  rw [hM]
  exact Nat.add_le_add_right (Nat.mul_le_mul_left 3 this) 2

variable (P : Params Nat κ Nat)

theorem runSingle_graph_quiescent {g : Graph} (hwf : g.WF) (hM : P.M = g.toSys) (d : Discipline) (fuel : Nat)
    (hfuel : g.fuel P.props.length ≤ fuel) : Quiescent (runSingle P d fuel) :=
  (runSingle_enough P (Graph.fin hwf P hM) d fuel (Nat.le_trans (fuel_dominates g P hM) hfuel)).1

theorem runSingle_graph_stable {g : Graph} (hwf : g.WF) (hM : P.M = g.toSys) (d : Discipline) (fuel : Nat)
    (hfuel : g.fuel P.props.length ≤ fuel) : runSingle P d fuel = runSingle P d (g.fuel P.props.length) :=
  (runSingle_enough P (Graph.fin hwf P hM) d _ (fuel_dominates g P hM)).2 fuel hfuel

end

end SR.Checker
