import SR.Checker.Sim
import SR.Proofs.Checker.Eventually
/-!
Invariant of the simulation checker: every recorded discovery is a real in-boundary path; always/sometimes
discoveries end in a witness; on an eventually discovery the condition never holds and the path either ends in a
state without in-boundary successor or closes a cycle (its last state has the key of an earlier state).
The two clauses about a trace that the event machine's invariant (`Proofs/Checker/MSim.lean`) shares, `EbOk` and `SeenOk`, stand
first, under its namespace `MSim`; `Sim.PathTo path st` says that `st` is about to be entered after `path`.
-/
namespace SR.Checker.MSim
open SR SR.Checker
variable {σ κ α : Type} (P : Params σ κ α)

/-- `eb`: the indices of the eventually properties still tracked on this trace -/
def EbOk (eb : List Nat) (p : List σ) : Prop :=
  ∀ i ∈ eb, ∀ pr, P.props[i]? = some pr → pr.exp = .eventually ∧ Avoids pr p

def SeenOk (seen : List κ) (p : List σ) : Prop := ∀ k, k ∈ seen ↔ ∃ u ∈ p, P.key u = k

end SR.Checker.MSim

namespace SR.Checker.Sim
open SR SR.Checker

section
variable {σ κ α : Type} [DecidableEq κ]
variable (P : Params σ κ α)

def CyclesBack (p : List σ) : Prop := ∃ s, p.getLast? = some s ∧ ∃ t ∈ p.dropLast, P.key t = P.key s

structure EntryOk (e : Nat × List σ) : Prop where
  path : P.M.IsPath e.2
  idx : e.1 < P.props.length
  wit : WitnessAS P e.1 e.2
  ev : ∀ pr, P.props[e.1]? = some pr → pr.exp = .eventually →
        Avoids pr e.2 ∧ ((∃ t, e.2.getLast? = some t ∧ P.M.succB t = []) ∨ CyclesBack P e.2)

def DiscOk (d : List (Nat × List σ)) : Prop := ∀ e ∈ d, EntryOk P e

variable {P}
open SR.Checker.MSim (EbOk SeenOk)

theorem swapRemove_spec {β : Type} {l : List β} {i : Nat} {a : β} {l' : List β}
    (h : swapRemove l i = some (a, l')) : l.Perm (a :: l') := by
  unfold swapRemove at h
  split at h
  · cases h
  · next x hx =>
    cases h
    have hi : i < l.length := lt_length_of_getElem? hx
    obtain ⟨v, hv⟩ : ∃ v, l.getLast? = some v :=
      Option.isSome_iff_exists.1 (List.getLast?_isSome.2 (List.ne_nil_of_length_pos (by omega)))
    rw [hv, Option.getD_some]
    have hlast : (l.set i v).getLast? = some v := by
      rw [List.getLast?_eq_getElem?, List.length_set, List.getElem?_set]
      split
      · rfl
      · rw [← List.getLast?_eq_getElem?, hv]
    have h1 : (l.set i v).Perm (v :: l.eraseIdx i) := by
      have := perm_eraseIdx (List.getElem?_set_self (a := v) hi)
      rwa [List.eraseIdx_set_eq] at this
    have h2 : (l.set i v).Perm (v :: (l.set i v).dropLast) := by
      conv => lhs; rw [eq_dropLast_concat hlast]
      exact List.perm_append_singleton _ _
    exact (perm_eraseIdx hx).trans (((h2.symm.trans h1).cons_inv.symm).cons a)

theorem nextAnswer_lt (ans : List Nat) {n : Nat} (hn : 0 < n) : (nextAnswer ans n).1 < n := by
  unfold nextAnswer
  split
  · exact hn
  · exact Nat.mod_lt _ hn

theorem getElem?_nextAnswer {β : Type} (ans : List Nat) {l : List β} (h : l ≠ []) :
    l[(nextAnswer ans l.length).1]? ≠ none := by
  have := nextAnswer_lt ans (List.length_pos_iff.2 h)
  rw [Ne, List.getElem?_eq_none_iff]
  omega

theorem pickNext_spec (M : Sys σ α) (st : σ) (f : Nat) (acts : List α) (ans : List Nat) (hf : acts.length < f) :
    match (pickNext M st f acts ans).1 with
    | some n => n ∈ (acts.filterMap (M.next st)).filter M.inB
    | none => (acts.filterMap (M.next st)).filter M.inB = [] := by
  fun_induction pickNext M st f acts ans
  case case1 => omega
  case case2 => rfl
  case case3 f acts ans hne k ans' hk hsr =>
    -- `swapRemove` fails: impossible
    unfold swapRemove at hsr
    split at hsr
    · next hnone =>
      have := getElem?_nextAnswer ans hne
      rw [hk] at this
      exact absurd hnone this
    · cases hsr
  -- `acts` is the action taken out and the rest, in some order: so are their in-boundary successors
  all_goals have hperm := ((swapRemove_spec ‹_›).filterMap (M.next st)).filter M.inB
  case case5 hn hin =>
    simp only [List.filterMap_cons, hn, List.filter_cons, hin, if_true] at hperm
    exact hperm.mem_iff.2 List.mem_cons_self
  -- the action taken out is ignored (4) or leads outside the boundary (6): it contributes nothing
  case case4 hsr hn ih | case6 hsr _ hn hin ih =>
    have ih := ih (by have := (swapRemove_spec hsr).length_eq; simp only [List.length_cons] at this; omega)
    simp only [List.filterMap_cons, List.filter_cons, *] at hperm
    revert ih
    split
    · exact hperm.mem_iff.2
    · exact fun h => (h ▸ hperm).eq_nil

theorem pickNext_some {M : Sys σ α} {st n : σ} {ans ans' : List Nat}
    (h : pickNext M st ((M.acts st).length + 1) (M.acts st) ans = (some n, ans')) : n ∈ M.succB st := by
  have := pickNext_spec M st _ (M.acts st) ans (Nat.lt_succ_self _)
  rwa [h] at this

theorem pickNext_none {M : Sys σ α} {st : σ} {ans ans' : List Nat}
    (h : pickNext M st ((M.acts st).length + 1) (M.acts st) ans = (none, ans')) : M.succB st = [] := by
  have := pickNext_spec M st _ (M.acts st) ans (Nat.lt_succ_self _)
  rwa [h] at this

section
omit [DecidableEq κ]

theorem discOk_insert {d : List (Nat × List σ)} (h : DiscOk P d) {i : Nat} {p : List σ} (he : EntryOk P (i, p)) :
    DiscOk P (discInsert d i p) := by
  intro e hm
  rcases mem_discInsert hm with rfl | hm
  · exact he
  · exact h e hm

theorem entryOk_witness {i : Nat} {p : List σ} {st : σ} {pr : Prop' σ} (hp : P.M.IsPath p) (hl : p.getLast? = some st)
    (hpr : P.props[i]? = some pr) (hw : Wit pr st) : EntryOk P (i, p) := by
  refine ⟨hp, lt_length_of_getElem? hpr, witnessAS_iff.2 fun pr' hpr' _ => ?_, fun pr' hpr' hev => ?_⟩
  all_goals cases hpr.symm.trans hpr'
  · exact ⟨st, hl, hw⟩
  · exact absurd hev (ne_eventually_of_witness hw)

theorem entryOk_of_eb {eb : List Nat} {p : List σ} (hp : P.M.IsPath p)
    (heb : EbOk P eb p)
    (hend : (∃ u, p.getLast? = some u ∧ P.M.succB u = []) ∨ CyclesBack P p) :
    ∀ j ∈ eb, j < P.props.length → EntryOk P (j, p) := by
  intro j hj hlt
  refine ⟨hp, hlt, fun pr hpr => ?_, fun pr hpr _ => ⟨(heb j hj pr hpr).2, hend⟩⟩
  have := (heb j hj pr hpr).1
  exact ⟨fun e => (nomatch this.symm.trans e), fun e => (nomatch this.symm.trans e)⟩

theorem ebOk_concat {eb eb' : List Nat} {p : List σ} {st : σ}
    (heb : EbOk P eb p) (hsub : ∀ i ∈ eb', i ∈ eb)
    (hst : ∀ j ∈ eb', j < P.props.length → ∀ pr, P.props[j]? = some pr → pr.cond st = false) :
    EbOk P eb' (p ++ [st]) := by
  intro i hi pr hpr
  obtain ⟨hev, hav⟩ := heb i (hsub i hi) pr hpr
  refine ⟨hev, fun u hu => ?_⟩
  rcases List.mem_append.1 hu with hu | hu
  · exact hav u hu
  · cases List.mem_singleton.1 hu
    exact hst i hi (lt_length_of_getElem? hpr) pr hpr

theorem seenOk_push {gen : List κ} {p : List σ} (st : σ) (h : SeenOk P gen p) :
    SeenOk P (P.key st :: gen) (p ++ [st]) := by
  intro k
  simp only [List.mem_cons, List.mem_append, List.not_mem_nil, or_false, h k]
  constructor
  · rintro (rfl | ⟨t, ht, rfl⟩)
    · exact ⟨st, Or.inr rfl, rfl⟩
    · exact ⟨t, Or.inl ht, rfl⟩
  · rintro ⟨t, (ht | rfl), rfl⟩
    · exact Or.inr ⟨t, ht, rfl⟩
    · exact Or.inl rfl

theorem seenOk_nil : SeenOk P [] [] := fun k => by simp

theorem ebOk_init : EbOk P (initEbits P.props) [] := by
  intro i hi pr hpr
  refine ⟨?_, fun _ h => nomatch h⟩
  simp only [initEbits, List.mem_filter] at hi
  rw [hpr] at hi
  simpa using hi.2

/-- the clause `PL.upto` (and `MSim.CurUpTo`) across one iteration of the property loop, which leaves bits `eb'` of `eb` -/
theorem upTo_succ {st : σ} {k : Nat} {eb eb' : List Nat}
    (h : ∀ j ∈ eb, j < k → ∀ pr, P.props[j]? = some pr → pr.cond st = false) (hsub : ∀ j ∈ eb', j ∈ eb)
    (hk : k ∈ eb' → ∀ pr, P.props[k]? = some pr → pr.cond st = false) :
    ∀ j ∈ eb', j < k + 1 → ∀ pr, P.props[j]? = some pr → pr.cond st = false := by
  intro j hj hlt
  rcases Nat.lt_succ_iff_lt_or_eq.1 hlt with hlt | rfl
  · exact h j (hsub j hj) hlt
  · exact hk hj

/-- invariant of the property loop before iteration `k`; `eb0`: the bits it started with -/
structure PL (st : σ) (eb0 : List Nat) (k : Nat) (acc : List Nat × Bool × List (Nat × List σ)) : Prop where
  disc : DiscOk P acc.2.2
  nodup : acc.1.Nodup
  sub : ∀ i ∈ acc.1, i ∈ eb0
  upto : ∀ i ∈ acc.1, i < k → ∀ pr, P.props[i]? = some pr → pr.cond st = false

theorem propStep_pl {st : σ} {path' : List σ} {eb0 : List Nat} {k : Nat} {o : Nat → Bool}
    {acc : List Nat × Bool × List (Nat × List σ)}
    (hpath : P.M.IsPath path') (hlast : path'.getLast? = some st)
    (hev : ∀ i ∈ eb0, ∀ pr, P.props[i]? = some pr → pr.exp = .eventually)
    (h : PL (P := P) st eb0 k acc) : PL (P := P) st eb0 (k + 1) (propStep P.props st path' o acc k) := by
  -- bit `k` is dropped, or kept while its condition is false in `st`
  have drop : ∀ aw d, DiscOk P d → PL (P := P) st eb0 (k + 1) (acc.1.erase k, aw, d) := fun aw d hd =>
    ⟨hd, h.nodup.erase _, fun i hi => h.sub i (List.mem_of_mem_erase hi),
     upTo_succ h.upto (fun _ => List.mem_of_mem_erase) fun hk => absurd hk h.nodup.not_mem_erase⟩
  have keep : ∀ aw d, DiscOk P d → (k ∈ acc.1 → ∀ pr, P.props[k]? = some pr → pr.cond st = false) →
      PL (P := P) st eb0 (k + 1) (acc.1, aw, d) := fun aw d hd hk =>
    ⟨hd, h.nodup, h.sub, upTo_succ h.upto (fun _ hj => hj) hk⟩
  unfold propStep
  split
  · next hnone => exact keep _ _ h.disc fun _ pr hpr => nomatch hnone.symm.trans hpr
  · next p hp =>
    have notEv : p.exp ≠ .eventually → k ∈ acc.1 → ∀ pr, P.props[k]? = some pr → pr.cond st = false :=
      fun hne hk pr hpr => absurd (hev k (h.sub k hk) pr hpr) (Option.some.inj (hp.symm.trans hpr) ▸ hne)
    split
    · exact drop _ _ h.disc
    · split
      · next hexp =>
        have hne : p.exp ≠ .eventually := fun e => nomatch hexp.symm.trans e
        split
        · next hc =>
          exact keep _ _ (discOk_insert h.disc (entryOk_witness hpath hlast hp (.inl ⟨hexp, by simpa using hc⟩)))
            (notEv hne)
        · exact keep _ _ h.disc (notEv hne)
      · next hexp =>
        have hne : p.exp ≠ .eventually := fun e => nomatch hexp.symm.trans e
        split
        · next hc => exact keep _ _ (discOk_insert h.disc (entryOk_witness hpath hlast hp (.inr ⟨hexp, hc⟩))) (notEv hne)
        · exact keep _ _ h.disc (notEv hne)
      · split
        · exact drop _ _ h.disc
        · next hc => exact keep _ _ h.disc fun _ pr hpr => Option.some.inj (hp.symm.trans hpr) ▸ by simpa using hc

theorem propLoop_pl {st : σ} {path' : List σ} {eb0 : List Nat} {d : List (Nat × List σ)} {o : Nat → Bool}
    (hpath : P.M.IsPath path') (hlast : path'.getLast? = some st)
    (hev : ∀ i ∈ eb0, ∀ pr, P.props[i]? = some pr → pr.exp = .eventually)
    (hnd : eb0.Nodup) (hd : DiscOk P d) :
    PL (P := P) st eb0 P.props.length (propLoop P.props st path' eb0 d o) :=
  foldl_range_inv (PL (P := P) st eb0) _ _ _
    ⟨hd, hnd, fun _ h => h, fun _ _ hlt => absurd hlt (Nat.not_lt_zero _)⟩ fun _ _ _ h => propStep_pl hpath hlast hev h

theorem recordAll_ok {eb : List Nat} {path' : List σ} {d : List (Nat × List σ)} (hd : DiscOk P d)
    (he : ∀ i ∈ eb, i < P.props.length → EntryOk P (i, path')) :
    DiscOk P (recordAll P.props eb path' d) := by
  refine foldl_range_inv (fun _ d => DiscOk P d) _ _ _ hd fun k d hk hd => ?_
  split
  · next hmem => exact discOk_insert hd (he k hmem hk)
  · exact hd

end

/-- top of `'outer`: `st` is the state about to be entered and is NOT yet on `path` — an initial state (of unknown
    boundary status) after the empty path, or an in-boundary successor of the last state of a real path.  Not
    `Sys.PathTo` of `Paths`, whose path ends in its state. -/
def PathTo (path : List σ) (st : σ) : Prop :=
  (path = [] ∧ st ∈ P.M.init) ∨ (P.M.IsPath path ∧ ∃ prev, path.getLast? = some prev ∧ st ∈ P.M.succB prev)

omit [DecidableEq κ] in
theorem isPath_extend {path : List σ} {st : σ} (h : PathTo (P := P) path st) (hin : P.M.inB st = true) :
    P.M.IsPath (path ++ [st]) := by
  rcases h with ⟨rfl, hi⟩ | ⟨hp, prev, hl, hs⟩
  · exact Sys.isPath_singleton (Sys.mem_initB.2 ⟨hi, hin⟩)
  · exact Sys.isPath_append_one hp hl hs

section
-- no fingerprint collision (under symmetry: the conditions are invariant)
variable (hkc : ∀ a b, P.M.Reach a → P.M.Reach b → P.key a = P.key b → ∀ pr ∈ P.props, pr.cond a = pr.cond b)

omit [DecidableEq κ] in
include hkc in
/-- "loop found": the new state has the key of some `t` on the path, so (`hkc`) the tracked conditions are false in it too -/
theorem entryOk_cycle {eb : List Nat} {p : List σ} {st : σ} {gen : List κ} (hp : P.M.IsPath (p ++ [st]))
    (hgen : SeenOk P gen p) (hk : P.key st ∈ gen)
    (heb : EbOk P eb p) :
    ∀ j ∈ eb, j < P.props.length → EntryOk P (j, p ++ [st]) := by
  obtain ⟨t, ht, hkt⟩ := (hgen _).1 hk
  have hlast : (p ++ [st]).getLast? = some st := List.getLast?_concat
  refine entryOk_of_eb hp (ebOk_concat heb (fun _ h => h) fun j hj _ pr hpr => ?_)
    (Or.inr ⟨st, hlast, t, by rwa [List.dropLast_concat], hkt⟩)
  rw [← hkc t st (Sys.reach_of_isPath hp t (List.mem_append_left _ ht)) (Sys.reach_last_of_isPath hp hlast) hkt pr
    (List.mem_of_getElem? hpr)]
  exact (heb j hj pr hpr).2 t ht

include hkc in
theorem traceLoop_ok (orc : Nat → Nat → Bool) (f : Nat) (st : σ) (path : List σ) (gen : List κ) (eb ans : List Nat) (g : G σ)
    (hd : DiscOk P g.disc) (hpt : PathTo (P := P) path st) (hgen : SeenOk P gen path) (hnd : eb.Nodup)
    (heb : EbOk P eb path) : DiscOk P (traceLoop P orc f st path gen eb ans g).1.disc := by
  -- the cases are the ways out of an iteration of `traceLoop`, in the order they are written: 1 no fuel, 2 depth limit,
  -- 3 outside the boundary, 4 loop found, 5 nothing awaited, 6 no action left, 7 a successor is chosen
  fun_induction traceLoop P orc f st path gen eb ans g
  case case1 | case2 | case3 => exact hd
  all_goals have hpath' := isPath_extend hpt (by simpa using ‹¬(!P.M.inB _) = true›)
  case case4 hk => exact recordAll_ok hd (entryOk_cycle hkc hpath' hgen hk heb)
  all_goals
    have hpl := fun o => propLoop_pl (P := P) (o := o) hpath' List.getLast?_concat
      (fun i hi pr hpr => (heb i hi pr hpr).1) hnd hd
    have heb' := fun o => ebOk_concat heb (hpl o).sub (hpl o).upto
  case case5 => exact (hpl _).disc
  case case6 hpick =>
    exact recordAll_ok (hpl _).disc
      (entryOk_of_eb hpath' (heb' _) (Or.inl ⟨_, List.getLast?_concat, pickNext_none hpick⟩))
  case case7 hpick ih =>
    exact ih (hpl _).disc (Or.inr ⟨hpath', _, List.getLast?_concat, pickNext_some hpick⟩) (seenOk_push _ hgen)
      (hpl _).nodup (heb' _)

include hkc in
theorem trace_ok (orc : Nat → Nat → Bool) (fuel : Nat) (ans : List Nat) (g : G σ) (hd : DiscOk P g.disc) :
    DiscOk P (trace P fuel ans g orc).1.disc := by
  unfold trace
  split
  · exact hd
  · simp only
    split
    · exact hd
    · next s hs =>
      exact traceLoop_ok hkc orc fuel s [] [] _ _ g hd (Or.inl ⟨rfl, List.mem_of_getElem? hs⟩)
        seenOk_nil (initEbits_nodup _) ebOk_init

end

theorem runTraces_ok
    (hkc : ∀ a b, P.M.Reach a → P.M.Reach b → P.key a = P.key b → ∀ pr ∈ P.props, pr.cond a = pr.cond b)
    (fuel n : Nat) (ans : List Nat) (g : G σ) (hd : DiscOk P g.disc) : DiscOk P (runTraces P fuel n ans g).disc := by
  induction n generalizing ans g with
  | zero => exact hd
  | succ n ih =>
    unfold runTraces
    have h1 := trace_ok hkc (fun _ _ => false) fuel ans g hd
    simp only
    split
    · exact h1
    · split
      · exact h1
      · exact ih _ _ h1

theorem tracesO_ok
    (hkc : ∀ a b, P.M.Reach a → P.M.Reach b → P.key a = P.key b → ∀ pr ∈ P.props, pr.cond a = pr.cond b)
    (orc : Nat → Nat → Nat → Bool) (fuels : List Nat) (j : Nat) (ans : List Nat) (g : G σ) (hd : DiscOk P g.disc) :
    DiscOk P (tracesO P orc j fuels ans g).disc := by
  fun_induction tracesO P orc j fuels ans g
  case case1 => exact hd
  case case2 ih => exact ih (trace_ok hkc _ _ _ _ hd)

end
end SR.Checker.Sim
