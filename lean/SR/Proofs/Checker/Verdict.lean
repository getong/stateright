import SR.Proofs.Checker.Stages
import SR.Proofs.Checker.Complete
import SR.Checker.Verdict
/-!
Verdict invariant: a state whose evaluation has passed property `i` and that is a witness for `i` has left a discovery
for `i`.  Also: a worker whose `is_awaiting_discoveries` flag is still false has seen a discovery for every property it has
passed, so that it gives up only when everything is discovered.
With the closure invariant this gives the verdict at quiescence, if no job was dropped or everything is discovered: an
always/sometimes property has a discovery iff some reachable state is a witness (`verdict_modulo`, with `R` as in
`complete_of_quiescent`; `verdict_exact`, for a key injective on reachable states).
-/
namespace SR.Checker
open SR

section
variable {σ κ α : Type} [DecidableEq κ]
variable (P : Params σ κ α)

def passed (a : Active σ) : Nat :=
  match a.phase with
  | .props k _ => k
  | _ => P.props.length

def VAct (d : Disc σ) (a : Active σ) : Prop :=
  (∀ i pr, P.props[i]? = some pr → i < passed P a → Wit pr a.job.st → hasDisc d i = true) ∧
  ∀ k, a.phase = .props k false → ∀ i, i < k → i < P.props.length → hasDisc d i = true

def VDone (d : Disc σ) (u : σ) : Prop := ∀ i pr, P.props[i]? = some pr → Wit pr u → hasDisc d i = true

abbrev VInv : St σ κ → Prop := Stages (fun _ _ => True) (VAct P) (VDone P) (fun _ => True)

variable {P}

theorem assertPropertiesOk_iff (s : St σ κ) : assertPropertiesOk P s = true ↔
    ∀ i pr, P.props[i]? = some pr →
      if pr.exp = .sometimes then hasDisc s.disc i = true else hasDisc s.disc i = false ∧ isDone P s = true := by
  unfold assertPropertiesOk
  rw [List.all_eq_true]
  constructor
  · intro h i pr hpr
    have := h i (List.mem_range.2 (lt_length_of_getElem? hpr))
    rw [hpr] at this
    by_cases he : pr.exp = .sometimes
    all_goals simpa [he] using this
  · intro h i hi
    have hlt := List.mem_range.1 hi
    have hpr := List.getElem?_eq_getElem hlt
    rw [hpr]
    have := h i _ hpr
    by_cases he : P.props[i].exp = .sometimes
    all_goals simpa [he] using this

theorem vinv_init : VInv P (init P.M P.props P.key) :=
  ⟨fun _ _ => trivial, List.forall_mem_nil _, List.forall_mem_nil _, List.forall_mem_nil _⟩

theorem VAct.mono {d d' : Disc σ} {a : Active σ} (hm : ∀ k, hasDisc d k = true → hasDisc d' k = true)
    (h : VAct P d a) : VAct P d' a :=
  ⟨fun i pr hpr hlt hw => hm _ (h.1 i pr hpr hlt hw), fun k hk i hi hlen => hm _ (h.2 k hk i hi hlen)⟩

/-- One iteration of the property loop, whichever way it goes. -/
theorem VAct.advance {d d' : Disc σ} {i : Nat} {j j' : Job σ} {aw aw' : Bool} {p : Prop' σ}
    (h : VAct P d ⟨j, .props i aw⟩) (hp : P.props[i]? = some p) (hst : j'.st = j.st)
    (hmono : ∀ k, hasDisc d k = true → hasDisc d' k = true) (hwit : Wit p j.st → hasDisc d' i = true)
    (hawc : aw' = false → aw = false ∧ hasDisc d' i = true) : VAct P d' ⟨j', .props (i+1) aw'⟩ := by
  refine ⟨fun k pr hpr hlt hw => ?_, fun k hk n hn hlen => ?_⟩
  · by_cases hki : k = i
    · subst hki
      cases hp.symm.trans hpr
      exact hwit (hst ▸ hw)
    · exact hmono _ (h.1 k pr hpr (Nat.lt_of_le_of_ne (Nat.le_of_lt_succ hlt) hki) (hst ▸ hw))
  · cases hk
    obtain ⟨e1, e2⟩ := hawc rfl
    by_cases hni : n = i
    · exact hni ▸ e2
    · exact hmono _ (h.2 i (e1 ▸ rfl) n (Nat.lt_of_le_of_ne (Nat.le_of_lt_succ hn) hni) hlen)

theorem VAct.past {d : Disc σ} {a : Active σ} (h : VAct P d a) (hp : P.props.length ≤ passed P a) :
    VDone P d a.job.st :=
  fun i pr hpr hw => h.1 i pr hpr (Nat.lt_of_lt_of_le (lt_length_of_getElem? hpr) hp) hw

theorem VDone.act {d : Disc σ} {j : Job σ} {ph : Phase σ} (h : VDone P d j.st) (hph : ∀ k, ph ≠ .props k false) :
    VAct P d ⟨j, ph⟩ :=
  ⟨fun i pr hpr _ hw => h i pr hpr hw, fun k hk => absurd hk (hph k)⟩

theorem vinv_laws : Stages.Laws P (fun _ _ => True) (VAct P) (VDone P) (fun _ => True) where
  mono _ _ _ := ⟨fun _ _ => trivial, fun _ => VAct.mono fun _ => hasDisc_insert_mono,
    fun _ h i pr hpr hw => hasDisc_insert_mono (h i pr hpr hw)⟩
  take _ _ _ := ⟨fun _ _ _ hlt => absurd hlt (Nat.not_lt_zero _), fun _ hk i hi => by
    cases hk
    exact absurd hi (Nat.not_lt_zero i)⟩
  work _ _ h _ hw := by
    refine ⟨?_, fun _ _ => trivial⟩
    cases hw with
    | skip hp hd => exact h.advance hp rfl (fun _ hk => hk) (fun _ => hd) (fun e => ⟨e, hd⟩)
    | found hp =>
      exact h.advance hp rfl (fun _ => hasDisc_insert_mono) (fun _ => hasDisc_insert_self _ _ _)
        (fun e => ⟨e, hasDisc_insert_self _ _ _⟩)
    | pass hp _ hw => exact h.advance hp rfl (fun _ hk => hk) (fun hw' => absurd hw' hw) (fun e => by cases e)
    | evHolds hp he | evFails hp he =>
      exact h.advance hp rfl (fun _ hk => hk) (fun hw => absurd he (ne_eventually_of_witness hw)) (fun e => by cases e)
    | terminal hi | expand hi => exact (h.past hi).act nofun
    | record => exact VAct.mono (fun _ => hasDisc_insert_mono) ((h.past (Nat.le_refl _)).act nofun)
    | noRecord => exact (h.past (Nat.le_refl _)).act nofun
  next _ _ _ _ h := ⟨(h.past (Nat.le_refl _)).act nofun, trivial⟩
  retire _ _ h hr := by
    rcases hr with rfl | ⟨_, rfl, _⟩
    all_goals exact h.past (Nat.le_refl _)

theorem vinv_step (c : Choice) {s : St σ κ} (hs : SInv P s) (h : VInv P s) : VInv P (step P c s) :=
  step_cases c h fun _ m => vinv_laws.move m hs h

theorem vinv_run (cs : List Choice) : VInv P (run P cs) :=
  vinv_laws.run vinv_init cs

/-- `R` as in `complete_of_quiescent` -/
theorem verdict_modulo (R : σ → σ → Prop)
    (hkey : ∀ a b, P.M.Reach a → P.M.Reach b → P.key a = P.key b → R a b)
    (htrans : ∀ a b c, R a b → R b c → R a c)
    (hsim : ∀ a b, R a b → ∀ a' ∈ P.M.succB a, ∃ b' ∈ P.M.succB b, R a' b')
    (cs : List Choice) (hq : Quiescent (run P cs))
    (hc : (run P cs).early = false ∨ allDiscovered P (run P cs) = true)
    (i : Nat) (pr : Prop' σ) (hpr : P.props[i]? = some pr) (hinv : ∀ a b, R a b → pr.cond a = pr.cond b)
    (hexp : pr.exp ≠ .eventually) :
    hasDisc (run P cs).disc i = true ↔ ∃ t, P.M.Reach t ∧ Wit pr t := by
  constructor
  · intro hd
    obtain ⟨p, he⟩ := (hasDisc_iff_exists _ _).1 hd
    obtain ⟨hp, _, hw⟩ := (sinv_run (P := P) cs).disc _ he
    obtain ⟨s, hl, hws⟩ := witnessAS_iff.1 hw pr hpr hexp
    exact ⟨s, Sys.reach_last_of_isPath hp hl, hws⟩
  · rintro ⟨t, ht, hw⟩
    rcases hc with he | hall
    · obtain ⟨u, hu, hr⟩ := complete_of_quiescent (P := P) R hkey htrans hsim cs hq he t ht
      refine (vinv_run (P := P) cs).done u hu i pr hpr ?_
      unfold Wit at hw ⊢
      rwa [← hinv t u hr]
    · exact (allDiscovered_eq_true_iff _).1 hall i (lt_length_of_getElem? hpr)

theorem verdict_exact (hinj : ∀ a b, P.M.Reach a → P.M.Reach b → P.key a = P.key b → a = b)
    (cs : List Choice) (hq : Quiescent (run P cs))
    (hc : (run P cs).early = false ∨ allDiscovered P (run P cs) = true)
    (i : Nat) (pr : Prop' σ) (hpr : P.props[i]? = some pr) (hexp : pr.exp ≠ .eventually) :
    hasDisc (run P cs).disc i = true ↔ ∃ t, P.M.Reach t ∧ Wit pr t :=
  verdict_modulo Eq hinj (fun _ _ _ => Eq.trans) (fun _ _ hab a' ha' => ⟨a', hab ▸ ha', rfl⟩) cs hq hc i pr hpr
    (fun _ _ hab => hab ▸ rfl) hexp

end
end SR.Checker
