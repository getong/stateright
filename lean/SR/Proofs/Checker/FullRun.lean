import SR.Proofs.Checker.FullInv
/-! Runs of the concurrent checker: the coupling invariant holds along every run, and the checker never gets stuck. -/
namespace SR.Full
open SR SR.Checker SR.Market

/-- the market after `job_broker.push(initial jobs)` -/
def m0 (k n : Nat) : MState :=
  { Market.init k k with batches := [List.range n], created := List.range n }

theorem xpush_init (k n : Nat) : Market.step (Market.init k k) (.xpush (List.range n) []) = some (m0 k n) := by
  have hf : freshOk (Market.init k k) (List.range n) = true := by
    simp [freshOk, (nodupB_iff _).2 List.nodup_range, Market.init]
  have hc : (List.replicate k Pc.running).count (Pc.parked false) = 0 := by
    rw [List.count_replicate]
    simp
  have hp : picksOk (Market.init k k).pcs [] 1 = true := by
    simp [picksOk, nodupB, Market.init, hc]
  have ho : (Market.init k k).isOpen = true := rfl
  simp only [Market.step, stepR, hf, hp, ho, if_true, Bool.not_true, Bool.false_eq_true, if_false, Option.map_some]
  simp [m0, Market.init, notifyPicks]

section
variable {σ κ α : Type} [DecidableEq κ] (P : Params σ κ α)

theorem finit_eq (k : Nat) : finit P k =
    { m := m0 k (Checker.init P.M P.props P.key).frontier.length
      c := Checker.init P.M P.props P.key
      ft := (List.range (Checker.init P.M P.props P.key).frontier.length).reverse
      aw := [] } := by
  simp [finit, xpush_init]

theorem finit_m (k : Nat) : (finit P k).m = m0 k (Checker.init P.M P.props P.key).frontier.length :=
  congrArg FState.m (finit_eq P k)

theorem finv_init (k : Nat) : FInv (finit P k) := by
  have hs := xpush_init k (Checker.init P.M P.props P.key).frontier.length
  have hmi := minv_init k k (Nat.le_refl k)
  have hidle : Idle (m0 k (Checker.init P.M P.props P.key).frontier.length) := fun v _ => by
    simp only [locOf, m0, Market.init, List.getD_eq_getElem?_getD, List.getElem?_replicate]
    split <;> rfl
  rw [finit_eq]
  exact ⟨minv_step hmi hs, oinv_preserved (oinv_init k) hs, fun t => by simp [m0, tokensIn, Market.init], by simp,
    (List.reverse_perm _).nodup_iff.2 List.nodup_range, fun t ht => by simpa [m0] using ht, by simp [Checker.init],
    List.nodup_nil, nofun, hidle, nofun⟩

variable {P}

theorem frunFrom_inv (fs : List FStep) (x : FState σ κ) (h : FInv x) : FInv (frunFrom P x fs).1 := by
  -- the cases of `frunFrom`: no step left; the step is not enabled; it is performed (`hf`)
  fun_induction frunFrom P x fs with
  | case1 => exact h
  | case2 _ _ _ _ ih => exact ih h
  | case3 _ _ _ _ _ _ hf _ ih => exact ih (finv_step h hf)

theorem frun_inv (k : Nat) (fs : List FStep) : FInv (frun P k fs).1 := frunFrom_inv fs (finit P k) (finv_init P k)

theorem frunFrom_proj (fs : List FStep) (x : FState σ κ) :
    (frunFrom P x fs).1.m = mrun x.m (frunFrom P x fs).2.1 ∧
    (frunFrom P x fs).1.c = runFrom P x.c (frunFrom P x fs).2.2 := by
  fun_induction frunFrom P x fs with
  | case1 => exact ⟨rfl, rfl⟩
  | case2 _ _ _ _ ih => exact ih
  | case3 _ _ _ _ ms _ hf _ ih =>
    obtain ⟨h1, h2⟩ := fstep_proj hf
    rw [mrun_append, mseq_mrun ms h1, runFrom_append, ← h2]
    exact ih

theorem fstep_pcs_length {x x' : FState σ κ} {f : FStep} {ms : List Step} {cs : List Choice}
    (h : fstep P x f = some (x', ms, cs)) : x'.m.pcs.length = x.m.pcs.length := by
  rw [← mseq_mrun ms (fstep_proj h).1]
  exact mrun_pcs_length ms x.m

theorem fstep_exited {x x' : FState σ κ} {f : FStep} {ms : List Step} {cs : List Choice}
    (h : fstep P x f = some (x', ms, cs)) {v : Nat} (hv : x.m.pcs[v]? = some Pc.exited) :
    x'.m.pcs[v]? = some Pc.exited :=
  mseq_mrun ms (fstep_proj h).1 ▸
    mrun_induct (P := fun m => m.pcs[v]? = some Pc.exited) (fun hm hs => step_exited hs hm) ms hv

theorem fstep_discNodup {x x' : FState σ κ} {f : FStep} {ms : List Step} {cs : List Choice}
    (h : fstep P x f = some (x', ms, cs)) (hd : (discNames x.c.disc).Nodup) : (discNames x'.c.disc).Nodup := by
  rw [(fstep_proj h).2]
  exact runFrom_induction (fun c => (discNames c.disc).Nodup) (fun c _ hc => discNodup_step c hc) _ hd cs

theorem drop_exited {m m' : MState} {w : Nat} (h : Market.step m (.drop w) = some m') :
    m.pcs[w]? = some .running ∧ m'.pcs[w]? = some .exited := by
  cases step_eff h with
  | drop hw => exact ⟨hw, List.getElem?_set_self ((length_notifyAll _).symm ▸ lt_length_of_getElem? hw)⟩

theorem exit_exited {x x' : FState σ κ} {w : Nat} {ms : List Step} {cs : List Choice}
    (hs : fstep P x (.exit w) = some (x', ms, cs)) : x'.m.pcs[w]? = some .exited := by
  obtain ⟨-, m', hm, he⟩ := guard_map_some hs
  cases he
  exact (drop_exited hm).2

theorem stop_exited {x x' : FState σ κ} {w : Nat} {why : Why} {ms : List Step} {cs : List Choice}
    (hs : fstep P x (.stop w why) = some (x', ms, cs)) :
    x.m.pcs[w]? = some .running ∧ x'.m.pcs[w]? = some .exited := by
  obtain ⟨-, m', hm, he⟩ := guard_map_some hs
  cases he
  exact drop_exited hm

theorem frun_pcs_length (k : Nat) (fs : List FStep) : (frun P k fs).1.m.pcs.length = k := by
  rw [frun, (frunFrom_proj fs (finit P k)).1, mrun_pcs_length, finit_m]
  simp [m0, Market.init]

end

section
variable {σ κ α : Type} [DecidableEq κ] (P : Params σ κ α) {x : FState σ κ}

theorem pop_enabled (w : Nat) (hrun : x.m.pcs[w]? = some Pc.running) (hloc : locOf x.m w = [])
    (hnaw : w ∉ x.aw) : ∃ r, fstep P x (.pop w) = some r := by
  obtain ⟨m', hm⟩ : ∃ m', Market.step x.m (.popBegin w) = some m' := by
    simp only [Market.step, stepR, hrun, if_true]
    split <;> exact ⟨_, rfl⟩
  have hf : fstep P x (.pop w) = some ({ x with m := m' }, [.popBegin w], []) := by
    simp only [fstep, if_pos (And.intro hloc hnaw), hm]
    rfl
  exact ⟨_, hf⟩

theorem wake_enabled (w : Nat) (b : Bool) (hp : x.m.pcs[w]? = some (Pc.parked b)) :
    ∃ r, fstep P x (.wake w) = some r := by
  obtain ⟨m', hm⟩ : ∃ m', Market.step x.m (.wake w) = some m' := by
    simp only [Market.step, stepR, hp]
    exact ⟨_, rfl⟩
  have hf : fstep P x (.wake w) = some ({ x with m := m' }, [.wake w], []) := by
    simp only [fstep, hm]
    rfl
  exact ⟨_, hf⟩

theorem take_enabled (w : Nat) (hrun : x.m.pcs[w]? = some Pc.running)
    (t : Tok) (ht : (locOf x.m w)[0]? = some t) (hnaw : w ∉ x.aw) : ∃ r, fstep P x (.take w 0) = some r := by
  have hperm : ((locOf x.m w).eraseIdx 0 ++ [t]).Perm (x.m.locs.getD w []) :=
    (List.perm_append_comm.trans (by simp)).trans (perm_eraseIdx ht).symm
  have hwork := (step_work_iff (s := { x.m with locs := x.m.locs.set w ((locOf x.m w).eraseIdx 0 ++ [t]) }) (c := 1)
    (fresh := [])).2 ⟨hrun, rfl, rfl⟩
  simp only [fstep, ht, if_neg hnaw, mseq, step_rearrange_iff.2 ⟨hrun, hperm, rfl⟩, Option.bind_some, hwork]
  exact ⟨_, rfl⟩

/-- `evalProp` stands for any step on a current job: `onJob` is `some _` whatever the phase of the job, also where the machine
    step leaves the state alone -/
theorem running_enabled (w : Nat) (hrun : x.m.pcs[w]? = some Pc.running) :
    ∃ f r, fstep P x f = some r ∧ (f = .pop w ∨ f = .take w 0 ∨ f = .evalProp w false) := by
  by_cases hw : w ∈ x.aw
  · have hf : ∃ r, fstep P x (.evalProp w false) = some r := by
      simp only [fstep, onJob, if_pos hw]
      exact ⟨_, rfl⟩
    obtain ⟨r, hr⟩ := hf
    exact ⟨_, r, hr, Or.inr (Or.inr rfl)⟩
  · cases hl : locOf x.m w with
    | nil =>
      obtain ⟨r, hr⟩ := pop_enabled P w hrun hl hw
      exact ⟨_, r, hr, Or.inl rfl⟩
    | cons t tl =>
      obtain ⟨r, hr⟩ := take_enabled P w hrun t (by rw [hl]; rfl) hw
      exact ⟨_, r, hr, Or.inr (Or.inl rfl)⟩

theorem not_stuck (inv : FInv x) (h : ¬ allExited x) :
    (∃ w f r, x.m.pcs[w]? = some Pc.running ∧ fstep P x f = some r ∧
        (f = .pop w ∨ f = .take w 0 ∨ f = .evalProp w false)) ∨
    (∃ w r, x.m.pcs[w]? = some (Pc.parked true) ∧ fstep P x (.wake w) = some r) := by
  obtain ⟨p, hp, hne⟩ : ∃ p ∈ x.m.pcs, p ≠ Pc.exited := by simpa [allExited] using h
  have hw : Pc.running ∈ x.m.pcs ∨ Pc.parked true ∈ x.m.pcs := by
    match p, hp, hne with
    | .running, hp, _ => exact .inl hp
    | .parked true, hp, _ => exact .inr hp
    -- nobody is lost: a running worker will notify it, or some waiter has been notified
    | .parked false, hp, _ => exact inv.mi.p.noLost hp
  refine hw.imp (fun hr => ?_) fun hr => ?_
  · obtain ⟨w, hw⟩ := List.getElem?_of_mem hr
    obtain ⟨f, r, hf, hk⟩ := running_enabled P w hw
    exact ⟨w, f, r, hw, hf, hk⟩
  · obtain ⟨w, hw⟩ := List.getElem?_of_mem hr
    obtain ⟨r, hr'⟩ := wake_enabled P w true hw
    exact ⟨w, r, hw, hr'⟩

end

end SR.Full
