import SR.Proofs.Checker.FullFrame
/-!
What the replay of `ReplayComplete.lean` and the machine may differ in: on the market side the notification flags of waiting
workers (`MEq`); on the machine side the ghosts `done` / `early`, the layout of `active` (`CEq`, `look`) and the steps without
entry (`Sil`).
-/

namespace SR.ReplayComplete.Full
open SR SR.Checker SR.Market SR.Full

/-- `look x.aw x.c.active w` is `activeOf x w` of `Drv/Full.lean` (`activeOf_eq` in `ReplaySteps.lean`), stated here on two lists
    so that this file stays clear of the validator -/
def look {β : Type} (aw : List Nat) (ac : List β) (w : Nat) : Option β :=
  if w ∈ aw then ac[aw.idxOf w]? else none

theorem look_set {β : Type} {aw : List Nat} {ac : List β} (hl : aw.length = ac.length) {w : Nat} (hw : w ∈ aw)
    (a : β) (v : Nat) : look aw (ac.set (aw.idxOf w) a) v = if v = w then some a else look aw ac v := by
  unfold look
  by_cases e : v = w
  · subst e
    rw [if_pos rfl, if_pos hw, List.getElem?_set_self (hl ▸ List.idxOf_lt_length_of_mem hw)]
  · rw [if_neg e]
    by_cases hv : v ∈ aw
    · rw [if_pos hv, if_pos hv, List.getElem?_set_ne (idxOf_ne_of_ne hv e)]
    · rw [if_neg hv, if_neg hv]

theorem look_cons {β : Type} (a : Nat) (as : List Nat) (c : β) (cs : List β) (v : Nat) :
    look (a :: as) (c :: cs) v = if v = a then some c else look as cs v := by
  unfold look
  by_cases h : v = a
  · subst h
    simp
  · simp [h, idxOf_cons_ne (Ne.symm h)]

theorem look_eraseIdx {β : Type} {aw : List Nat} (hn : aw.Nodup) (ac : List β) (w v : Nat) :
    look (aw.eraseIdx (aw.idxOf w)) (ac.eraseIdx (aw.idxOf w)) v = if v = w then none else look aw ac v := by
  by_cases e : v = w
  · subst e
    rw [if_pos rfl, look, if_neg]
    rw [← List.erase_eq_eraseIdx_of_idxOf rfl]
    exact fun h => ((List.Nodup.mem_erase_iff hn).1 h).1 rfl
  · rw [if_neg e]
    clear hn
    induction aw generalizing ac with
    | nil => simp [look]
    | cons a as ih =>
      cases ac with
      | nil => simp [look]
      | cons c cs =>
        by_cases haw : a = w
        · subst haw
          simp only [List.idxOf_cons_self, List.eraseIdx_cons_zero, look_cons, if_neg e]
        · rw [idxOf_cons_ne haw, List.eraseIdx_cons_succ, List.eraseIdx_cons_succ, look_cons, look_cons, ih]

theorem look_append {β : Type} {aw : List Nat} {ac : List β} (hl : aw.length = ac.length) {w : Nat} (hw : w ∉ aw)
    (a : β) (v : Nat) : look (aw ++ [w]) (ac ++ [a]) v = if v = w then some a else look aw ac v := by
  unfold look
  by_cases e : v = w
  · subst e
    have : (aw ++ [v]).idxOf v = aw.length := by
      rw [List.idxOf_append, if_neg hw]
      simp
    rw [if_pos rfl, if_pos (by simp), this, hl]
    simp
  · rw [if_neg e]
    by_cases hv : v ∈ aw
    · have h1 : aw.idxOf v < ac.length := hl ▸ List.idxOf_lt_length_of_mem hv
      rw [if_pos (by simp [hv]), if_pos hv, List.idxOf_append, if_pos hv, List.getElem?_append_left h1]
    · rw [if_neg (by simp [hv, e]), if_neg hv]

structure MEq (a b : MState) : Prop where
  isOpen : a.isOpen = b.isOpen
  threadCount : a.threadCount = b.threadCount
  openCount : a.openCount = b.openCount
  batches : a.batches = b.batches
  locs : a.locs = b.locs
  created : a.created = b.created
  consumed : a.consumed = b.consumed
  dropped : a.dropped = b.dropped
  pcs : a.pcs.map strip = b.pcs.map strip

theorem MEq.refl (a : MState) : MEq a a := ⟨rfl, rfl, rfl, rfl, rfl, rfl, rfl, rfl, rfl⟩

theorem MEq.symm {a b : MState} (h : MEq a b) : MEq b a :=
  ⟨h.isOpen.symm, h.threadCount.symm, h.openCount.symm, h.batches.symm, h.locs.symm, h.created.symm,
    h.consumed.symm, h.dropped.symm, h.pcs.symm⟩

theorem MEq.len {a b : MState} (h : MEq a b) : a.pcs.length = b.pcs.length := by
  have := congrArg List.length h.pcs
  simpa using this

theorem MEq.running {a b : MState} (h : MEq a b) {w : Nat} (ha : a.pcs[w]? = some .running) :
    b.pcs[w]? = some .running :=
  strip_get h.pcs (fun _ => nofun) ha

theorem MEq.running_iff {a b : MState} (h : MEq a b) (w : Nat) :
    a.pcs[w]? = some .running ↔ b.pcs[w]? = some .running :=
  ⟨h.running, h.symm.running⟩

theorem MEq.parked {a b : MState} (h : MEq a b) {w : Nat} {f : Bool} (ha : a.pcs[w]? = some (.parked f)) :
    ∃ g, b.pcs[w]? = some (.parked g) := by
  obtain ⟨q, hq, e⟩ := strip_some h.pcs ha
  cases q with
  | parked g => exact ⟨g, hq⟩
  | _ => cases e

theorem MEq.exited {a b : MState} (h : MEq a b) {w : Nat} (ha : a.pcs[w]? = some .exited) :
    b.pcs[w]? = some .exited :=
  strip_get h.pcs (fun _ => nofun) ha

theorem MEq.locOf {a b : MState} (h : MEq a b) (w : Nat) : locOf a w = locOf b w := by
  unfold Full.locOf
  rw [h.locs]

theorem MEq.exists_pcs {a b : MState} (h : MEq a b) :
    ∃ q, a.pcs.map strip = q.map strip ∧ b = { a with pcs := q } := by
  refine ⟨b.pcs, h.pcs, ?_⟩
  obtain ⟨h1, h2, h3, h4, h5, h6, h7, h8, -⟩ := h
  cases a
  cases b
  simp only at h1 h2 h3 h4 h5 h6 h7 h8
  subst_vars
  rfl

theorem meq_pcs {a b : MState} (h : b = { a with pcs := b.pcs }) (hp : a.pcs.map strip = b.pcs.map strip) : MEq a b :=
  h ▸ ⟨rfl, rfl, rfl, rfl, rfl, rfl, rfl, rfl, hp⟩

theorem strip_set {pcs pcs' : List Pc} (h : pcs.map strip = pcs'.map strip) (w : Nat) (p : Pc) :
    (pcs.set w p).map strip = (pcs'.set w p).map strip := by
  rw [List.map_set, List.map_set, h]

theorem popLoop_meq {a b : MState} (h : MEq a b) (w : Nat) :
    MEq (popLoop a w).1 (popLoop b w).1 ∧ (popLoop a w).2 = (popLoop b w).2 := by
  obtain ⟨q, hq, rfl⟩ := h.exists_pcs
  unfold popLoop
  simp only
  split
  · exact ⟨meq_pcs rfl (strip_set hq _ _), rfl⟩
  · split
    · refine ⟨meq_pcs rfl ?_, rfl⟩
      simp only [strip_notifyAll]
      exact strip_set hq _ _
    · exact ⟨meq_pcs rfl (strip_set hq _ _), rfl⟩

theorem dropMarket_meq {a b : MState} (h : MEq a b) : MEq (dropMarket a) (dropMarket b) := by
  obtain ⟨q, hq, rfl⟩ := h.exists_pcs
  refine meq_pcs rfl ?_
  simp only [dropMarket, strip_notifyAll]
  exact hq

/-- the steps that carry no list of waiters to notify.  For `split` the replay has to choose picks of its own (`split_meq`);
    `push` / `xpush` the product never takes after `finit` -/
def noPick : Step → Bool
  | .popBegin _ | .wake _ | .work _ _ _ | .rearrange _ _ | .drop _ | .xdrop | .timeoutFire => true
  | _ => false

theorem stepR_meq {a b a' : MState} {r : Option PopRes} (h : MEq a b) (m : Step) (hm : noPick m = true)
    (hs : stepR a m = some (a', r)) : ∃ b', stepR b m = some (b', r) ∧ MEq a' b' := by
  obtain ⟨q, hq, rfl⟩ := h.exists_pcs
  revert hs
  fun_cases stepR a m
  all_goals
    intro hs
    cases hs
  all_goals simp only [stepR]
  -- the enabled branches in the order of `stepR`, hypotheses as in `stepR_eff`: `popBegin` (closed, open), `wake`, the six of
  -- `push` / `xpush` / `split` (excluded by `hm`), `work`, `rearrange`, `drop`, `xdrop`, `timeoutFire`
  next w hw hc => exact ⟨_, by rw [if_pos (h.running hw), if_pos hc], h⟩
  next w hw ho r hx =>
    obtain ⟨h1, h2⟩ := popLoop_meq h w
    rw [hx] at h1 h2
    exact ⟨_, by rw [if_pos (h.running hw), if_neg ho, ← h2], h1⟩
  next w f hw r hx =>
    obtain ⟨g, hg⟩ := h.parked hw
    obtain ⟨h1, h2⟩ := popLoop_meq (a := { a with openCount := a.openCount + 1 })
      (b := { a with openCount := a.openCount + 1, pcs := q }) (meq_pcs rfl hq) w
    rw [hx] at h1 h2
    exact ⟨_, by simp only [hg, ← h2], h1⟩
  iterate 6 cases hm
  next w c fresh hw _ =>
    simp only [Bool.and_eq_true, decide_eq_true_eq] at hw ⊢
    exact ⟨_, if_pos ⟨h.running hw.1, hw.2⟩, meq_pcs rfl hq⟩
  next w l hw =>
    simp only [Bool.and_eq_true, decide_eq_true_eq] at hw ⊢
    exact ⟨_, if_pos ⟨h.running hw.1, hw.2⟩, meq_pcs rfl hq⟩
  next w hw _ => exact ⟨_, if_pos (h.running hw), meq_pcs rfl (strip_set (dropMarket_meq h).pcs w _)⟩
  next => exact ⟨_, rfl, dropMarket_meq h⟩
  next => exact ⟨_, rfl, meq_pcs rfl hq⟩

theorem step_meq {a b a' : MState} (h : MEq a b) (m : Step) (hm : noPick m = true)
    (hs : Market.step a m = some a') : ∃ b', Market.step b m = some b' ∧ MEq a' b' := by
  obtain ⟨r, hr⟩ := stepR_of_step hs
  obtain ⟨b', hb, hm'⟩ := stepR_meq h m hm hr
  exact ⟨b', step_of_stepR hb, hm'⟩

theorem mseq_meq : ∀ (ms : List Step) {a b a' : MState}, MEq a b → ms.all noPick = true →
    mseq a ms = some a' → ∃ b', mseq b ms = some b' ∧ MEq a' b' := by
  intro ms
  induction ms with
  | nil =>
    intro a b a' h _ hs
    simp only [mseq, Option.some.injEq] at hs
    subst hs
    exact ⟨b, rfl, h⟩
  | cons m ms ih =>
    intro a b a' h hm hs
    rw [List.all_cons, Bool.and_eq_true] at hm
    obtain ⟨a1, h1, h2⟩ := mseq_cons_some hs
    obtain ⟨b1, hb1, hm1⟩ := step_meq h m hm.1 h1
    obtain ⟨b', hb', hm'⟩ := ih hm1 hm.2 h2
    exact ⟨b', by simp only [mseq, hb1, Option.bind_some]; exact hb', hm'⟩

def parkedOf (m : MState) : List Nat :=
  (List.range m.pcs.length).filter fun v => m.pcs[v]? == some (Pc.parked false)

theorem parkedOf_length (m : MState) : (parkedOf m).length = m.pcs.count (Pc.parked false) := by
  -- counting the positions `v` with `pcs[v]? == some p` is counting `some p` in `pcs.map some`
  have e : (List.range m.pcs.length).map (m.pcs[·]?) = m.pcs.map some :=
    List.ext_getElem (by simp) fun i h _ => by simp at h ⊢
  have := congrArg (List.countP (· == some (Pc.parked false))) e
  rw [parkedOf, ← List.countP_eq_length_filter, List.count_eq_countP]
  simpa [List.countP_map, Function.comp_def] using this

theorem picksOk_parked (m : MState) (n : Nat) : picksOk m.pcs ((parkedOf m).take n) n = true := by
  unfold picksOk
  simp only [Bool.and_eq_true, List.all_eq_true, beq_iff_eq]
  refine ⟨⟨(nodupB_iff _).2 ((List.nodup_range.sublist List.filter_sublist).sublist (List.take_sublist _ _)), ?_⟩, ?_⟩
  · intro v hv
    have := List.mem_of_mem_take hv
    unfold parkedOf at this
    simpa using (List.mem_filter.1 this).2
  · rw [List.length_take, parkedOf_length]

theorem split_meq {a b a' : MState} (h : MEq a b) {w : Nat} {picks : List Nat}
    (hs : Market.step a (.split w picks) = some a') :
    ∃ picks' b', Market.step b (.split w picks') = some b' ∧ MEq a' b' ∧
      picks' = if a.isOpen then (parkedOf b).take (a'.batches.length - a.batches.length) else [] := by
  obtain ⟨q, hq, rfl⟩ := h.exists_pcs
  cases step_eff hs with
  | splitClosed hw hc =>
    have hwq : q[w]? = some Pc.running := h.running hw
    refine ⟨[], { a with pcs := q, locs := a.locs.set w [] }, ?_, meq_pcs rfl hq, by rw [hc]; rfl⟩
    simp only [Market.step, stepR, if_pos hwq, hc, Bool.not_false, if_true, List.isEmpty_nil, Option.map_some]
  | @split _ _ r hw ho hr hp =>
    have hwq : q[w]? = some Pc.running := h.running hw
    -- the replay's picks are admissible; everything else in the guard is the same on both sides
    have hpk : picksOk q ((parkedOf { a with pcs := q }).take (r.2.length - a.batches.length))
        (r.2.length - a.batches.length) = true := picksOk_parked { a with pcs := q } _
    refine ⟨_,
      { a with
        batches := r.2
        locs := a.locs.set w r.1
        pcs := notifyPicks q ((parkedOf { a with pcs := q }).take (r.2.length - a.batches.length)) },
      ?_, meq_pcs rfl ?_, (if_pos ho).symm⟩
    · simp only [splitPieces, splitSize] at hr
      simp only [ho] at hpk
      simp only [Market.step, stepR, if_pos hwq, ho, Bool.not_true, Bool.false_eq_true, if_false, splitPieces, splitSize,
        ← hr, hpk, if_true, Option.map_some]
    · simp only [strip_notifyPicks]
      exact hq

variable (P : Params Nat Nat Nat)

abbrev C := St Nat Nat
abbrev A := Active Nat

/-- the shared components: not `active`, and not the ghosts `done`, `early`, which depend on WHEN the steps without a log
    entry are taken -/
structure CEq (a b : C) : Prop where
  gen : a.gen = b.gen
  fr : a.frontier = b.frontier
  disc : a.disc = b.disc
  cnt : a.stateCount = b.stateCount
  md : a.maxDepth = b.maxDepth
  vis : a.visits = b.visits
  st : a.stopped = b.stopped

theorem CEq.refl (a : C) : CEq a a := ⟨rfl, rfl, rfl, rfl, rfl, rfl, rfl⟩
theorem CEq.symm {a b : C} (h : CEq a b) : CEq b a :=
  ⟨h.gen.symm, h.fr.symm, h.disc.symm, h.cnt.symm, h.md.symm, h.vis.symm, h.st.symm⟩
theorem CEq.trans {a b c : C} (h : CEq a b) (h' : CEq b c) : CEq a c :=
  ⟨h.gen.trans h'.gen, h.fr.trans h'.fr, h.disc.trans h'.disc, h.cnt.trans h'.cnt, h.md.trans h'.md,
    h.vis.trans h'.vis, h.st.trans h'.st⟩

/-- a step on the same job, in slot `i` of `a` and slot `j` of `b` -/
structure JobSync (a b : C) (i j : Nat) (a' b' : C) : Prop where
  ceq : CEq a' b'
  act : (∃ act', a'.active = a.active.set i act' ∧ b'.active = b.active.set j act') ∨
        (a'.active = a.active.eraseIdx i ∧ b'.active = b.active.eraseIdx j)

variable {P}

theorem jobSync_same {a b : C} (h : CEq a b) {i j : Nat} {act : A} (ha : a.active[i]? = some act)
    (hb : b.active[j]? = some act) : JobSync a b i j a b :=
  ⟨h, .inl ⟨act, (set_self_of_getElem? ha).symm, (set_self_of_getElem? hb).symm⟩⟩

/-- close a `CEq` goal between two states updated in the same way from `CEq` states -/
macro "ceq" h:ident : tactic =>
  `(tactic| (constructor <;> first
      | rfl | exact ($h).gen | exact ($h).fr | exact ($h).disc | exact ($h).cnt | exact ($h).md | exact ($h).vis
      | exact ($h).st | (simp only [($h).gen, ($h).fr, ($h).disc, ($h).cnt, ($h).md, ($h).vis, ($h).st]; done)))

theorem evalProp_sync {a b : C} (h : CEq a b) {i j : Nat} {act : A} (ha : a.active[i]? = some act)
    (hb : b.active[j]? = some act) (st : Bool) :
    JobSync a b i j (stepEvalProp P i st a) (stepEvalProp P j st b) := by
  unfold stepEvalProp
  rw [ha, hb]
  obtain ⟨jb, ph⟩ := act
  cases ph with
  | props n aw =>
    simp only []
    cases hp : P.props[n]? with
    | none => exact jobSync_same h ha hb
    | some p =>
      simp only [h.disc]
      -- whichever branch the two sides take (the same one), the job is replaced by the same job
      repeat' split
      all_goals exact ⟨by ceq h, .inl ⟨_, rfl, rfl⟩⟩
  | expanding r => exact jobSync_same h ha hb
  | recording n => exact jobSync_same h ha hb

theorem finishProps_sync {a b : C} (h : CEq a b) {i j : Nat} {act : A} (ha : a.active[i]? = some act)
    (hb : b.active[j]? = some act) :
    JobSync a b i j (stepFinishProps P i a) (stepFinishProps P j b) := by
  unfold stepFinishProps
  rw [ha, hb]
  obtain ⟨jb, ph⟩ := act
  cases ph with
  | props n aw =>
    simp only []
    split
    · exact jobSync_same h ha hb
    · split
      · exact ⟨by ceq h, .inr ⟨rfl, rfl⟩⟩
      · split
        · exact ⟨by ceq h, .inl ⟨_, rfl, rfl⟩⟩
        · exact ⟨by ceq h, .inl ⟨_, rfl, rfl⟩⟩
  | expanding r => exact jobSync_same h ha hb
  | recording n => exact jobSync_same h ha hb

theorem expand_sync {a b : C} (h : CEq a b) {i j : Nat} {jb : Job Nat} {t : Nat} {r : List Nat}
    (ha : a.active[i]? = some ⟨jb, .expanding (t :: r)⟩) (hb : b.active[j]? = some ⟨jb, .expanding (t :: r)⟩) (f : Bool) :
    JobSync a b i j (stepExpand P i f a) (stepExpand P j f b) := by
  unfold stepExpand
  rw [ha, hb]
  simp only [h.gen]
  split
  · exact ⟨by ceq h, .inl ⟨_, rfl, rfl⟩⟩
  · exact ⟨by ceq h, .inl ⟨_, rfl, rfl⟩⟩

theorem record_sync {a b : C} (h : CEq a b) {i j : Nat} {jb : Job Nat} {n : Nat}
    (ha : a.active[i]? = some ⟨jb, .recording n⟩) (hb : b.active[j]? = some ⟨jb, .recording n⟩)
    (hn : n < P.props.length ∧ n ∈ jb.ebits) :
    JobSync a b i j (stepRecord P i a) (stepRecord P j b) := by
  unfold stepRecord
  rw [ha, hb]
  simp only [hn.1, hn.2, if_true]
  exact ⟨by ceq h, .inl ⟨_, rfl, rfl⟩⟩

theorem take_sync {a b : C} (h : CEq a b) (i : Nat) :
    CEq (stepTake P i a) (stepTake P i b) ∧
    ∃ r : Option A, (stepTake P i a).active = a.active ++ r.toList ∧ (stepTake P i b).active = b.active ++ r.toList := by
  unfold stepTake
  simp only [h.fr]
  split
  · exact ⟨h, none, (List.append_nil _).symm, (List.append_nil _).symm⟩
  · split
    · split
      · exact ⟨by ceq h, none, (List.append_nil _).symm, (List.append_nil _).symm⟩
      · exact ⟨by ceq h, some _, rfl, rfl⟩
    · exact ⟨by ceq h, some _, rfl, rfl⟩

theorem stopEnabled_ceq {a b : C} (h : CEq a b) (why : Why) : stopEnabled P why a = stopEnabled P why b := by
  unfold stopEnabled
  cases why <;> simp only [h.disc, h.cnt]

theorem allDiscovered_ceq {a b : C} (h : CEq a b) : allDiscovered P a = allDiscovered P b := by
  unfold allDiscovered
  rw [h.disc]

theorem dropList_sync : ∀ (cs : List Choice) {a b : C}, CEq a b → DropList cs → CEq (runFrom P a cs) (runFrom P b cs)
  | [], _, _, h, _ => h
  | c :: cs, _, _, h, hd => by
    rw [DropList, List.all_cons, Bool.and_eq_true] at hd
    refine dropList_sync cs ?_ hd.2
    cases c <;> cases hd.1
    · simp only [Checker.step, stepStop, stopEnabled_ceq h]
      split
      · ceq h
      · exact h
    · simp only [Checker.step, stepDropJob, allDiscovered_ceq h, h.st, h.fr]
      split
      · split
        · exact h
        · ceq h
      · exact h

variable (P)

/-- the step of `check_block` that has no log entry, if the job is at one: `none` = the job is at a logged step;
    `some none` = the worker is done with the job; `some (some a')` = the job goes on as `a'` -/
def silA (a : A) : Option (Option A) :=
  match a.phase with
  | .props n aw =>
    if n < P.props.length then none
    else some (if !aw then none
      else match P.M.succB a.job.st with
        | [] => some { job := a.job, phase := .recording 0 }
        | ss => some { job := a.job, phase := .expanding ss })
  | .expanding [] => some none
  | .expanding (_ :: _) => none
  | .recording n =>
    if n < P.props.length ∧ n ∈ a.job.ebits then none
    else some (if n < P.props.length then some { job := a.job, phase := .recording (n + 1) } else none)

def silC (a : A) (i : Nat) (fr : Bool) : Choice :=
  match a.phase with
  | .props _ _ => .finishProps i
  | .expanding _ => .expand i fr
  | .recording _ => .record i

variable {P}

def actAfter (l : List A) (i : Nat) : Option A → List A
  | none => l.eraseIdx i
  | some a' => l.set i a'

theorem ceq_ghost (a : C) (ac : List A) (dn : List Nat) (e : Bool) :
    CEq { a with active := ac, done := dn, early := e } a :=
  ⟨rfl, rfl, rfl, rfl, rfl, rfl, rfl⟩

theorem sil_step {a : C} {i : Nat} {act : A} {r : Option A} (ha : a.active[i]? = some act)
    (hs : silA P act = some r) (fr : Bool) :
    CEq (Checker.step P (silC act i fr) a) a ∧
    (Checker.step P (silC act i fr) a).active = actAfter a.active i r := by
  obtain ⟨jb, ph⟩ := act
  revert hs
  fun_cases silA P ⟨jb, ph⟩
  all_goals
    intro hs
    cases hs
  -- the three branches of `silA` with a step: end of the property loop, nothing left to expand, terminal-state loop
  next n aw e hn =>
    cases e
    simp only [silC, Checker.step, stepFinishProps, ha, if_neg hn]
    cases aw with
    | false => exact ⟨ceq_ghost a _ _ _, rfl⟩
    | true =>
      simp only [Bool.not_true, Bool.false_eq_true, if_false]
      cases P.M.succB jb.st <;> exact ⟨ceq_ghost a _ _ _, rfl⟩
  next e =>
    cases e
    simp only [silC, Checker.step, stepExpand, ha]
    exact ⟨ceq_ghost a _ _ _, rfl⟩
  next n e hn =>
    cases e
    simp only [silC, Checker.step, stepRecord, ha]
    split
    · rw [if_neg fun hb => hn ⟨‹_›, hb⟩]
      exact ⟨ceq_ghost a _ _ _, rfl⟩
    · exact ⟨ceq_ghost a _ _ _, rfl⟩

theorem evalProp_stutter {a : C} {i : Nat} {act : A} (ha : a.active[i]? = some act)
    (h : ∀ n aw, act.phase = .props n aw → ¬ n < P.props.length) (st : Bool) : stepEvalProp P i st a = a := by
  unfold stepEvalProp
  rw [ha]
  obtain ⟨jb, ph⟩ := act
  cases ph with
  | props n aw =>
    have := h n aw rfl
    simp only [List.getElem?_eq_none (Nat.le_of_not_lt this)]
  | expanding r => rfl
  | recording n => rfl

theorem finishProps_stutter {a : C} {i : Nat} {act : A} (ha : a.active[i]? = some act)
    (h : ∀ n aw, act.phase = .props n aw → n < P.props.length) : stepFinishProps P i a = a := by
  unfold stepFinishProps
  rw [ha]
  obtain ⟨jb, ph⟩ := act
  cases ph with
  | props n aw => simp only [h n aw rfl, if_true]
  | expanding r => rfl
  | recording n => rfl

theorem expand_stutter {a : C} {i : Nat} {act : A} (ha : a.active[i]? = some act)
    (h : ∀ r, act.phase ≠ .expanding r) (f : Bool) : stepExpand P i f a = a := by
  unfold stepExpand
  rw [ha]
  obtain ⟨jb, ph⟩ := act
  cases ph with
  | props n aw => rfl
  | expanding r => exact (h r rfl).elim
  | recording n => rfl

theorem record_stutter {a : C} {i : Nat} {act : A} (ha : a.active[i]? = some act)
    (h : ∀ n, act.phase ≠ .recording n) : stepRecord P i a = a := by
  unfold stepRecord
  rw [ha]
  obtain ⟨jb, ph⟩ := act
  cases ph with
  | props n aw => rfl
  | expanding r => rfl
  | recording n => exact (h n rfl).elim

theorem evalProp_stale {a : C} {i : Nat} {jb : Job Nat} {n : Nat} {aw : Bool}
    (ha : a.active[i]? = some { job := jb, phase := .props n aw }) (st : Bool) :
    stepEvalProp P i st a = stepEvalProp P i (st && hasDisc a.disc n) a := by
  unfold stepEvalProp
  rw [ha]
  cases h : hasDisc a.disc n <;> simp only [h, Bool.and_true, Bool.false_and]

variable (P)

/-- `Sil o o'`: the job `o'` is the job `o` after some steps without log entry (`none`: the worker has retired) -/
inductive Sil : Option A → Option A → Prop
  | refl (o : Option A) : Sil o o
  | step {a : A} {r o : Option A} : silA P a = some r → Sil r o → Sil (some a) o

/-- the job (if any) is at a logged step -/
def NF (o : Option A) : Prop := ∀ a, o = some a → silA P a = none

variable {P}

theorem sil_none {o : Option A} (h : Sil P none o) : o = none := by
  cases h
  rfl

theorem sil_of_nf {a : A} {o : Option A} (h : Sil P (some a) o) (hn : silA P a = none) : o = some a := by
  cases h with
  | refl => rfl
  | step h1 _ =>
    rw [hn] at h1
    cases h1

theorem sil_inv {a : A} {r o : Option A} (h : Sil P (some a) o) (hn : NF P o) (hs : silA P a = some r) :
    Sil P r o := by
  cases h with
  | refl =>
    rw [hn a rfl] at hs
    cases hs
  | step h1 h2 =>
    rw [hs] at h1
    cases h1
    exact h2

theorem sil_trans {o1 o2 o3 : Option A} (h : Sil P o1 o2) (h' : Sil P o2 o3) : Sil P o1 o3 := by
  induction h with
  | refl => exact h'
  | step h1 _ ih => exact .step h1 (ih h')

theorem nf_none : NF P none := fun _ h => by cases h

end SR.ReplayComplete.Full
