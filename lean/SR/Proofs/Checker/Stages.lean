import SR.Proofs.Checker.Sound
/-!
Invariants that say something of every job by the stage it is in — pending, with a worker (by phase), done — relative to
the discoveries, and something of every discovery.  A move keeps such an invariant if it is kept along the life of ONE
job (`Stages.Laws`): the list handling and the bystanders, for whom only the discoveries may have grown, are dealt with
once (`Stages.Laws.move`).  `VInv`, `EInv` and the forest invariant of `Forest.lean` are of this form.
-/
namespace SR.Checker
open SR

section
variable {σ κ α : Type} [DecidableEq κ]

structure Stages (F : Disc σ → Job σ → Prop) (A : Disc σ → Active σ → Prop) (D : Disc σ → σ → Prop)
    (E : Nat × List σ → Prop) (s : St σ κ) : Prop where
  fr : ∀ j ∈ s.frontier, F s.disc j
  ac : ∀ a ∈ s.active, A s.disc a
  done : ∀ u ∈ s.done, D s.disc u
  disc : ∀ e ∈ s.disc, E e

/-- `next`: an expanding worker has dealt with one successor (`Move.seen` uses the first half, `Move.fresh`, which queues
    the child, both); `retire`: the worker's last move (`Move.expanded`, `Move.recorded`).
    `work` and `retire` are told where the worker is, so that they may ask `SInv` about it. -/
structure Stages.Laws (P : Params σ κ α) (F : Disc σ → Job σ → Prop) (A : Disc σ → Active σ → Prop)
    (D : Disc σ → σ → Prop) (E : Nat × List σ → Prop) : Prop where
  mono : ∀ d i p, (∀ j, F d j → F (discInsert d i p) j) ∧ (∀ a, A d a → A (discInsert d i p) a) ∧
    ∀ u, D d u → D (discInsert d i p) u
  take : ∀ d j, F d j → A d ⟨j, .props 0 false⟩
  work : ∀ {s : St σ κ} {w c j ph d' a'}, SInv P s → ⟨j, ph⟩ ∈ s.active → A s.disc ⟨j, ph⟩ → (∀ e ∈ s.disc, E e) →
    Work P s.disc j w c ph d' a' → A d' a' ∧ ∀ e ∈ d', E e
  next : ∀ d j t rest, A d ⟨j, .expanding (t :: rest)⟩ →
    A d ⟨j, .expanding rest⟩ ∧ F d ⟨t, j.path ++ [t], j.ebits, j.depth + 1⟩
  retire : ∀ {s : St σ κ} {j ph}, SInv P s → ⟨j, ph⟩ ∈ s.active → A s.disc ⟨j, ph⟩ →
    ph = .expanding [] ∨ (∃ i, ph = .recording i ∧ P.props.length ≤ i) → D s.disc j.st

variable {P : Params σ κ α} {F : Disc σ → Job σ → Prop} {A : Disc σ → Active σ → Prop} {D : Disc σ → σ → Prop}
  {E : Nat × List σ → Prop}

theorem Stages.Laws.move (L : Stages.Laws P F A D E) {c : Choice} {s s' : St σ κ} (m : Move P s c s') (hs : SInv P s)
    (h : Stages F A D E s) : Stages F A D E s' := by
  cases m with
  | take hj =>
    exact ⟨forall_mem_eraseIdx _ h.fr, forall_mem_concat h.ac (L.take _ _ (h.fr _ (List.mem_of_getElem? hj))), h.done,
      h.disc⟩
  | tooDeep | dropJob => exact ⟨forall_mem_eraseIdx _ h.fr, h.ac, h.done, h.disc⟩
  | @work _ w j ph d' a' ha hw =>
    have ham := List.mem_of_getElem? ha
    obtain ⟨hA', hE'⟩ := L.work hs ham (h.ac _ ham) h.disc hw
    rcases hw.disc_eq with rfl | ⟨i, rfl⟩
    · exact ⟨h.fr, forall_mem_set w h.ac hA', h.done, hE'⟩
    · have hm := L.mono s.disc i j.path
      exact ⟨fun x hx => hm.1 x (h.fr x hx), forall_mem_set w (fun x hx => hm.2.1 x (h.ac x hx)) hA',
        fun u hu => hm.2.2 u (h.done u hu), hE'⟩
  | giveUp | abandon => exact ⟨h.fr, forall_mem_eraseIdx _ h.ac, h.done, h.disc⟩
  | expanded ha =>
    have ham := List.mem_of_getElem? ha
    exact ⟨h.fr, forall_mem_eraseIdx _ h.ac,
      List.forall_mem_cons.2 ⟨L.retire (s := s) hs ham (h.ac _ ham) (.inl rfl), h.done⟩, h.disc⟩
  | recorded ha hi =>
    have ham := List.mem_of_getElem? ha
    exact ⟨h.fr, forall_mem_eraseIdx _ h.ac,
      List.forall_mem_cons.2 ⟨L.retire (s := s) hs ham (h.ac _ ham) (.inr ⟨_, rfl, hi⟩), h.done⟩, h.disc⟩
  | @seen w _ j t rest ha =>
    exact ⟨h.fr, forall_mem_set w h.ac (L.next _ _ _ _ (h.ac _ (List.mem_of_getElem? ha))).1, h.done, h.disc⟩
  | @fresh w j t rest front ha =>
    obtain ⟨h1, h2⟩ := L.next _ _ _ _ (h.ac _ (List.mem_of_getElem? ha))
    exact ⟨forall_mem_enqueue front h.fr h2, forall_mem_set w h.ac h1, h.done, h.disc⟩
  | stop => exact ⟨h.fr, h.ac, h.done, h.disc⟩

theorem Stages.Laws.run (L : Stages.Laws P F A D E) (h0 : Stages F A D E (init P.M P.props P.key)) (cs : List Choice) :
    Stages F A D E (run P cs) :=
  run_cases h0 L.move cs

end
end SR.Checker
