import SR.Proofs.Checker.Sound
/-!
On a model with finitely many reachable states (listed in `R`, out-degree ≤ `D`) the measure `mu` is strictly decreased
by EVERY state-changing step, whatever the choice (`Move.mu_lt`).  So no schedule performs more than `mu init` such steps
(`effCount_bound`), and a non-quiescent state always has one (`progress`).  Together: a run that cannot be continued by a
state-changing step is quiescent, and `join` returns as soon as the workers are scheduled (the job market's
no-lost-wake-up theorem + OS fairness supply that part).
-/
namespace SR.Checker
open SR

section
variable {σ κ α : Type} [DecidableEq κ]
variable (P : Params σ κ α)

/-- not core `Fin`, which it hides inside `SR.Checker` -/
structure Fin (R : List σ) (D : Nat) : Prop where
  all : ∀ s, P.M.Reach s → s ∈ R
  deg : ∀ s ∈ R, (P.M.succB s).length ≤ D

/- The weights of `mu`: `Ec` exceeds what a worker can still take after the property loop (expanding ≤ `D + 1`,
   recording ≤ `Lp + 1`); `Bc`, a pending job, exceeds `Lp + 1 + Ec`, the worker that takes it; `Ac = Bc + 1`, a key
   that becomes generated, pays for the job it queues. -/
def Lp : Nat := P.props.length
def Ec (D : Nat) : Nat := D + Lp P + 2
def Bc (D : Nat) : Nat := Lp P + Ec P D + 3
def Ac (D : Nat) : Nat := Bc P D + 1

def remPhase (D : Nat) : Phase σ → Nat
  | .props i _ => (Lp P - i) + 1 + Ec P D
  | .expanding rest => rest.length + 1
  | .recording i => (Lp P - i) + 1

def remActive (D : Nat) (a : Active σ) : Nat := remPhase P D a.phase

def ungen (R : List σ) (g : List κ) : Nat := (R.filter (fun s => !g.contains (P.key s))).length

def mu (R : List σ) (D : Nat) (s : St σ κ) : Nat :=
  ungen P R s.gen * Ac P D + s.frontier.length * Bc P D + ((s.active.map (remActive P D)).sum) +
    (if s.stopped then 0 else 1)

/-- the enabled choice of worker 0, the one `schedNext` emits (`front`: dfs queues new jobs in front) -/
def w0choice (front : Bool) (a : Active σ) : Choice :=
  match a.phase with
  | .props i _ => if i < P.props.length then .evalProp 0 false else .finishProps 0
  | .expanding _ => .expand 0 front
  | .recording _ => .record 0

variable {P}

theorem ungen_le (R : List σ) (g : List κ) : ungen P R g ≤ R.length :=
  List.length_filter_le _ _

theorem ungen_append_lt {R : List σ} {g : List κ} {t : σ} (ht : t ∈ R) (hng : P.key t ∉ g) :
    ungen P R (g ++ [P.key t]) < ungen P R g := by
  have hsplit : R.filter (fun s => !(g ++ [P.key t]).contains (P.key s)) =
      (R.filter (fun s => !g.contains (P.key s))).filter (fun s => !decide (P.key s = P.key t)) := by
    rw [List.filter_filter]
    congr 1
    funext s
    simp [Bool.and_comm]
  unfold ungen
  rw [hsplit]
  exact List.length_filter_lt_length_iff_exists.2 ⟨t, List.mem_filter.2 ⟨ht, by simpa using hng⟩, by simp⟩

theorem remActive_pos (D : Nat) (a : Active σ) : 0 < remActive P D a := by
  unfold remActive remPhase
  split <;> omega

theorem mem_set_cases' {β : Type} {l : List β} {i : Nat} {b x : β} (h : x ∈ l.set i b) : x ∈ l ∨ x = b :=
  List.mem_or_eq_of_mem_set h

theorem Work.rem_lt {D : Nat} {d d' : List (Nat × List σ)} {j : Job σ} {w : Nat} {c : Choice} {ph : Phase σ}
    {a' : Active σ} (h : Work P d j w c ph d' a') (hd : (P.M.succB j.st).length ≤ D) :
    remActive P D a' < remPhase P D ph := by
  cases h with
  | skip hp | found hp | pass hp | evHolds hp | evFails hp =>
    have := lt_length_of_getElem? hp
    simp only [remActive, remPhase, Lp]
    omega
  | terminal | expand | record hi | noRecord hi =>
    simp only [remActive, remPhase, Ec, Lp] at hd ⊢
    omega

theorem Move.mu_lt_of {R : List σ} {D : Nat} {c : Choice} {s s' : St σ κ}
    (hD : ∀ a ∈ s.active, (P.M.succB a.job.st).length ≤ D)
    (hR : ∀ a ∈ s.active, ∀ t rest, a.phase = .expanding (t :: rest) → t ∈ R)
    (h : Move P s c s') : mu P R D s' < mu P R D s := by
  -- `hB`, and `hA` below, hold by `rfl`: they only tell `omega` the weights
  have hB : Bc P D = Lp P + Ec P D + 3 := rfl
  cases h with
  | take hj | tooDeep hj | dropJob _ hj =>
    have := length_eraseIdx_add_one (lt_length_of_getElem? hj)
    simp only [mu, List.map_append, List.sum_append, List.map_cons, List.map_nil, List.sum_cons, List.sum_nil,
      remActive, remPhase]
    rw [← this, Nat.succ_mul]
    omega
  | @work c w j ph d' a' ha hw =>
    have := sum_map_set (remActive P D) (a' := a') ha
    have := hw.rem_lt (hD _ (List.mem_of_getElem? ha))
    simp only [mu, remActive] at *
    omega
  | @seen w f j t rest ha =>
    have := sum_map_set (remActive P D) (a' := (⟨j, .expanding rest⟩ : Active σ)) ha
    simp only [mu, remActive, remPhase, List.length_cons] at *
    omega
  | giveUp ha | expanded ha | recorded ha | abandon _ ha =>
    exact Nat.add_lt_add_right (Nat.add_lt_add_left (Nat.lt_of_lt_of_eq (Nat.lt_add_of_pos_right (remActive_pos D _))
      (sum_map_eraseIdx (remActive P D) ha)) _) _
  | @fresh w j t rest front ha hg =>
    have hU := Nat.mul_le_mul_right (Ac P D) (Nat.succ_le_of_lt
      (ungen_append_lt (P := P) (hR _ (List.mem_of_getElem? ha) t rest rfl) hg))
    have := sum_map_set (remActive P D) (a' := (⟨j, .expanding rest⟩ : Active σ)) ha
    have hA : Ac P D = Bc P D + 1 := rfl
    rw [Nat.succ_mul] at hU
    cases front <;>
      simp only [mu, remActive, remPhase, List.length_cons, List.length_append, List.length_nil, Nat.succ_mul,
        Bool.false_eq_true, if_false, if_true] at * <;> omega
  | stop _ h0 =>
    simp only [mu, h0]
    exact Nat.add_lt_add_left (by decide) _

theorem Move.mu_lt {R : List σ} {D : Nat} (hfin : Fin P R D) {c : Choice} {s s' : St σ κ} (hs : SInv P s)
    (h : Move P s c s') : mu P R D s' < mu P R D s :=
  h.mu_lt_of (fun a ha => hfin.deg _ (hfin.all _ (hs.ac a ha).reach)) fun a ha t _ hph =>
    hfin.all _ (.step (hs.ac a ha).reach (hs.exp a ha _ hph t List.mem_cons_self))

/-- a move changes the state, finite model or not: it lowers `mu` taken with the successors pending in `s` for `R` and
    the largest out-degree among its workers for `D` -/
theorem Move.ne {c : Choice} {s s' : St σ κ} (h : Move P s c s') : s' ≠ s := fun e =>
  Nat.lt_irrefl _ (e ▸ h.mu_lt_of
    (R := s.active.flatMap fun a : Active σ => match a.phase with | .expanding r => r | _ => [])
    (foldl_max_ge (fun a : Active σ => (P.M.succB a.job.st).length) s.active 0).2
    fun a ha t rest hph => List.mem_flatMap.2 ⟨a, ha, by rw [hph]; exact List.mem_cons_self⟩)

theorem step_ne_iff {c : Choice} {s : St σ κ} : step P c s ≠ s ↔ Enabled P c s :=
  ⟨fun hne => ((step_spec c s).resolve_left fun h => hne h.2).1, fun h => h.move.ne⟩

theorem mu_step_lt {R : List σ} {D : Nat} (hfin : Fin P R D) (c : Choice) {s : St σ κ}
    (hs : SInv P s) (hne : step P c s ≠ s) : mu P R D (step P c s) < mu P R D s :=
  (step_ne_iff.1 hne).move.mu_lt hfin hs

/-- number of state-changing steps of a choice list (classically: a step either changes the state or not) -/
noncomputable def effCount (s : St σ κ) : List Choice → Nat
  | [] => 0
  | c :: cs => (if Classical.propDecidable (step P c s = s) |>.decide then 0 else 1) + effCount (step P c s) cs

theorem effCount_bound {R : List σ} {D : Nat} (hfin : Fin P R D) (s : St σ κ) (hs : SInv P s)
    (cs : List Choice) : effCount (P := P) s cs + mu P R D (runFrom P s cs) ≤ mu P R D s := by
  induction cs generalizing s with
  | nil => exact Nat.le_of_eq (Nat.zero_add _)
  | cons c cs ih =>
    have ih' := ih (step P c s) (sinv_step c hs)
    show effCount s (c :: cs) + mu P R D (runFrom P (step P c s) cs) ≤ _
    unfold effCount
    by_cases heq : step P c s = s
    · rw [heq] at ih' ⊢
      simpa [heq] using ih'
    · have := mu_step_lt hfin c hs heq
      simp only [heq, decide_false, Bool.false_eq_true, if_false]
      omega

/-- at the start at most `|R|` keys are still to be generated, there is one pending job per initial state at most, nobody
    works and nobody has stopped -/
theorem mu_init_le (P : Params σ κ α) (R : List σ) (D : Nat) :
    mu P R D (init P.M P.props P.key) ≤ (R.length + P.M.init.length) * Ac P D + 1 := by
  have hU := Nat.mul_le_mul_right (Ac P D) (ungen_le (P := P) R (init P.M P.props P.key).gen)
  have hF : (init P.M P.props P.key).frontier.length ≤ P.M.init.length := by
    simp only [init, List.length_map, List.length_reverse]
    exact List.length_filter_le _ _
  have hF := Nat.mul_le_mul hF (show Bc P D ≤ Ac P D from Nat.le_succ _)
  have hact : ((init P.M P.props P.key).active.map (remActive P D)).sum = 0 := rfl
  have hst : (if (init P.M P.props P.key).stopped = true then 0 else 1) = 1 := rfl
  rw [mu, hact, hst, Nat.add_mul]
  omega

theorem mu_runFrom_le {R : List σ} {D : Nat} (hfin : Fin P R D) {s : St σ κ} (hs : SInv P s) (cs : List Choice) :
    mu P R D (runFrom P s cs) ≤ mu P R D s :=
  Nat.le_trans (Nat.le_add_left _ _) (effCount_bound hfin s hs cs)

theorem mu_runFrom_cons_lt {R : List σ} {D : Nat} (hfin : Fin P R D) {s : St σ κ} (hs : SInv P s)
    {c : Choice} (hen : Enabled P c s) (cs : List Choice) : mu P R D (runFrom P s (c :: cs)) < mu P R D s :=
  Nat.lt_of_le_of_lt (mu_runFrom_le hfin (sinv_step c hs) cs) (hen.move.mu_lt hfin hs)

theorem w0_enabled (front : Bool) {s : St σ κ} {a : Active σ} (ha0 : s.active[0]? = some a) :
    Enabled P (w0choice P front a) s := by
  obtain ⟨j, ph⟩ := a
  cases ph with
  | props i aw =>
    by_cases hi : i < P.props.length
    · rw [show w0choice P front ⟨j, .props i aw⟩ = .evalProp 0 false from if_pos hi]
      exact ⟨j, i, aw, ha0, hi⟩
    · rw [show w0choice P front ⟨j, .props i aw⟩ = .finishProps 0 from if_neg hi]
      exact ⟨j, i, aw, ha0, hi⟩
  | expanding rest => exact ⟨j, rest, ha0⟩
  | recording i => exact ⟨j, i, ha0⟩

theorem take0_enabled {s : St σ κ} (h : s.frontier ≠ []) : Enabled P (.take 0) s := by
  cases hf : s.frontier with
  | nil => exact absurd hf h
  | cons j tl => exact ⟨j, by rw [hf]; rfl⟩

theorem enabled_of_not_quiescent {s : St σ κ} (hnq : ¬ Quiescent s) : ∃ c, Enabled P c s := by
  cases ha : s.active with
  | nil => exact ⟨.take 0, take0_enabled fun hf => hnq ⟨hf, ha⟩⟩
  | cons a rest => exact ⟨_, w0_enabled false (by rw [ha]; rfl)⟩

theorem progress (s : St σ κ) (hnq : ¬ Quiescent s) : ∃ c, step P c s ≠ s :=
  (enabled_of_not_quiescent hnq).imp fun _ h => h.move.ne

end
end SR.Checker
