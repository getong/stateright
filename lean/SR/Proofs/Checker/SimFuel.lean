import SR.Proofs.Checker.Sim
import SR.Proofs.Checker.Spec
/-!
`Sim.traceLoop` is a structural recursion on a fuel argument; `loopDone` (same arguments, same control flow) says whether
the loop has returned BY ITSELF (depth limit, boundary, loop found, nothing awaited, terminal state) rather than because
the fuel was used up.  A loop that is done returns the same result with every larger fuel (any model).  On a
well-formed explicit graph with `n` states it is done within `n + 1` iterations: the states pushed to the path have
pairwise distinct keys (the seen-set test), hence are distinct numbers `< n` — whatever the key function (symmetry:
representatives).

The number of TRACES (`traceLoop_count_mono` … `runTraces_count`) is a separate matter from the fuel: when there is an
initial state, all initial states are inside the boundary and the depth limit is not 0, every trace counts a state, so a
run of `n` traces counts `n` states unless a stop condition ends it.
-/
namespace SR.Checker.Sim
open SR SR.Checker

section
variable {σ κ α : Type} [DecidableEq κ] (P : Params σ κ α)

/-- `d`: the `g.disc` of `traceLoop` -/
def loopDone (orc : Nat → Nat → Bool) : Nat → σ → List σ → List κ → List Nat → List Nat → List (Nat × List σ) → Bool
  | 0, _, _, _, _, _, _ => false
  | f + 1, st, path, gen, eb, ans, d =>
    if depthHit P path.length then true
    else if !P.M.inB st then true
    else
      let path' := path ++ [st]
      if P.key st ∈ gen then true
      else
        let r := propLoop P.props st path' eb d (orc path.length)
        if !r.2.1 then true
        else
          match pickNext P.M st ((P.M.acts st).length + 1) (P.M.acts st) ans with
          | (none, _) => true
          | (some n, ans') => loopDone orc f n path' (P.key st :: gen) r.1 ans' r.2.2

def traceDone (fuel : Nat) (ans : List Nat) (g : G σ) (orc : Nat → Nat → Bool := fun _ _ => false) : Bool :=
  match P.M.init with
  | [] => true
  | is =>
    let (k, ans') := nextAnswer ans is.length
    match is[k]? with
    | none => true
    | some s => loopDone P orc fuel s [] [] (initEbits P.props) ans' g.disc

def runDone (fuel : Nat) : Nat → List Nat → G σ → Bool
  | 0, _, _ => true
  | n + 1, ans, g =>
    traceDone P fuel ans g &&
      (let r := trace P fuel ans g
       if stops P r.1 then true else runDone fuel n r.2 r.1)

variable {P}

theorem trace_eq (ans : List Nat) :
    (P.M.init = [] ∧ ∀ fuel g orc, trace P fuel ans g orc = (g, ans) ∧ traceDone P fuel ans g orc = true) ∨
    ∃ s ∈ P.M.init, ∃ ans', ∀ fuel g orc,
      trace P fuel ans g orc = traceLoop P orc fuel s [] [] (initEbits P.props) ans' g ∧
      traceDone P fuel ans g orc = loopDone P orc fuel s [] [] (initEbits P.props) ans' g.disc := by
  unfold trace traceDone
  cases hi : P.M.init with
  | nil => exact .inl ⟨rfl, fun _ _ _ => ⟨rfl, rfl⟩⟩
  | cons i0 is =>
    simp only
    cases hs : (i0 :: is)[(nextAnswer ans (i0 :: is).length).1]? with
    | none => exact absurd hs (getElem?_nextAnswer ans nofun)
    | some s => exact .inr ⟨s, List.mem_of_getElem? hs, _, fun _ _ _ => ⟨rfl, rfl⟩⟩

theorem runTraces_succ (f n : Nat) (ans : List Nat) (g : G σ) :
    runTraces P f (n + 1) ans g =
      if stops P (trace P f ans g).1 then (trace P f ans g).1
      else runTraces P f n (trace P f ans g).2 (trace P f ans g).1 := by
  simp only [runTraces, stops, Bool.or_eq_true]
  split
  · next h => rw [if_pos (.inl h)]
  · next h =>
    split
    · next h2 => rw [if_pos (.inr h2)]
    · next h2 => rw [if_neg (fun h' => h'.elim h h2)]

theorem traceLoop_stable (orc : Nat → Nat → Bool) (f : Nat) (st : σ) (path : List σ) (gen : List κ) (eb ans : List Nat)
    (g : G σ) (h : loopDone P orc f st path gen eb ans g.disc = true) (f' : Nat) (hf : f ≤ f') :
    traceLoop P orc f' st path gen eb ans g = traceLoop P orc f st path gen eb ans g := by
  -- the cases are the ways out of an iteration of `traceLoop`, numbered as in `Sim.traceLoop_ok`.  1 (no fuel): `loopDone` is
  -- `false`.  Otherwise `f'` is a successor too and under the tests of the case both sides take the same way out; 7 (a
  -- successor is chosen): `loopDone` is that of the rest of the loop
  fun_induction traceLoop P orc f st path gen eb ans g generalizing f'
  case case1 => cases h
  all_goals obtain ⟨f', rfl⟩ : ∃ k, f' = k + 1 := ⟨f' - 1, by omega⟩
  case case7 ih =>
    simp +zetaDelta only [loopDone, traceLoop, *, Bool.false_eq_true, ↓reduceIte] at h ⊢
    exact ih h f' (by omega)
  all_goals simp +zetaDelta only [traceLoop, *, Bool.false_eq_true, ↓reduceIte]

theorem trace_stable (f : Nat) (ans : List Nat) (g : G σ) (orc : Nat → Nat → Bool)
    (h : traceDone P f ans g orc = true) (f' : Nat) (hf : f ≤ f') : trace P f' ans g orc = trace P f ans g orc := by
  rcases trace_eq (P := P) ans with ⟨_, h0⟩ | ⟨s, _, ans', hs⟩
  · exact (h0 f' g orc).1.trans (h0 f g orc).1.symm
  · rw [(hs f' g orc).1, (hs f g orc).1]
    exact traceLoop_stable orc f _ _ _ _ _ g ((hs f g orc).2 ▸ h) f' hf

theorem runTraces_fuel_stable (f : Nat) (n : Nat) (ans : List Nat) (g : G σ)
    (h : runDone P f n ans g = true) (f' : Nat) (hf : f ≤ f') : runTraces P f' n ans g = runTraces P f n ans g := by
  induction n generalizing ans g with
  | zero => rfl
  | succ n ih =>
    unfold runDone at h
    simp only [Bool.and_eq_true] at h
    rw [runTraces_succ, runTraces_succ, trace_stable f ans g _ h.1 f' hf]
    split
    · rfl
    · next hs => exact ih _ _ (by simpa only [hs, Bool.false_eq_true, if_false] using h.2)

end

section
variable {κ : Type} [DecidableEq κ] {P : Params Nat κ Nat}

theorem loopDone_of_graph {g : Graph} (hwf : g.WF) (hM : P.M = g.toSys) (orc : Nat → Nat → Bool) (f : Nat)
    (st : Nat) (path : List Nat) (gen : List κ) (eb ans : List Nat) (d : List (Nat × List Nat))
    (hst : st < g.n) (hlt : ∀ s ∈ path, s < g.n) (hpw : path.Pairwise (fun a b => P.key a ≠ P.key b))
    (hgen : MSim.SeenOk P gen path) (hf : g.n + 1 ≤ f + path.length) :
    loopDone P orc f st path gen eb ans d = true := by
  -- case 1: no fuel left; case 7: a successor is chosen; in the other cases the loop returns by itself
  fun_induction loopDone P orc f st path gen eb ans d
  case case1 =>
    have := nodup_lt_length_le (hpw.imp fun h e => h (congrArg P.key e)) hlt
    omega
  case case7 path' hk r _ n ans' hpick ih =>
    refine ih (Graph.target_lt hwf (hM ▸ pickNext_some hpick)) (fun s hs => ?_) ?_
      (seenOk_push _ hgen) (by simp only [path', List.length_append, List.length_singleton]; omega)
    · rcases List.mem_append.1 hs with hs | hs
      · exact hlt s hs
      · exact List.mem_singleton.1 hs ▸ hst
    · rw [List.pairwise_append]
      exact ⟨hpw, List.pairwise_singleton _ _, fun a ha b hb e =>
        hk ((hgen _).2 ⟨a, ha, e.trans (congrArg P.key (List.mem_singleton.1 hb))⟩)⟩
  all_goals rfl

theorem traceDone_of_graph {g : Graph} (hwf : g.WF) (hM : P.M = g.toSys) (f : Nat) (hf : g.n + 1 ≤ f)
    (ans : List Nat) (G₀ : G Nat) (orc : Nat → Nat → Bool) : traceDone P f ans G₀ orc = true := by
  rcases trace_eq (P := P) ans with ⟨_, h0⟩ | ⟨s, hmem, ans', hs⟩
  · exact (h0 f G₀ orc).2
  · rw [(hs f G₀ orc).2]
    have hmem' : s ∈ g.toSys.init := hM ▸ hmem
    exact loopDone_of_graph hwf hM orc f s [] [] _ _ _ (hwf.1 s hmem') nofun .nil seenOk_nil hf

theorem runDone_of_graph {g : Graph} (hwf : g.WF) (hM : P.M = g.toSys) (f : Nat) (hf : g.n + 1 ≤ f) (n : Nat) :
    ∀ (ans : List Nat) (G₀ : G Nat), runDone P f n ans G₀ = true := by
  induction n with
  | zero =>
    intro _ _
    rfl
  | succ n ih =>
    intro ans G₀
    unfold runDone
    simp only [traceDone_of_graph hwf hM f hf, Bool.true_and]
    split
    · rfl
    · exact ih _ _

end

section
variable {σ κ α : Type} [DecidableEq κ] {P : Params σ κ α}

theorem traceLoop_count_mono (orc : Nat → Nat → Bool) (f : Nat) (st : σ) (path : List σ) (gen : List κ)
    (eb ans : List Nat) (g : G σ) : g.stateCount ≤ (traceLoop P orc f st path gen eb ans g).1.stateCount := by
  fun_induction traceLoop P orc f st path gen eb ans g
  -- no fuel, depth limit, outside the boundary, loop found: nothing is counted
  case case1 | case2 | case3 | case4 => exact Nat.le_refl _
  -- nothing awaited, no action left: the state was counted
  case case5 | case6 => exact Nat.le_succ _
  -- a successor is chosen
  case case7 ih => exact Nat.le_trans (Nat.le_succ _) ih

theorem traceLoop_counts (orc : Nat → Nat → Bool) (f : Nat) (st : σ) (path : List σ) (gen : List κ)
    (eb ans : List Nat) (g : G σ) (hd : depthHit P path.length = false) (hb : P.M.inB st = true)
    (hk : P.key st ∉ gen) :
    g.stateCount + 1 ≤ (traceLoop P orc (f + 1) st path gen eb ans g).1.stateCount := by
  simp only [traceLoop, hd, hb, hk, Bool.false_eq_true, if_false, Bool.not_true]
  split
  · exact Nat.le_refl _
  · split
    · exact Nat.le_refl _
    · refine Nat.le_trans ?_ (traceLoop_count_mono orc f ..)
      exact Nat.le_refl _

theorem trace_counts (hinit : P.M.init ≠ []) (hinB : ∀ s ∈ P.M.init, P.M.inB s = true)
    (hdepth : P.cfg.maxDepth ≠ some 0) (f : Nat) (ans : List Nat) (g : G σ) (orc : Nat → Nat → Bool) :
    g.stateCount + 1 ≤ (trace P (f + 1) ans g orc).1.stateCount := by
  rcases trace_eq (P := P) ans with ⟨h0, _⟩ | ⟨s, hmem, ans', hs⟩
  · exact absurd h0 hinit
  · rw [(hs (f + 1) g orc).1]
    refine traceLoop_counts orc f s [] [] _ _ g ?_ (hinB s hmem) nofun
    have := hdepth
    unfold depthHit
    split
    · next d hmd =>
      rw [hmd] at this
      have : d ≠ 0 := fun e => this (by rw [e])
      simp only [List.length_nil, decide_eq_false_iff_not]
      omega
    · rfl

theorem runTraces_count (hinit : P.M.init ≠ []) (hinB : ∀ s ∈ P.M.init, P.M.inB s = true)
    (hdepth : P.cfg.maxDepth ≠ some 0) (f : Nat) (n : Nat) : ∀ (ans : List Nat) (g : G σ),
    stops P (runTraces P (f + 1) n ans g) = true ∨ g.stateCount + n ≤ (runTraces P (f + 1) n ans g).stateCount := by
  induction n with
  | zero =>
    intro ans g
    exact .inr (Nat.le_refl _)
  | succ n ih =>
    intro ans g
    rw [runTraces_succ]
    split
    · next h => exact .inl h
    · rcases ih (trace P (f + 1) ans g).2 (trace P (f + 1) ans g).1 with h1 | h1
      · exact .inl h1
      · have := trace_counts hinit hinB hdepth f ans g (fun _ _ => false)
        exact .inr (by omega)

end
end SR.Checker.Sim
