import SR.Checker.MSimSched
import SR.Proofs.Checker.MSimStep
import SR.Proofs.Checker.SimFuel
/-!
ONE worker of the event machine `Checker/MSim.lean`, driven by the step list that the chooser's answers induce
(`Checker/MSimSched.lean`; the oracle for the colleagues is `fun _ _ => false`), IS the single-worker model
`Checker/Sim.lean`.  Each step inside a trace is taken by `runStrict_busy` (over `step_busy`) from an equation of
`busyStep` (`Proofs/Checker/MSimStep.lean`).  The lemmas `…_run` go up the structure of the step lists of
`Checker/MSimSched.lean`; each says that `runStrict` accepts the whole list and where it ends.  Of the fuel
(`Proofs/Checker/SimFuel.lean`) only `loopDone` / `traceDone` / `runDone` occur: a loop that is done leaves the worker `.ended`.
-/
namespace SR.Checker.MSim
open SR SR.Checker

-- `DecidableEq σ`, `DecidableEq κ`, needed by the machine, also reach the lemmas about lists
set_option linter.unusedSectionVars false
section
variable {σ κ α : Type} [DecidableEq σ] [DecidableEq κ] {P : Params σ κ α}

theorem runStrict_append (s : St σ κ) (a b : List (Step σ)) :
    runStrict P s (a ++ b) = (runStrict P s a).bind (fun s' => runStrict P s' b) := by
  induction a generalizing s with
  | nil => rfl
  | cons f fs ih =>
    simp only [List.cons_append, runStrict]
    cases step P f s with
    | none => rfl
    | some s' => exact ih s'

theorem runStrict_append_of {s s1 : St σ κ} {a b : List (Step σ)} {r : Option (St σ κ)}
    (h1 : runStrict P s a = some s1) (h2 : runStrict P s1 b = r) : runStrict P s (a ++ b) = r := by
  rw [runStrict_append, h1]
  exact h2

theorem runStrict_cons_of {s s1 : St σ κ} {f : Step σ} {fs : List (Step σ)} {r : Option (St σ κ)}
    (h1 : step P f s = some s1) (h2 : runStrict P s1 fs = r) : runStrict P s (f :: fs) = r := by
  rw [runStrict, h1]
  exact h2

theorem runFrom_of_runStrict {s s' : St σ κ} {fs : List (Step σ)} (h : runStrict P s fs = some s') :
    runFrom P s fs = s' := by
  fun_induction runStrict P s fs
  case case1 => exact Option.some.inj h
  case case2 => cases h  -- a step that is not enabled
  case case3 hs ih => simpa only [runFrom, hs] using ih h

/-- `W d c t = W1 d c (.busy t)`; `step_busy` speaks of `W`, every later statement of `W1`, which also covers a worker
    outside a trace -/
def W (d : List (Nat × List σ)) (c : Nat) (t : Tr σ κ) : St σ κ :=
  { disc := d, stateCount := c, shutdown := false, ws := [.busy t] }

def W1 (d : List (Nat × List σ)) (c : Nat) (x : WSt σ κ) : St σ κ :=
  { disc := d, stateCount := c, shutdown := false, ws := [x] }

theorem step_busy (f : Step σ) (hw : f.worker = 0) (d : List (Nat × List σ)) (c : Nat) (t : Tr σ κ) (e : Eff σ κ)
    (h : busyStep P f false d t = some e) :
    step P f (W d c t) = some (W1 (match e.ins with | some (i, p) => discInsert d i p | none => d)
      (if e.cnt then c + 1 else c) e.w') := by
  simp only [step, effOf, W, hw, List.getElem?_cons_zero, h, applyEff, W1, List.set_cons_zero]
  rcases e with ⟨w', _ | ⟨i, p⟩, cnt⟩
  · rfl
  · rfl

theorem runStrict_busy {f : Step σ} {fs : List (Step σ)} {d : List (Nat × List σ)} {c : Nat} {t : Tr σ κ} {e : Eff σ κ}
    {r : Option (St σ κ)} (hw : f.worker = 0) (h : busyStep P f false d t = some e)
    (hr : runStrict P (W1 (match e.ins with | some (i, p) => discInsert d i p | none => d)
      (if e.cnt then c + 1 else c) e.w') fs = r) :
    runStrict P (W1 d c (.busy t)) (f :: fs) = r :=
  runStrict_cons_of (step_busy f hw d c t e h) hr

theorem nodup_propStep {props : List (Prop' σ)} {st : σ} {path : List σ} {o : Nat → Bool}
    {acc : List Nat × Bool × List (Nat × List σ)} {i : Nat} (h : acc.1.Nodup) :
    (Sim.propStep props st path o acc i).1.Nodup := by
  unfold Sim.propStep
  repeat' split
  all_goals first
    | exact h
    | exact h.erase _

/-- `erase` (`Sim.propStep`) and `filter` (`busyStep`) agree on a list without duplicates -/
theorem prop_one {t : Tr σ κ} {k : Nat} (hph : t.ph = .props k) (hk : k < P.props.length) (hnd : t.ebits.Nodup)
    (d : List (Nat × List σ)) (c : Nat) (r : List Nat × Bool × List (Nat × List σ))
    (hr : Sim.propStep P.props t.cur t.path (fun _ => false) (t.ebits, t.awaiting, d) k = r) :
    runStrict P (W1 d c (.busy t)) (if hasDisc d k then [.evalProp 0 k] else [.evalProp 0 k, .applyProp 0 k]) =
    some (W1 r.2.2 c (.busy { t with ebits := r.1, awaiting := r.2.1, ph := .props (k + 1) })) := by
  subst hr
  have hp : P.props[k]? = some P.props[k] := List.getElem?_eq_getElem hk
  by_cases hh : hasDisc d k = true
  · rw [if_pos hh]
    refine runStrict_busy rfl (busyStep_evalProp_hit hph hk hh) ?_
    simp only [Sim.propStep, hp, hh, Bool.true_or, if_true, hnd.erase_eq_filter]
    rfl
  · have hh' : hasDisc d k = false := by simpa using hh
    rw [if_neg hh]
    refine runStrict_busy rfl (busyStep_evalProp_miss hph hk hh') ?_
    have hb := busyStep_applyProp (P := P) (w := 0) (sd := false) (d := d) (t := { t with ph := .decide k }) rfl hp
    cases hexp : (P.props[k]).exp
    all_goals cases hc : (P.props[k]).cond t.cur
    all_goals simp only [hexp, hc, Bool.not_false, Bool.not_true, if_true, if_false, Bool.false_eq_true] at hb
    all_goals refine runStrict_busy rfl hb ?_
    all_goals simp only [Sim.propStep, hp, hh', hexp, hc, Bool.or_false, Bool.not_false, Bool.not_true, if_true,
      if_false, Bool.false_eq_true, hnd.erase_eq_filter]
    all_goals rfl

theorem props_run (c : Nat) : ∀ (m k : Nat) (t : Tr σ κ) (d : List (Nat × List σ)), t.ph = .props k →
    k + m = P.props.length → t.ebits.Nodup → ∀ r,
    (List.range' k m).foldl (Sim.propStep P.props t.cur t.path (fun _ => false)) (t.ebits, t.awaiting, d) = r →
    runStrict P (W1 d c (.busy t)) (propSteps P 0 t.cur t.path (List.range' k m) (t.ebits, t.awaiting, d)) =
    some (W1 r.2.2 c (.busy { t with ebits := r.1, awaiting := r.2.1, ph := .props P.props.length })) := by
  intro m
  induction m with
  | zero =>
    intro k t d hph hk _ r hr
    cases hk
    cases hr
    rw [← hph]
    rfl
  | succ m ih =>
    intro k t d hph hkm hnd r hr
    simp only [List.range'_succ, propSteps, List.foldl_cons] at hr ⊢
    exact runStrict_append_of (prop_one hph (by omega) hnd d c _ rfl)
      (ih (k + 1) _ _ rfl (by omega) (nodup_propStep hnd) r hr)

theorem rec_run (c : Nat) : ∀ (m k : Nat) (t : Tr σ κ) (d : List (Nat × List σ)), t.ph = .record k →
    k + m = P.props.length →
    runStrict P (W1 d c (.busy t)) ((List.range' k m).map (Step.recordOne 0)) =
    some (W1 ((List.range' k m).foldl (fun d i => if i ∈ t.ebits then discInsert d i t.path else d) d) c
      (.busy { t with ph := .record P.props.length })) := by
  intro m
  induction m with
  | zero =>
    intro k t d hph hk
    cases hk
    rw [← hph]
    rfl
  | succ m ih =>
    intro k t d hph hkm
    simp only [List.range'_succ, List.map_cons, List.foldl_cons]
    refine runStrict_busy rfl (busyStep_recordOne hph (by omega)) ?_
    have := ih (k + 1) { t with ph := .record (k + 1) } (if k ∈ t.ebits then discInsert d k t.path else d) rfl
      (by omega)
    split at this
    · next hmem =>
      simp only [hmem, if_true]
      exact this
    · next hmem =>
      simp only [hmem, if_false]
      exact this

theorem recSteps_run {t : Tr σ κ} (hph : t.ph = .record 0) (d : List (Nat × List σ)) (c : Nat) :
    runStrict P (W1 d c (.busy t)) (recSteps P 0) = some (W1 (Sim.recordAll P.props t.ebits t.path d) c .ended) := by
  unfold recSteps Sim.recordAll
  rw [List.range_eq_range']
  exact runStrict_append_of (rec_run c P.props.length 0 t d hph (Nat.zero_add _))
    (runStrict_busy rfl (busyStep_endTrace rfl (Nat.lt_irrefl _)) rfl)

theorem nodup_propLoop {props : List (Prop' σ)} {st : σ} {path : List σ} {eb : List Nat} {d : List (Nat × List σ)}
    (h : eb.Nodup) : (Sim.propLoop props st path eb d).1.Nodup :=
  foldl_range_inv (fun _ (acc : List Nat × Bool × List (Nat × List σ)) => acc.1.Nodup) _ _ _ h
    fun _ _ _ h => nodup_propStep h

/-- `x`: where the worker stands when the list is used up — `.ended` if the loop returned by itself, else (fuel used up)
    still inside the trace, about which nothing is said -/
theorem loop_run (f : Nat) : ∀ (t : Tr σ κ) (ans : List Nat) (g : Sim.G σ), t.ph = .top → t.ebits.Nodup →
    ∃ x, runStrict P (W1 g.disc g.stateCount (.busy t)) (loopSteps P 0 f t.cur t.path t.seen t.ebits ans g.disc) =
        some (W1 (Sim.traceLoop P (fun _ _ => false) f t.cur t.path t.seen t.ebits ans g).1.disc
                 (Sim.traceLoop P (fun _ _ => false) f t.cur t.path t.seen t.ebits ans g).1.stateCount x) ∧
      (Sim.loopDone P (fun _ _ => false) f t.cur t.path t.seen t.ebits ans g.disc = true → x = .ended) := by
  induction f with
  | zero =>
    intro t ans g _ _
    exact ⟨_, rfl, nofun⟩
  | succ f ih =>
    intro t ans g hph hnd
    rcases enterOut_cases (P := P) t with ⟨hd, ho⟩ | ⟨hd, ⟨hb, ho⟩ | ⟨hb, ⟨hk, ho⟩ | ⟨hk, ho⟩⟩⟩
    · simp only [loopSteps, Sim.traceLoop, hd, if_true]
      exact ⟨.ended, runStrict_busy rfl (busyStep_enter_end hph (.inl ho)) rfl, fun _ => rfl⟩
    · simp only [loopSteps, Sim.traceLoop, hd, hb, Bool.false_eq_true, if_false, Bool.not_false, if_true]
      exact ⟨.ended, runStrict_busy rfl (busyStep_enter_end hph (.inr ho)) rfl, fun _ => rfl⟩
    · simp only [loopSteps, Sim.traceLoop, hd, hb, hk, if_true, if_false, Bool.false_eq_true, Bool.not_true]
      exact ⟨.ended, runStrict_busy rfl (busyStep_enter_loop hph ho) (recSteps_run rfl ..), fun _ => rfl⟩
    -- `counted fs r' h`: `enter` (the state is counted) and the property loop, then the run `h` of the remaining steps
    -- `fs`, ending in `r'`
    have counted := fun fs r' h => runStrict_busy (P := P) (fs := _ ++ fs) (c := g.stateCount) (r := r') rfl
      (busyStep_enter_counted hph ho)
      (runStrict_append_of (props_run _ P.props.length 0
        { t with path := t.path ++ [t.cur], seen := P.key t.cur :: t.seen, awaiting := false, ph := .props 0 } g.disc rfl
        (Nat.zero_add _) hnd (Sim.propLoop P.props t.cur (t.path ++ [t.cur]) t.ebits g.disc)
        (by rw [← List.range_eq_range']; rfl)) h)
    have hndr := nodup_propLoop (props := P.props) (st := t.cur) (path := t.path ++ [t.cur]) (d := g.disc) hnd
    rw [← List.range_eq_range'] at counted
    simp only [loopSteps, Sim.traceLoop, Sim.loopDone, hd, hb, hk, if_false, Bool.false_eq_true, Bool.not_true]
    generalize Sim.propLoop P.props t.cur (t.path ++ [t.cur]) t.ebits g.disc = r at counted hndr ⊢
    cases ha : r.2.1 with
    | false =>
      exact ⟨.ended, counted _ _ (runStrict_busy rfl (busyStep_finishProps_end rfl (Nat.lt_irrefl _) ha) rfl),
        fun _ => rfl⟩
    | true =>
      cases hpick : Sim.pickNext P.M t.cur ((P.M.acts t.cur).length + 1) (P.M.acts t.cur) ans with
      | mk o ans' =>
        cases o with
        | none =>
          simp only [Bool.not_true, Bool.false_eq_true, if_false]
          exact ⟨.ended, counted _ _ (runStrict_busy rfl (busyStep_finishProps_go rfl (Nat.lt_irrefl _) ha)
            (runStrict_busy rfl (busyStep_terminal rfl (Sim.pickNext_none hpick)) (recSteps_run rfl ..))), fun _ => rfl⟩
        | some n =>
          simp only [Bool.not_true, Bool.false_eq_true, if_false]
          obtain ⟨x, hx1, hx2⟩ := ih
            { cur := n, path := t.path ++ [t.cur], seen := P.key t.cur :: t.seen, ebits := r.1, awaiting := r.2.1,
              ph := .top } ans'
            { g with maxDepth := max g.maxDepth t.path.length, stateCount := g.stateCount + 1,
                     visits := (t.path ++ [t.cur]) :: g.visits, disc := r.2.2 } rfl hndr
          exact ⟨x, counted _ _ (runStrict_busy rfl (busyStep_finishProps_go rfl (Nat.lt_irrefl _) ha)
            (runStrict_busy rfl (busyStep_advance rfl (Sim.pickNext_some hpick)) hx1)), hx2⟩

theorem step_start (d : List (Nat × List σ)) (c : Nat) (x : σ) (hx : x ∈ P.M.init) :
    step P (.start 0 x) (W1 d c .idle) = some (W1 d c (.busy (newTrace P x))) := by
  simp only [step, effOf, W1, Step.worker, List.getElem?_cons_zero, hx, if_true, List.set_cons_zero]

theorem trace_run (fuel : Nat) (ans : List Nat) (g : Sim.G σ) :
    ∃ x, runStrict P (W1 g.disc g.stateCount .idle) (stepsOfTrace P 0 fuel ans g.disc) =
        some (W1 (Sim.trace P fuel ans g).1.disc (Sim.trace P fuel ans g).1.stateCount x) ∧
      (P.M.init ≠ [] → Sim.traceDone P fuel ans g = true → x = .ended) := by
  unfold stepsOfTrace Sim.trace Sim.traceDone
  cases hi : P.M.init with
  | nil => exact ⟨.idle, rfl, fun h => absurd rfl h⟩
  | cons i0 is =>
    simp only
    cases hs : (i0 :: is)[(Sim.nextAnswer ans (i0 :: is).length).1]? with
    | none => exact absurd hs (Sim.getElem?_nextAnswer ans nofun)
    | some s =>
      obtain ⟨x, hx1, hx2⟩ := loop_run (P := P) fuel (newTrace P s) (Sim.nextAnswer ans (i0 :: is).length).2 g rfl
        (initEbits_nodup _)
      exact ⟨x, runStrict_cons_of (step_start _ _ _ (hi ▸ List.mem_of_getElem? hs)) hx1, fun _ h => hx2 h⟩

theorem step_cont (d : List (Nat × List σ)) (c : Nat) (h : goesOn P (W1 d c .ended) = true) :
    step P (.cont 0) (W1 d c .ended) = some (W1 d c .idle) := by
  simp only [step, effOf, Step.worker, W1, List.getElem?_cons_zero] at h ⊢
  simp only [h, if_true, List.set_cons_zero]

theorem step_leave_finish (d : List (Nat × List σ)) (c : Nat) (h : P.finishMatches (discNames d) = true) :
    step P (.leave 0 .finish) (W1 d c .ended) = some (W1 d c .left) := by
  simp only [step, effOf, W1, Step.worker, List.getElem?_cons_zero, h, if_true, List.set_cons_zero]

theorem step_leave_target (d : List (Nat × List σ)) (c : Nat) (h1 : P.finishMatches (discNames d) = false)
    (h2 : Sim.targetHit P c = true) :
    step P (.leave 0 .target) (W1 d c .ended) = some (W1 d c .left) := by
  simp only [step, effOf, W1, Step.worker, List.getElem?_cons_zero, h1, h2, Bool.not_false, Bool.and_self, if_true,
    List.set_cons_zero]

/-- Both hypotheses are there for the `cont` / `leave` step after a trace, which needs the worker `.ended`: without an
    initial state `stepsOfTrace` is empty and the worker is still `.idle`; after a trace that ran out of fuel it is
    still `.busy` (`trace_run`). -/
theorem run_run (hinit : P.M.init ≠ []) (fuel : Nat) (n : Nat) : ∀ (ans : List Nat) (g : Sim.G σ),
    Sim.runDone P fuel n ans g = true →
    ∃ x, runStrict P (W1 g.disc g.stateCount .idle) (stepsOfRun P 0 fuel n ans g) =
        some (W1 (Sim.runTraces P fuel n ans g).disc (Sim.runTraces P fuel n ans g).stateCount x) ∧
      (x = .left ∨ x = .idle) := by
  induction n with
  | zero =>
    intro ans g _
    exact ⟨.idle, rfl, Or.inr rfl⟩
  | succ n ih =>
    intro ans g hdone
    unfold Sim.runDone at hdone
    simp only [Bool.and_eq_true] at hdone
    obtain ⟨hd1, hd2⟩ := hdone
    obtain ⟨x, hx1, hx2⟩ := trace_run (P := P) fuel ans g
    cases hx2 hinit hd1
    unfold stepsOfRun Sim.runTraces
    by_cases hf : P.finishMatches (discNames (Sim.trace P fuel ans g).1.disc) = true
    · simp only [hf, if_true]
      exact ⟨.left, runStrict_append_of hx1 (runStrict_cons_of (step_leave_finish _ _ hf) rfl), Or.inl rfl⟩
    · have hf' : P.finishMatches (discNames (Sim.trace P fuel ans g).1.disc) = false := by simpa using hf
      by_cases ht : Sim.targetHit P (Sim.trace P fuel ans g).1.stateCount = true
      · simp only [hf', ht, if_true, if_false, Bool.false_eq_true]
        exact ⟨.left, runStrict_append_of hx1 (runStrict_cons_of (step_leave_target _ _ hf' ht) rfl), Or.inl rfl⟩
      · have ht' : Sim.targetHit P (Sim.trace P fuel ans g).1.stateCount = false := by simpa using ht
        simp only [Sim.stops, hf', ht', Bool.or_self, Bool.false_eq_true, if_false] at hd2 ⊢
        obtain ⟨y, hy1, hy2⟩ := ih (Sim.trace P fuel ans g).2 (Sim.trace P fuel ans g).1 hd2
        have hgo : goesOn P (W1 (Sim.trace P fuel ans g).1.disc (Sim.trace P fuel ans g).1.stateCount .ended) = true := by
          simp only [goesOn, W1, hf', ht', Bool.not_false, Bool.and_self]
        exact ⟨y, runStrict_append_of hx1 (runStrict_cons_of (step_cont _ _ hgo) hy1), hy2⟩
end
end SR.Checker.MSim
