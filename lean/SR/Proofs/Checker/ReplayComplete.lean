import SR.Proofs.Checker.FullRun
import SR.Proofs.Checker.ReplaySteps
/-!
# Completeness of the trace validator `tv` over the product `Checker/Full.lean` (bfs.rs, dfs.rs)

Soundness (`isRun_replay` of `FullReplay.lean`): an accepted trace is a run of the product.  Here the converse: the log the
hooks write for a run of the product (`entries` per step, `record` per run — not the product's step `record`) is accepted.

Some steps have no entry (`silA`: `finishProps`, retiring, terminal-state iterations whose bit is not set); the replay fills
them in EAGERLY (`advance`), so it is AHEAD of the machine.  `Rel x s`: the same market up to the notification flags of
waiting workers (`MEq`: which waiter a `notify_one` woke is not in the log, the replay notifies the first ones, and only the
admissibility of a pick depends on the flags), the same shared machine state (`CEq`), and every worker's job in the replay is
its job in the machine moved on to its next logged step (`Sil`, `NF`).  One lemma per kind of step: its entries are
`Accepts`-ed; for `split` / `stop` / `exit`, which consume bookkeeping entries (`TR_SPLIT_PIECE`, `TR_STOP`), that holds of the
LAST entry (`_core`) when the bookkeeping collected is what the step consumes (`bookOk`).
-/


namespace SR.ReplayComplete.Full
open SR SR.Checker SR.Market SR.Full SR.Drv.Full

variable (P : Params Nat Nat Nat)

/-- `x` is the replay, `s` the machine -/
structure Rel (x s : X) : Prop where
  m : MEq x.m s.m
  ft : x.ft = s.ft
  c : CEq x.c s.c
  act : ∀ w, Sil P (activeOf s w) (activeOf x w) ∧ NF P (activeOf x w)
  ix : FInv x
  is : FInv s
  /-- holds along every run of the machine (`discNodup_step`) and is no part of `FInv`; `complete_evalProp` needs it -/
  dn : (discNames s.c.disc).Nodup

variable {P}

theorem rel_refl {s : X} (inv : FInv s) (hd : (discNames s.c.disc).Nodup) (hnf : ∀ w, NF P (activeOf s w)) :
    Rel P s s :=
  ⟨MEq.refl _, rfl, CEq.refl _, fun w => ⟨.refl _, hnf w⟩, inv, inv, hd⟩

theorem rel_not_mem {x s : X} (h : Rel P x s) {w : Nat} (hw : w ∉ s.aw) : w ∉ x.aw := by
  have h1 := (activeOf_none_iff h.is w).2 hw
  have h2 := (h.act w).1
  rw [h1] at h2
  exact (activeOf_none_iff h.ix w).1 (sil_none h2)

theorem rel_advance_id {x s : X} (h : Rel P x s) (w : Nat) : advance P x w (fuelOf P) = .ok x :=
  advance_nf (h.act w).2 _

theorem rel_same {x s : X} (h : Rel P x s) {w : Nat} {act : A} (hs : activeOf s w = some act)
    (hn : silA P act = none) : activeOf x w = some act := by
  have := (h.act w).1
  rw [hs] at this
  exact sil_of_nf this hn

section
variable {x s x' s' : X} {f g : FStep} {m2 : List Step} {c2 : List Choice}

theorem rel_step (h : Rel P x s) (hx : stepE P x f = .ok x') (hs : fstep P s g = some (s', m2, c2)) {w : Nat}
    {r : Option A} (ux : Upd x x' w r) (us : Upd s s' w r) (hm : MEq x'.m s'.m) (hft : x'.ft = s'.ft)
    (hc : CEq x'.c s'.c) : ∃ x2, advance P x' w (fuelOf P) = .ok x2 ∧ Rel P x2 s' := by
  obtain ⟨x2, ha, a⟩ := advance_spec w (fuelOf P) x' (finv_stepE h.ix hx) (muO_le_fuel _)
  refine ⟨x2, ha, a.m ▸ hm, a.ft.trans hft, a.c.trans hc, fun v => ?_, a.inv, finv_step h.is hs, fstep_discNodup hs h.dn⟩
  by_cases hv : v = w
  · subst hv
    rw [us.self, ← ux.self]
    exact ⟨a.sil, a.nf⟩
  · rw [a.other v hv, ux.other v hv, us.other v hv]
    exact h.act v

theorem rel_gone (h : Rel P x s) (hx : stepE P x f = .ok x') (hs : fstep P s g = some (s', m2, c2)) {w : Nat}
    (ux : Upd x x' w none) (us : Upd s s' w none) (hm : MEq x'.m s'.m) (hft : x'.ft = s'.ft) (hc : CEq x'.c s'.c) :
    Rel P x' s' := by
  obtain ⟨x2, ha, hr⟩ := rel_step h hx hs ux us hm hft hc
  rw [advance_nf (ux.self ▸ nf_none)] at ha
  cases ha
  exact hr

theorem rel_xDrop (h : Rel P x s) {mx m' : MState} (hm : MEq mx m') {pre : List Choice} (gone : List Tok)
    (hx : stepE P x f = .ok (xDrop P x mx pre gone x.aw))
    (hs : fstep P s g = some (xDrop P s m' pre gone s.aw, m2, c2)) (hd : DropList pre) :
    Rel P (xDrop P x mx pre gone x.aw) (xDrop P s m' pre gone s.aw) := by
  have hdl := dropList_append hd (dropToks_dropList gone s.ft)
  unfold xDrop at hx hs ⊢
  rw [h.ft] at hx ⊢
  exact ⟨hm, rfl, dropList_sync _ h.c hdl,
    fun w => by simp only [activeOf, runFrom_dropList_active P _ _ hdl]; exact h.act w,
    finv_stepE h.ix hx, finv_step h.is hs, fstep_discNodup hs h.dn⟩

theorem complete_sil (h : Rel P x s) (hs : fstep P s f = some (s', m2, c2)) {w : Nat} {act : A} {r : Option A}
    (hsw : activeOf s w = some act) (hsil : silA P act = some r) (hf : IsSilF act w f) : Rel P x s' := by
  obtain ⟨s'', cs', hfs, hm, hft, hc, hu⟩ := fstep_sil h.is hsw hsil hf
  obtain ⟨rfl, -, -⟩ : s'' = s' ∧ _ := by simpa only [hfs, Option.some.injEq, Prod.mk.injEq] using hs
  refine ⟨hm ▸ h.m, h.ft.trans hft.symm, h.c.trans hc.symm, fun v => ?_, h.ix, finv_step h.is hfs, hc.disc ▸ h.dn⟩
  by_cases hv : v = w
  · subst hv
    have := h.act v
    rw [hsw] at this
    rw [hu.self]
    exact ⟨sil_inv this.1 this.2 hsil, this.2⟩
  · rw [hu.other v hv]
    exact h.act v

end

/-! The entry kinds are the `TR_*` constants of src/verif.rs: 1 `TR_POP_GOT`, 2 `TR_POP_EMPTY`, 3 `TR_POP_PARK`, 7 `TR_SPLIT`,
8 `TR_SPLIT_PIECE`, 9 `TR_SPLIT_CLOSED`, 10 `TR_DROP`, 11 `TR_TIMEOUT`, 20 `TR_TAKE`, 21 `TR_PROP`, 22 `TR_EXPAND`,
23 `TR_RECORD`, 24 `TR_STOP`; what `a` and `b` carry is said there. -/

variable (P)

/-- the entry (`TR_POP_GOT` / `_EMPTY` / `_PARK`) for what the `pop` returned whose first / later critical section is `m` -/
def popEntry (s : X) (w : Nat) (m : Step) (woke : Nat) : List Ev :=
  match (Market.stepR s.m m).bind (·.2) with
  | some (.got b) => [⟨w, 1, b.length, woke⟩]
  | some .empty => [⟨w, 2, if s.m.isOpen then 0 else 1, woke⟩]
  | some .park => [⟨w, 3, 0, woke⟩]
  | none => []

def inserts (n : Nat) (jb : Job Nat) : Bool :=
  match P.props[n]? with
  | some p =>
    match p.exp with
    | .always => !p.cond jb.st
    | .sometimes => p.cond jb.st
    | .eventually => false
  | none => false

/-- The entries the hooks write when the product takes the enabled step `f` from `s` to `s'`; none for the steps without
    entry and for the steps that do nothing.  `notw` is the index the harness gives to threads that are not workers. -/
def entries (notw : Nat) (s : X) (f : FStep) (s' : X) : List Ev :=
  match f with
  | .pop w => popEntry s w (.popBegin w) 0
  | .wake w => popEntry s w (.wake w) 1
  | .split w _ =>
    if s.m.isOpen then
      ((s'.m.batches.take (s'.m.batches.length - s.m.batches.length)).reverse.map fun b => (⟨w, 8, b.length, 0⟩ : Ev)) ++
        [⟨w, 7, (locOf s.m w).length, (locOf s'.m w).length⟩]
    else [⟨w, 9, (locOf s.m w).length, 0⟩]
  | .take w p =>
    match (locOf s.m w)[p]? with
    | some t =>
      match jobOfTok s t with
      | some j => [⟨w, 20, j.st, j.depth⟩]
      | none => []
    | none => []
  | .discard _ _ => []
  | .evalProp w stale =>
    match activeOf s w with
    | some { job := jb, phase := .props n _ } =>
      if n < P.props.length then
        [⟨w, 21, n, if hasDisc s.c.disc n && !stale then 0 else if inserts P n jb then 1 else 2⟩]
      else []
    | _ => []
  | .finishProps _ => []
  | .expand w _ _ _ =>
    match activeOf s w with
    | some { job := _, phase := .expanding (t :: _) } => [⟨w, 22, P.key t, if s.c.gen.contains (P.key t) then 0 else 1⟩]
    | _ => []
  | .record w =>
    match activeOf s w with
    | some { job := jb, phase := .recording n } => if n < P.props.length ∧ n ∈ jb.ebits then [⟨w, 23, n, 0⟩] else []
    | _ => []
  | .stop w .finish => [⟨w, 24, 1, 0⟩, ⟨w, 10, 0, 0⟩]
  | .stop w .target => [⟨w, 24, 2, 0⟩, ⟨w, 10, 0, 0⟩]
  | .stop w _ => [⟨w, 10, 0, 0⟩]
  | .exit w => [⟨w, 24, 4, 0⟩, ⟨w, 10, 0, 0⟩]
  | .timeout => [⟨notw, 11, 0, 0⟩]
  | .xdrop => [⟨notw, 10, 0, 0⟩]

/-- `disc` for DISCIPLINE (not the discoveries map `St.disc`): what bfs.rs (`dfs = false`) / dfs.rs do where the product allows
    more: `pop_back`; a new job gets the next token and goes to the front (bfs) / back (dfs); no `discard` step (every
    `pop_back` is a `take`; jobs die untaken only with the whole deque: closed-market `split`, `stop`, `exit`); no worker
    leaves "for the timeout" (the timeout thread closes the market) -/
def disc (dfs : Bool) (s : X) : FStep → Bool
  | .take w p => p + 1 == (locOf s.m w).length
  | .expand w front tok back =>
    match activeOf s w with
    | some { job := _, phase := .expanding (_ :: _) } => front == !dfs && tok == s.m.created.length && back == dfs
    | _ => true
  | .discard _ _ => false
  | .stop _ why => why != .timeout
  | _ => true

structure TRel (k : Nat) (tv : TV) (s : X) : Prop where
  rel : Rel P tv.x s
  /-- `onePop` / `oneDrop` tell a worker from another thread by `w < k`: a running `w` is one (`running_lt`) -/
  len : s.m.pcs.length = k

/-- holds between two steps when every step's bookkeeping entries immediately precede it -/
structure Book (tv : TV) (s : X) : Prop where
  pieces : tv.pieces = []
  reason : ∀ w, (tv.reason.lookup w).isSome = true → s.m.pcs[w]? = some .exited

/-- in the order of their `TR_SPLIT_PIECE` entries -/
def pieceSizes (s s' : X) : List Nat :=
  ((s'.m.batches.take (s'.m.batches.length - s.m.batches.length)).reverse.map List.length)

/-- `pc` = the sizes in the `TR_SPLIT_PIECE` entries since the last `TR_SPLIT`; `rs` = the reason of the last `TR_STOP` entry
    of each worker -/
def bookOk (pc : List Nat) (rs : List (Nat × Nat)) (s : X) (f : FStep) (s' : X) : Bool :=
  match f with
  | .split _ _ => !s.m.isOpen || pc == pieceSizes s s'
  | .stop w .finish => rs.lookup w == some 1
  | .stop w .target => rs.lookup w == some 2
  | .stop w .panic => rs.lookup w == none || rs.lookup w == some 5
  | .stop _ .timeout => false
  | .exit w => rs.lookup w == some 3 || rs.lookup w == some 4
  | _ => true

variable {P}

theorem bindE_ok {α β : Type} (a : α) (f : α → R β) : (Except.ok a >>= f : R β) = f a := rfl

theorem replay_append (k : Nat) (mode : Mode) : ∀ (es1 es2 : List Ev) (tv : TV) (i : Nat),
    replay P k mode tv i (es1 ++ es2) =
      match replay P k mode tv i es1 with
      | .ok tv' => replay P k mode tv' (i + es1.length) es2
      | .error m => .error m := by
  intro es1
  induction es1 with
  | nil =>
    intro es2 tv i
    rfl
  | cons e es ih =>
    intro es2 tv i
    simp only [List.cons_append, replay]
    cases h : one P k mode tv e with
    | error m => rfl
    | ok tv1 =>
      simp only []
      rw [ih]
      simp only [List.length_cons]
      have : i + 1 + es.length = i + (es.length + 1) := by omega
      rw [this]

theorem replay_cons {k : Nat} {mode : Mode} {tv tv' : TV} {e : Ev} (h : one P k mode tv e = .ok tv') (i : Nat)
    (es : List Ev) : replay P k mode tv i (e :: es) = replay P k mode tv' (i + 1) es := by
  simp only [replay, h]

theorem one_piece (k : Nat) (mode : Mode) (tv : TV) (w n : Nat) :
    one P k mode tv ⟨w, 8, n, 0⟩ = .ok { tv with pieces := tv.pieces ++ [n] } := rfl

theorem one_stopping (k : Nat) (mode : Mode) (tv : TV) (w a : Nat) :
    one P k mode tv ⟨w, 24, a, 0⟩ = .ok { tv with reason := (w, a) :: tv.reason.filter (·.1 != w) } := rfl

theorem running_lt {s : X} {k w : Nat} (hl : s.m.pcs.length = k) (h : s.m.pcs[w]? = some .running) : w < k :=
  hl ▸ lt_length_of_getElem? h

variable (P) in
def Accepts (k : Nat) (mode : Mode) (tv : TV) (i : Nat) (es : List Ev) (s' : X) : Prop :=
  ∃ x', replay P k mode tv i es = .ok { tv with x := x' } ∧ Rel P x' s'

section
variable {k notw : Nat} {mode : Mode} {tv : TV} {s s' : X} {w : Nat} {ms : List Step} {cs : List Choice}

theorem accepts_nil (i : Nat) (h : Rel P tv.x s') : Accepts P k mode tv i [] s' := ⟨tv.x, rfl, h⟩

theorem accepts_one {e : Ev} {x' : X} (i : Nat) (h1 : one P k mode tv e = .ok { tv with x := x' })
    (h : Rel P x' s') : Accepts P k mode tv i [e] s' :=
  ⟨x', by rw [replay_cons h1]; rfl, h⟩

theorem Accepts.trel {f : FStep} {i : Nat} {es : List Ev} (h : TRel P k tv s)
    (hs : fstep P s f = some (s', ms, cs)) (ha : Accepts P k mode tv i es s') :
    ∃ tv', replay P k mode tv i es = .ok tv' ∧ TRel P k tv' s' ∧ tv'.pieces = tv.pieces ∧ tv'.reason = tv.reason :=
  let ⟨_, h1, h2⟩ := ha
  ⟨_, h1, ⟨h2, (fstep_pcs_length hs).trans h.len⟩, rfl, rfl⟩

/-! The handlers `one…` of `Drv/Full.lean` as equations, their checks as hypotheses (`oneProp` is unfolded in
`complete_evalProp`; `oneDrop` for a worker is `oneDrop_worker`, further down); `hadv`: the worker's job is at a logged step
already (`rel_advance_id`), so the `advance` in front of the step does nothing. -/

theorem onePop_ok {e : Ev} {x' : X} {m' : MState} {r : Option PopRes} (hwk : e.w < k)
    (hadv : advance P tv.x e.w (fuelOf P) = .ok tv.x)
    (hr : Market.stepR tv.x.m (if e.b = 0 then Step.popBegin e.w else Step.wake e.w) = some (m', r))
    (hok : popResOk r e = true)
    (hs : stepE P tv.x (if e.b = 0 then FStep.pop e.w else FStep.wake e.w) = .ok x') :
    onePop P k tv e = .ok { tv with x := x' } := by
  simp [onePop, isWorker, hwk, hadv, hr, hok, hs, bind, Except.bind, pure, Except.pure]

theorem oneTimeout_ok {x' : X} (hs : stepE P tv.x .timeout = .ok x') : oneTimeout P tv = .ok { tv with x := x' } := by
  simp [oneTimeout, hs, bind, Except.bind, pure, Except.pure]

theorem oneSplitClosed_ok {e : Ev} {x' : X} (hadv : advance P tv.x e.w (fuelOf P) = .ok tv.x)
    (ho : tv.x.m.isOpen = false) (ha : (locOf tv.x.m e.w).length = e.a) (hs : stepE P tv.x (.split e.w []) = .ok x') :
    oneSplitClosed P tv e = .ok { tv with x := x' } := by
  simp [oneSplitClosed, hadv, ho, ha, hs, bind, Except.bind, pure, Except.pure]

theorem oneSplit_ok {e : Ev} {x' : X} (hadv : advance P tv.x e.w (fuelOf P) = .ok tv.x)
    (ha : (locOf tv.x.m e.w).length = e.a)
    (hs : stepE P tv.x (.split e.w ((parkedOf tv.x.m).take tv.pieces.length)) = .ok x')
    (hb : (locOf x'.m e.w).length = e.b)
    (hp : (x'.m.batches.take (x'.m.batches.length - tv.x.m.batches.length)).map List.length = tv.pieces.reverse) :
    oneSplit P tv e = .ok { tv with x := x', pieces := [] } := by
  have hpk : (List.range tv.x.m.pcs.length).filter (fun v => tv.x.m.pcs[v]? == some (Pc.parked false)) =
      parkedOf tv.x.m := rfl
  simp only [oneSplit, hadv, bind, Except.bind, ha, bne_self_eq_false, Bool.false_eq_true, if_false, hpk, hs, hb, hp,
    pure, Except.pure]

theorem oneDrop_other {e : Ev} {x' : X} (hnw : ¬ e.w < k) (hs : stepE P tv.x .xdrop = .ok x') :
    oneDrop P k tv e = .ok { tv with x := x' } := by
  simp [oneDrop, isWorker, hnw, hs, bind, Except.bind, pure, Except.pure]

theorem oneTake_ok {e : Ev} {p : Nat} {x1 x2 : X} (hadv : advance P tv.x e.w (fuelOf P) = .ok tv.x)
    (hnaw : e.w ∉ tv.x.aw) (hfp : findPos tv.x e.w e.a e.b = some p) (hp : p + 1 = (locOf tv.x.m e.w).length)
    (hs : stepE P tv.x (.take e.w p) = .ok x1) (hadv1 : advance P x1 e.w (fuelOf P) = .ok x2) :
    oneTake P tv e = .ok { tv with x := x2 } := by
  simp [oneTake, hadv, hnaw, hfp, ← hp, hs, hadv1, bind, Except.bind, pure, Except.pure]

theorem oneRecord_ok {e : Ev} {jb : Job Nat} {x1 x2 : X}
    (ha : activeOf tv.x e.w = some { job := jb, phase := .recording e.a }) (hs : stepE P tv.x (.record e.w) = .ok x1)
    (hadv1 : advance P x1 e.w (fuelOf P) = .ok x2) : oneRecord P tv e = .ok { tv with x := x2 } := by
  simp [oneRecord, ha, hs, hadv1, bind, Except.bind, pure, Except.pure]

theorem oneExpand_ok {dfs : Bool} {e : Ev} {jb : Job Nat} {t : Nat} {rest : List Nat} {x1 x2 : X}
    (ha : activeOf tv.x e.w = some { job := jb, phase := .expanding (t :: rest) }) (hk : P.key t = e.a)
    (hnew : (e.b == 1) = !decide (P.key t ∈ tv.x.c.gen))
    (hs : stepE P tv.x (.expand e.w (!dfs) tv.x.m.created.length dfs) = .ok x1)
    (hadv1 : advance P x1 e.w (fuelOf P) = .ok x2) : oneExpand P dfs tv e = .ok { tv with x := x2 } := by
  simp [oneExpand, ha, hk, hs, hadv1, bind, Except.bind, pure, Except.pure]
  rw [hnew, hk]
  simp

/-- `pop` and `wake` are the critical section `mst` of a `pop()`, its first (`woke = 0`) or a later one; `Rel` carries the
    guard of `f` over to the replay (`hx`), the entry says what `mst` returned, and `onePop` compares just that -/
theorem complete_popLike {woke : Nat} {f : FStep} {mst : Step} {m' : MState} (h : TRel P k tv s) (hwk : w < k)
    (hmst : (if woke = 0 then Step.popBegin w else Step.wake w) = mst)
    (hf : (if woke = 0 then FStep.pop w else FStep.wake w) = f) (hnp : noPick mst = true)
    (hm : Market.step s.m mst = some m')
    (hs : fstep P s f = some ({ s with m := m' }, ms, cs))
    (hx : ∀ m'', Market.step tv.x.m mst = some m'' → stepE P tv.x f = .ok { tv.x with m := m'' })
    (i : Nat) : Accepts P k mode tv i (popEntry s w mst woke) { s with m := m' } := by
  obtain ⟨r, hr⟩ := stepR_of_step hm
  obtain ⟨pr, rfl⟩ := stepR_pop_some (hmst ▸ hr)
  obtain ⟨m'', hr', hmeq⟩ := stepR_meq h.rel.m.symm mst hnp hr
  have hfx := hx m'' (step_of_stepR hr')
  have hrel : Rel P { tv.x with m := m'' } { s with m := m' } := rel_xDrop (pre := []) h.rel hmeq.symm [] hfx hs rfl
  have hpop : ∀ kind a, popResOk (some pr) ⟨w, kind, a, woke⟩ = true →
      onePop P k tv ⟨w, kind, a, woke⟩ = .ok { tv with x := { tv.x with m := m'' } } := fun kind a hok =>
    onePop_ok hwk (rel_advance_id h.rel w) (hmst ▸ hr') hok (hf ▸ hfx)
  simp only [popEntry, hr, Option.bind_some]
  cases pr with
  | got b => exact accepts_one i (hpop 1 _ (by simp [popResOk])) hrel
  | empty => exact accepts_one i (hpop 2 _ rfl) hrel
  | park => exact accepts_one i (hpop 3 _ rfl) hrel

theorem complete_pop (h : TRel P k tv s) (hs : fstep P s (.pop w) = some (s', ms, cs)) (i : Nat) :
    Accepts P k mode tv i (entries P notw s (.pop w) s') s' := by
  obtain ⟨hc, m', hm, he⟩ := guard_map_some hs
  cases he
  have hrun : s.m.pcs[w]? = some Pc.running := by cases Market.step_eff hm <;> assumption
  refine complete_popLike (woke := 0) (f := .pop w) (mst := .popBegin w) h (running_lt h.len hrun)
    rfl rfl rfl hm hs (fun m'' hm'' => ?_) i
  simp only [stepE, fstep, if_pos (And.intro ((h.rel.m.locOf w).trans hc.1) (rel_not_mem h.rel hc.2)), hm'',
    Option.map_some]
  rfl

theorem complete_wake (h : TRel P k tv s) (hs : fstep P s (.wake w) = some (s', ms, cs)) (i : Nat) :
    Accepts P k mode tv i (entries P notw s (.wake w) s') s' := by
  obtain ⟨m', hm, he⟩ := Option.map_eq_some_iff.1 hs
  cases he
  cases Market.step_eff hm with | wake hpk
  refine complete_popLike (woke := 1) (f := .wake w) (mst := .wake w) h (h.len ▸ lt_length_of_getElem? hpk) rfl rfl rfl hm hs
    (fun m'' hm'' => ?_) i
  simp only [stepE, fstep, hm'', Option.map_some]
  rfl

/-- the `TR_STOP` reasons (src/verif.rs): 1 `finish_when`, 2 `target_state_count`, 3 market found shut down after a block,
    4 `pop` returned nothing (the hooks write either, `oneDrop` takes both for `exit`; `entries` writes 4), 5 control channel
    closed (on_demand.rs), taken for a panic like a missing entry: a panic in model code unwinds without `TR_STOP` -/
theorem oneDrop_worker {x' : X} {f : FStep} {pc : List Nat} (hwk : w < k) (ha : advance P tv.x w (fuelOf P) = .ok tv.x)
    (hf : f = .exit w ∨ ∃ why, f = .stop w why) (hr : bookOk pc tv.reason s f s' = true)
    (hs : stepE P tv.x f = .ok x') : oneDrop P k tv ⟨w, 10, 0, 0⟩ = .ok { tv with x := x' } := by
  rcases hf with rfl | ⟨why, rfl⟩
  · rcases Bool.or_eq_true_iff.1 hr with hr | hr <;>
      simp [oneDrop, isWorker, hwk, ha, beq_iff_eq.1 hr, hs, bind, Except.bind, pure, Except.pure]
  · cases why with
    | timeout => cases hr
    | panic =>
      rcases Bool.or_eq_true_iff.1 hr with hr | hr <;>
        simp [oneDrop, isWorker, hwk, ha, beq_iff_eq.1 hr, hs, bind, Except.bind, pure, Except.pure]
    | _ => simp [oneDrop, isWorker, hwk, ha, beq_iff_eq.1 hr, hs, bind, Except.bind, pure, Except.pure]

theorem complete_timeout (h : TRel P k tv s) (hs : fstep P s .timeout = some (s', ms, cs)) (i : Nat) :
    Accepts P k mode tv i (entries P notw s .timeout s') s' := by
  obtain ⟨hto, m', hm, he⟩ := guard_map_some hs
  cases he
  obtain ⟨m'', hm', hmeq⟩ := step_meq h.rel.m.symm .timeoutFire rfl hm
  have hfx : stepE P tv.x .timeout = .ok (xDrop P tv.x m'' [.stop .timeout] [] tv.x.aw) := by
    simp only [stepE, fstep, if_pos hto, hm', Option.map_some]
    rfl
  refine accepts_one i ?_ (rel_xDrop h.rel hmeq.symm [] hfx hs rfl)
  exact oneTimeout_ok hfx

/-- `k ≤ notw` lets `oneDrop` see that the thread is none of the `k` workers -/
theorem complete_xdrop (hk : k ≤ notw) (h : TRel P k tv s) (hs : fstep P s .xdrop = some (s', ms, cs)) (i : Nat) :
    Accepts P k mode tv i (entries P notw s .xdrop s') s' := by
  have hs1 := hs
  simp only [fstep] at hs1
  obtain ⟨m', hm, he⟩ := Option.map_eq_some_iff.1 hs1
  cases he
  obtain ⟨m'', hm', hmeq⟩ := step_meq h.rel.m.symm .xdrop rfl hm
  have hfx : stepE P tv.x .xdrop = .ok (xDrop P tv.x m'' (if s.m.isOpen then [Choice.stop .panic] else [])
      s.m.batches.flatten tv.x.aw) := by
    simp only [stepE, fstep, hm', Option.map_some, h.rel.m.isOpen, h.rel.m.batches]
    rfl
  have hd : DropList (if s.m.isOpen then [Choice.stop .panic] else []) := by cases s.m.isOpen <;> rfl
  refine accepts_one i ?_ (rel_xDrop h.rel hmeq.symm _ hfx hs hd)
  exact oneDrop_other (Nat.not_lt.2 hk) hfx

theorem complete_exit_core (h : TRel P k tv s) (hs : fstep P s (.exit w) = some (s', ms, cs))
    {pc : List Nat} (hr : bookOk pc tv.reason s (.exit w) s' = true) (i : Nat) :
    Accepts P k mode tv i [⟨w, 10, 0, 0⟩] s' := by
  obtain ⟨hc, m', hm, he⟩ := guard_map_some hs
  cases he
  obtain ⟨m'', hm', hmeq⟩ := step_meq h.rel.m.symm (.drop w) rfl hm
  have hxc : tv.x.m.isOpen = false ∧ w ∉ tv.x.aw := ⟨h.rel.m.isOpen.trans hc.1, rel_not_mem h.rel hc.2⟩
  have hfx : stepE P tv.x (.exit w) = .ok (xDrop P tv.x m'' [] (s.m.batches.flatten ++ locOf s.m w) tv.x.aw) := by
    simp only [stepE, fstep, if_pos hxc, hm', Option.map_some, h.rel.m.batches, h.rel.m.locOf w]
    rfl
  refine accepts_one i ?_ (rel_xDrop h.rel hmeq.symm _ hfx hs rfl)
  exact oneDrop_worker (running_lt h.len (drop_exited hm).1) (rel_advance_id h.rel w) (.inl rfl) hr hfx

theorem book_reason_cons (hb : Book tv s) {f : FStep} (hs : fstep P s f = some (s', ms, cs)) {a : Nat}
    (hw : s'.m.pcs[w]? = some .exited) (v : Nat)
    (hv : (((w, a) :: tv.reason.filter (·.1 != w)).lookup v).isSome = true) : s'.m.pcs[v]? = some .exited := by
  rw [lookup_cons_filter] at hv
  by_cases e : v = w
  · exact e ▸ hw
  · rw [if_neg e] at hv
    exact fstep_exited hs (hb.reason v hv)

theorem complete_stop_core {why : Why} (h : TRel P k tv s) (hs : fstep P s (.stop w why) = some (s', ms, cs))
    {pc : List Nat} (hr : bookOk pc tv.reason s (.stop w why) s' = true) (i : Nat) :
    Accepts P k mode tv i [⟨w, 10, 0, 0⟩] s' := by
  obtain ⟨hen, m', hm, he⟩ := guard_map_some hs
  cases he
  obtain ⟨m'', hm', hmeq⟩ := step_meq h.rel.m.symm (.drop w) rfl hm
  have henx : stopEnabled P why tv.x.c = true := (stopEnabled_ceq h.rel.c why).trans hen
  have hfx : stepE P tv.x (.stop w why) = .ok
      (xDrop P tv.x m'' (Choice.stop why :: if w ∈ tv.x.aw then [Choice.abandon (tv.x.aw.idxOf w)] else [])
        (s.m.batches.flatten ++ locOf s.m w) (tv.x.aw.erase w)) := by
    simp only [stepE, fstep, if_pos henx, hm', Option.map_some, h.rel.m.batches, h.rel.m.locOf w]
    rfl
  have hdl := dropToks_dropList (s.m.batches.flatten ++ locOf s.m w) s.ft
  obtain ⟨x1, x2⟩ := stop_view h.rel.ix w why henx _ hdl
  obtain ⟨s1, s2⟩ := stop_view h.rel.is w why hen _ hdl
  have d1 := dropList_sync (P := P) (.stop why :: _) h.rel.c hdl
  unfold xDrop at hfx
  rw [h.rel.ft] at hfx
  refine accepts_one i ?_ (rel_gone h.rel hfx hs (erase_upd h.rel.ix w x2 rfl) (erase_upd h.rel.is w s2 rfl)
    hmeq.symm rfl (x1.trans (d1.trans s1.symm)))
  exact oneDrop_worker (running_lt h.len (drop_exited hm).1) (rel_advance_id h.rel w) (.inr ⟨_, rfl⟩) hr hfx

theorem replay_pieces (k : Nat) (mode : Mode) (w : Nat) : ∀ (l : List (List Tok)) (tv : TV) (i : Nat),
    replay P k mode tv i (l.map fun b => (⟨w, 8, b.length, 0⟩ : Ev)) =
      .ok { tv with pieces := tv.pieces ++ l.map List.length } := by
  intro l
  induction l with
  | nil =>
    intro tv i
    simp [replay]
    rfl
  | cons b bs ih =>
    intro tv i
    rw [List.map_cons, replay_cons (one_piece k mode tv w b.length), ih]
    simp

def splitEntry (s : X) (w : Nat) (s' : X) : Ev :=
  if s.m.isOpen then ⟨w, 7, (locOf s.m w).length, (locOf s'.m w).length⟩ else ⟨w, 9, (locOf s.m w).length, 0⟩

theorem complete_split_core {picks : List Nat} (h : TRel P k tv s)
    (hs : fstep P s (.split w picks) = some (s', ms, cs))
    (hp : s.m.isOpen = true → tv.pieces = pieceSizes s s') (i : Nat) :
    ∃ x', replay P k mode tv i [splitEntry s w s'] =
        .ok { tv with x := x', pieces := if s.m.isOpen then [] else tv.pieces } ∧ Rel P x' s' := by
  obtain ⟨hnaw, m', hm, he⟩ := guard_map_some hs
  cases he
  -- the replay notifies the first waiting workers (`pk`), whichever the machine did
  obtain ⟨pk, m'', hm', hmeq, hpk⟩ := split_meq h.rel.m.symm hm
  have hfx : stepE P tv.x (.split w pk) =
      .ok (xDrop P tv.x m'' [] (if s.m.isOpen then [] else locOf s.m w) tv.x.aw) := by
    simp only [stepE, fstep, if_pos (rel_not_mem h.rel hnaw), hm', Option.map_some, h.rel.m.isOpen, h.rel.m.locOf w]
    rfl
  have hrel := rel_xDrop h.rel hmeq.symm _ hfx hs rfl
  refine ⟨_, ?_, hrel⟩
  cases hop : s.m.isOpen with
  | false =>
    simp only [hop, Bool.false_eq_true, if_false] at hfx hpk
    subst hpk
    simp only [splitEntry, hop, Bool.false_eq_true, if_false]
    rw [replay_cons (tv' := { tv with x := _ })]
    · rfl
    exact oneSplitClosed_ok (rel_advance_id h.rel w) (h.rel.m.isOpen.trans hop) (congrArg _ (h.rel.m.locOf w)) hfx
  | true =>
    have hp' := hp hop
    simp only [pieceSizes] at hp'
    have hN : m'.batches.length - s.m.batches.length = tv.pieces.length := by simp [hp']
    simp only [hop, if_true, hN] at hfx hpk
    subst hpk
    simp only [splitEntry, hop, if_true]
    rw [replay_cons (tv' := { tv with x := _, pieces := [] })]
    · rfl
    refine oneSplit_ok (rel_advance_id h.rel w) (congrArg _ (h.rel.m.locOf w)) hfx (congrArg _ (hrel.m.locOf w)) ?_
    simp only [xDrop]
    rw [← hmeq.batches, h.rel.m.batches, hp', List.map_reverse, List.reverse_reverse]

theorem jobOfTok_some (inv : FInv s) {p : Nat} {t : Tok} (ht : (locOf s.m w)[p]? = some t) :
    ∃ j, jobOfTok s t = some j :=
  ⟨_, List.getElem?_eq_getElem (inv.len ▸ List.idxOf_lt_length_of_mem (inv.mem_ft (List.mem_of_getElem? ht)))⟩

theorem findPos_last {x : X} {p : Nat} {t : Tok} {j : Job Nat} (ht : (locOf x.m w)[p]? = some t)
    (hp : p + 1 = (locOf x.m w).length) (hj : jobOfTok x t = some j) : findPos x w j.st j.depth = some p := by
  unfold findPos
  simp only [← hp, List.range_succ, List.reverse_append, List.reverse_cons, List.reverse_nil, List.nil_append,
    List.singleton_append, List.find?_cons]
  simp [ht, hj]

theorem complete_take {p : Nat} (hmode : mode ≠ .ondemand) (h : TRel P k tv s)
    (hs : fstep P s (.take w p) = some (s', ms, cs)) (hp : p + 1 = (locOf s.m w).length) (i : Nat) :
    Accepts P k mode tv i (entries P notw s (.take w p) s') s' := by
  have hs0 := hs
  simp only [fstep] at hs
  cases ht : (locOf s.m w)[p]? with
  | none =>
    rw [ht] at hs
    cases hs
  | some t =>
    rw [ht] at hs
    obtain ⟨hnaw, hs1⟩ := Option.ite_none_left_eq_some.1 hs
    obtain ⟨m', hm, he⟩ := Option.map_eq_some_iff.1 hs1
    cases he
    obtain ⟨m'', hm', hmeq⟩ := mseq_meq _ h.rel.m.symm rfl hm
    have hxaw : w ∉ tv.x.aw := rel_not_mem h.rel hnaw
    have hloc : locOf tv.x.m w = locOf s.m w := h.rel.m.locOf w
    obtain ⟨j, hj⟩ := jobOfTok_some h.rel.is ht
    have hjx : jobOfTok tv.x t = some j := by
      unfold jobOfTok at hj ⊢
      rw [h.rel.ft, h.rel.c.fr]
      exact hj
    obtain ⟨c1, r, r1, r2⟩ := take_sync (P := P) h.rel.c (s.ft.idxOf t)
    have hfx : stepE P tv.x (.take w p) = .ok
        { m := m'', c := Checker.step P (.take (s.ft.idxOf t)) tv.x.c, ft := s.ft.erase t,
          aw := if (Checker.step P (.take (s.ft.idxOf t)) tv.x.c).active.length = tv.x.c.active.length + 1
            then tv.x.aw ++ [w] else tv.x.aw } := by
      simp only [stepE, fstep, hloc, ht, if_neg hxaw, hm', Option.map_some, h.rel.ft]
      rfl
    obtain ⟨x2, hadv, hrel⟩ := rel_step h.rel hfx hs0 (take_upd h.rel.ix hxaw r r1 rfl) (take_upd h.rel.is hnaw r r2 rfl)
      hmeq.symm rfl c1
    simp only [entries, ht, hj]
    refine accepts_one i ?_ hrel
    have hone : one P k mode tv ⟨w, 20, j.st, j.depth⟩ = oneTake P tv ⟨w, 20, j.st, j.depth⟩ := by
      cases mode with
      | ondemand => exact (hmode rfl).elim
      | bfs => rfl
      | dfs => rfl
    rw [hone]
    exact oneTake_ok (rel_advance_id h.rel w) hxaw (findPos_last (hloc ▸ ht) (hloc ▸ hp) hjx) (hloc ▸ hp) hfx hadv

theorem JobSync.after {a b a' b' : C} {i j : Nat} (h : JobSync a b i j a' b') :
    ∃ r, a'.active = actAfter a.active i r ∧ b'.active = actAfter b.active j r := by
  rcases h.act with ⟨act', a1, a2⟩ | ⟨a1, a2⟩
  · exact ⟨some act', a1, a2⟩
  · exact ⟨none, a1, a2⟩

theorem onJob_real {x : X} (h : Rel P x s) {act : A} (hsw : activeOf s w = some act)
    (hn : silA P act = none) {f : FStep} {mk : Nat → Choice} (hfx : fstep P x f = onJob P x w mk)
    (hfs : fstep P s f = onJob P s w mk)
    (hsync : ∀ {a b : C} {i j : Nat}, CEq a b → a.active[i]? = some act → b.active[j]? = some act →
      JobSync a b i j (Checker.step P (mk i) a) (Checker.step P (mk j) b)) :
    ∃ x1 x2, stepE P x f = .ok x1 ∧ CEq x1.c (Checker.step P (mk (s.aw.idxOf w)) s.c) ∧
      advance P x1 w (fuelOf P) = .ok x2 ∧ Rel P x2 (xJob s w (Checker.step P (mk (s.aw.idxOf w)) s.c)) := by
  obtain ⟨hxm, hxi⟩ := activeOf_some (rel_same h hsw hn)
  obtain ⟨hsm, hsi⟩ := activeOf_some hsw
  rw [onJob_eq, if_pos hxm] at hfx
  rw [onJob_eq, if_pos hsm] at hfs
  have js := hsync h.c hxi hsi
  obtain ⟨r, r1, r2⟩ := js.after
  obtain ⟨x2, ha, hr⟩ := rel_step h (stepE_of hfx) hfs (job_upd h.ix hxm r r1 rfl) (job_upd h.is hsm r r2 rfl) h.m
    h.ft js.ceq
  exact ⟨_, x2, stepE_of hfx, js.ceq, ha, hr⟩

theorem onJob_stutter {mk : Nat → Choice} (hs : onJob P s w mk = some (s', ms, cs))
    (hid : Checker.step P (mk (s.aw.idxOf w)) s.c = s.c) : s' = s := by
  rw [(onJob_inv hs).2, hid]
  simp only [xJob, Nat.lt_irrefl, if_false]

theorem complete_finishProps (h : TRel P k tv s) (hs : fstep P s (.finishProps w) = some (s', ms, cs)) (i : Nat) :
    Accepts P k mode tv i (entries P notw s (.finishProps w) s') s' := by
  refine accepts_nil i ?_
  obtain ⟨act, hsw⟩ := activeOf_of_mem h.rel.is ((onJob_inv (mk := fun i => .finishProps i) hs).1)
  obtain ⟨jb, ph⟩ := act
  by_cases hp : ∃ n aw, ph = .props n aw ∧ ¬ n < P.props.length
  · obtain ⟨n, aw, rfl, hn⟩ := hp
    exact complete_sil h.rel hs hsw (if_neg hn) rfl
  · rw [onJob_stutter (mk := fun i => .finishProps i) hs (finishProps_stutter (activeOf_some hsw).2
      fun n aw e => Classical.not_not.1 fun hn => hp ⟨n, aw, e, hn⟩)]
    exact h.rel

theorem complete_record (h : TRel P k tv s) (hs : fstep P s (.record w) = some (s', ms, cs)) (i : Nat) :
    Accepts P k mode tv i (entries P notw s (.record w) s') s' := by
  obtain ⟨⟨jb, ph⟩, hsw⟩ := activeOf_of_mem h.rel.is ((onJob_inv (mk := fun i => .record i) hs).1)
  cases ph with
  | recording n =>
    by_cases hb : n < P.props.length ∧ n ∈ jb.ebits
    · have hn : silA P { job := jb, phase := .recording n } = none := if_pos hb
      obtain ⟨x1, x2, hfx, -, hadv, hrel⟩ := onJob_real (f := .record w) (mk := fun i => .record i) h.rel hsw hn rfl rfl
        (fun hce ha hb' => record_sync hce ha hb' hb)
      rw [(onJob_inv (mk := fun i => .record i) hs).2]
      simp only [entries, hsw, hb, and_self, if_true]
      refine accepts_one i ?_ hrel
      exact oneRecord_ok (rel_same h.rel hsw hn) hfx hadv
    · simp only [entries, hsw, hb, if_false]
      exact accepts_nil i (complete_sil h.rel hs hsw (if_neg hb) rfl)
  | props n aw | expanding rest =>
    rw [onJob_stutter (mk := fun i => .record i) hs (record_stutter (activeOf_some hsw).2 fun _ => nofun)]
    simp only [entries, hsw]
    exact accepts_nil i h.rel

theorem evalProp_disc {a : C} {i n : Nat} {aw : Bool} {jb : Job Nat}
    (ha : a.active[i]? = some { job := jb, phase := .props n aw }) (hn : n < P.props.length) (st : Bool) :
    (stepEvalProp P i st a).disc =
      if (hasDisc a.disc n && !st) = true then a.disc
      else if inserts P n jb = true then discInsert a.disc n jb.path else a.disc := by
  unfold stepEvalProp inserts
  rw [ha]
  simp only [List.getElem?_eq_getElem hn]
  split
  · rfl
  · cases hexp : (P.props[n]).exp with
    | always =>
      simp only []
      split <;> simp_all
    | sometimes =>
      simp only []
      split <;> simp_all
    | eventually => simp

theorem complete_evalProp {stale : Bool} (h : TRel P k tv s)
    (hs : fstep P s (.evalProp w stale) = some (s', ms, cs)) (i : Nat) :
    Accepts P k mode tv i (entries P notw s (.evalProp w stale) s') s' := by
  have hmem := (onJob_inv (mk := fun i => .evalProp i stale) hs).1
  obtain ⟨⟨jb, ph⟩, hsw⟩ := activeOf_of_mem h.rel.is hmem
  obtain ⟨-, hidx⟩ := activeOf_some hsw
  have hstut := fun hp => onJob_stutter (mk := fun i => .evalProp i stale) hs (evalProp_stutter hidx hp stale)
  cases ph with
  | expanding rest | recording n =>
    rw [hstut fun _ _ => nofun]
    simp only [entries, hsw]
    exact accepts_nil i h.rel
  | props n aw =>
    by_cases hlt : n < P.props.length
    · have hn : silA P { job := jb, phase := .props n aw } = none := if_pos hlt
      -- the replay does not know `stale`: `oneProp` steps with `e.b != 0 && known`, rebuilt from the entry's `b`, which is
      -- `stale && known`; where nothing is known `stale` makes no difference (`evalProp_stale`)
      obtain ⟨x1, x2, hfx, hc1, hadv, hrel⟩ := onJob_real (f := .evalProp w (stale && hasDisc s.c.disc n))
        (mk := fun i => .evalProp i (stale && hasDisc s.c.disc n)) h.rel hsw hn rfl rfl
        (fun hce ha hb => evalProp_sync hce ha hb _)
      rw [(onJob_inv (mk := fun i => .evalProp i stale) hs).2,
        show Checker.step P (.evalProp _ stale) s.c = _ from evalProp_stale hidx stale]
      simp only [entries, hsw, hlt, if_true]
      refine accepts_one i ?_ hrel
      show oneProp P tv _ = _
      unfold oneProp
      have hxw := rel_same h.rel hsw hn
      have hxd : x1.c.disc = _ := hc1.disc.trans (evalProp_disc (P := P) hidx hlt _)
      have hlen := discInsert_length (h.rel.c.disc ▸ h.rel.dn) n jb.path
      rw [← h.rel.c.disc] at hfx hxd ⊢
      simp only [hxw, bne_self_eq_false, Bool.false_eq_true, if_false, bind, Except.bind]
      -- `oneProp` decides "was a discovery inserted" by the head of the map and its LENGTH before and after: right only because
      -- an insert never shortens the map (`hlen`, one entry per property); then the combinations of known / stale / inserts
      cases hk : hasDisc tv.x.c.disc n <;> cases stale <;> cases hi : inserts P n jb <;>
        simp only [hk, hi, Bool.and_true, Bool.and_false, Bool.true_and, Bool.false_and] at hfx hxd <;>
        simp [hfx, hxd, pure, Except.pure, discInsert] at hlen hadv ⊢ <;>
        (try rw [if_neg (by omega)]) <;> simp [hadv]
    · rw [hstut fun _ _ e => (Phase.props.inj e).1 ▸ hlt]
      simp only [entries, hsw, hlt, if_false]
      exact accepts_nil i h.rel

/-- the successor is new on both sides or on neither (`CEq`); if new, both put the job (token `tok`) on the deque of `w`,
    else this is a step on the current job only (`onJob_real`) -/
theorem expand_real {x : X} (h : Rel P x s) {jb : Job Nat} {t : Nat} {rest : List Nat} {front back : Bool} {tok : Tok}
    (hsw : activeOf s w = some { job := jb, phase := .expanding (t :: rest) })
    (hs : fstep P s (.expand w front tok back) = some (s', ms, cs)) :
    ∃ x1 x2, stepE P x (.expand w front tok back) = .ok x1 ∧ advance P x1 w (fuelOf P) = .ok x2 ∧ Rel P x2 s' := by
  have hs0 := hs
  obtain ⟨hmem, hs⟩ := Option.ite_none_right_eq_some.1 hs
  obtain ⟨-, hidx⟩ := activeOf_some hsw
  have hn : silA P { job := jb, phase := .expanding (t :: rest) } = none := rfl
  obtain ⟨hxm, hxi⟩ := activeOf_some (rel_same h hsw hn)
  have js := expand_sync (P := P) h.c hxi hidx front
  have hfrx : (Checker.step P (.expand (x.aw.idxOf w) front) x.c).frontier.length = x.c.frontier.length + 1 ↔
      (Checker.step P (.expand (s.aw.idxOf w) front) s.c).frontier.length = s.c.frontier.length + 1 := by
    have e1 : (Checker.step P (.expand (x.aw.idxOf w) front) x.c).frontier =
        (Checker.step P (.expand (s.aw.idxOf w) front) s.c).frontier := js.ceq.fr
    rw [e1, h.c.fr]
  by_cases hg : (Checker.step P (.expand (s.aw.idxOf w) front) s.c).frontier.length = s.c.frontier.length + 1
  · rw [if_pos hg] at hs
    obtain ⟨m', hm, he⟩ := Option.map_eq_some_iff.1 hs
    cases he
    obtain ⟨m'', hm', hmeq⟩ := mseq_meq _ h.m.symm (by cases back <;> rfl) hm
    obtain ⟨r, r1, r2⟩ := js.after
    have hfx : stepE P x (.expand w front tok back) = .ok
        { m := m'', c := Checker.step P (.expand (x.aw.idxOf w) front) x.c,
          ft := if front = true then tok :: s.ft else s.ft ++ [tok],
          aw := (xJob x w (Checker.step P (.expand (x.aw.idxOf w) front) x.c)).aw } := by
      simp only [stepE, fstep, if_pos hxm, if_pos (hfrx.2 hg), h.m.locOf w, hm', Option.map_some, h.ft, xJob]
      rfl
    obtain ⟨x2, ha, hr⟩ := rel_step h hfx hs0 (job_upd h.ix hxm r r1 rfl) (job_upd h.is hmem r r2 rfl) hmeq.symm rfl js.ceq
    exact ⟨_, x2, hfx, ha, hr⟩
  · rw [fstep_expand_old hg] at hs0
    rw [(onJob_inv hs0).2]
    obtain ⟨x1, x2, h1, -, h2, h3⟩ := onJob_real (mk := fun i => .expand i front) h hsw hn
      (fstep_expand_old fun hc => hg (hfrx.1 hc)) (fstep_expand_old hg) (fun hce ha hb => expand_sync hce ha hb front)
    exact ⟨x1, x2, h1, h2, h3⟩

theorem complete_expand {front back : Bool} {tok : Tok} (h : TRel P k tv s)
    (hs : fstep P s (.expand w front tok back) = some (s', ms, cs))
    (hd : disc (mode == .dfs) s (.expand w front tok back) = true) (i : Nat) :
    Accepts P k mode tv i (entries P notw s (.expand w front tok back) s') s' := by
  obtain ⟨hmem, -⟩ := Option.ite_none_right_eq_some.1 hs
  obtain ⟨act, hsw⟩ := activeOf_of_mem h.rel.is hmem
  obtain ⟨-, hidx⟩ := activeOf_some hsw
  obtain ⟨jb, ph⟩ := act
  cases ph with
  | expanding rest =>
    cases rest with
    | nil =>
      simp only [entries, hsw]
      exact accepts_nil i (complete_sil h.rel hs hsw (r := none) rfl ⟨front, tok, back, rfl⟩)
    | cons t rest =>
      have hxw := rel_same h.rel hsw rfl
      simp only [disc, hsw, Bool.and_eq_true, beq_iff_eq] at hd
      obtain ⟨⟨hfront, htok⟩, hback⟩ := hd
      obtain ⟨x1, x2, hfx, hadv, hrel⟩ := expand_real h.rel hsw hs
      simp only [entries, hsw]
      refine accepts_one i ?_ hrel
      show oneExpand P (mode == .dfs) tv _ = _
      subst hfront hback htok
      rw [← h.rel.m.created] at hfx
      refine oneExpand_ok hxw rfl ?_ hfx hadv
      rw [h.rel.c.gen]
      by_cases hg : P.key t ∈ s.c.gen <;> simp [hg]
  | props n aw | recording n =>
    have hid : Checker.step P (.expand (s.aw.idxOf w) front) s.c = s.c := expand_stutter hidx (fun _ => nofun) front
    rw [fstep_expand_old (by rw [hid]; omega)] at hs
    rw [onJob_stutter hs hid]
    simp only [entries, hsw]
    exact accepts_nil i h.rel

end

variable (P)

def record (notw : Nat) (s : X) : List FStep → List Ev
  | [] => []
  | f :: fs =>
    match fstep P s f with
    | none => record notw s fs
    | some (s', _, _) => entries P notw s f s' ++ record notw s' fs

def disciplined (dfs : Bool) (s : X) : List FStep → Bool
  | [] => true
  | f :: fs =>
    match fstep P s f with
    | none => disciplined dfs s fs
    | some (s', _, _) => disc dfs s f && disciplined dfs s' fs

/-- `entries` without the bookkeeping entries in front (`book_entries`: `entries = bk ++ coreEntries`); the replay performs the
    step at these, and `pcAfter` is what a `TR_SPLIT` among them leaves of the collected sizes -/
def coreEntries (notw : Nat) (s : X) (f : FStep) (s' : X) : List Ev :=
  match f with
  | .split w _ => [splitEntry s w s']
  | .stop w _ => [⟨w, 10, 0, 0⟩]
  | .exit w => [⟨w, 10, 0, 0⟩]
  | f => entries P notw s f s'

def pcAfter (pc : List Nat) (s : X) : FStep → List Nat
  | .split _ _ => if s.m.isOpen then [] else pc
  | _ => pc

variable {P}

/-- the last entry of every kind of step is accepted when the bookkeeping the replay holds is the step's (`bookOk`); not `take`
    in on-demand mode (`hm`): its entries depend on the block structure of on_demand.rs -/
theorem core_complete {k notw : Nat} (hk : k ≤ notw) {mode : Mode} {tv : TV} {s s' : X} {f : FStep} {ms : List Step}
    {cs : List Choice} (h : TRel P k tv s) (hs : fstep P s f = some (s', ms, cs)) (hd : disc (mode == .dfs) s f = true)
    (hbk : bookOk tv.pieces tv.reason s f s' = true) (hm : mode = .ondemand → ∀ w p, f ≠ .take w p) (i : Nat) :
    ∃ tv', replay P k mode tv i (coreEntries P notw s f s') = .ok tv' ∧ TRel P k tv' s' ∧
      tv'.pieces = pcAfter tv.pieces s f ∧ tv'.reason = tv.reason := by
  -- unfolded first so that `notw` shows: the entries of most kinds do not mention it, and unification would leave it open
  cases f <;> simp only [coreEntries, pcAfter]
  case split w picks =>
    have hp : s.m.isOpen = true → tv.pieces = pieceSizes s s' := fun ho => by simpa [bookOk, ho] using hbk
    obtain ⟨x', hx', hrel⟩ := complete_split_core (mode := mode) h hs hp i
    exact ⟨_, hx', ⟨hrel, (fstep_pcs_length hs).trans h.len⟩, rfl, rfl⟩
  all_goals refine Accepts.trel h hs ?_
  case pop w => exact complete_pop h hs i
  case wake w => exact complete_wake h hs i
  case take w p => exact complete_take (fun e => hm e w p rfl) h hs (by simpa [disc] using hd) i
  case discard w p => simp [disc] at hd
  case evalProp w b => exact complete_evalProp h hs i
  case finishProps w => exact complete_finishProps h hs i
  case expand w front tok back => exact complete_expand h hs hd i
  case record w => exact complete_record h hs i
  case timeout => exact complete_timeout h hs i
  case xdrop => exact complete_xdrop hk h hs i
  case stop w why => exact complete_stop_core h hs hbk i
  case exit w => exact complete_exit_core h hs hbk i

/-- Where every step's bookkeeping entries immediately precede it (`Book`): the entries `bk` in front of the last ones leave just
    what the step consumes, and after it nothing is pending -/
theorem book_entries {k notw : Nat} {mode : Mode} {dfs : Bool} {tv : TV} {s s' : X} {f : FStep} {ms : List Step}
    {cs : List Choice} (hb : Book tv s) (hs : fstep P s f = some (s', ms, cs)) (hd : disc dfs s f = true) (i : Nat) :
    ∃ bk tv1, entries P notw s f s' = bk ++ coreEntries P notw s f s' ∧ replay P k mode tv i bk = .ok tv1 ∧
      tv1.x = tv.x ∧ bookOk tv1.pieces tv1.reason s f s' = true ∧ pcAfter tv1.pieces s f = [] ∧
      ∀ v, (tv1.reason.lookup v).isSome = true → s'.m.pcs[v]? = some .exited := by
  have hbr : ∀ v, (tv.reason.lookup v).isSome = true → s'.m.pcs[v]? = some .exited :=
    fun v hv => fstep_exited hs (hb.reason v hv)
  cases f with
  | split w picks =>
    by_cases hop : s.m.isOpen = true
    · refine ⟨_, { tv with pieces := tv.pieces ++ pieceSizes s s' }, ?_, replay_pieces k mode w _ tv i, rfl, ?_, ?_, hbr⟩
      · simp only [entries, coreEntries, splitEntry, hop, if_true]
      · simp [bookOk, hb.pieces]
      · simp only [pcAfter, hop, if_true]
    · refine ⟨[], tv, ?_, rfl, rfl, ?_, ?_, hbr⟩
      · simp only [entries, coreEntries, splitEntry, hop]
        rfl
      · simp [bookOk, hop]
      · simp only [pcAfter, hop, hb.pieces]
        rfl
  | stop w why =>
    obtain ⟨hrun, hex⟩ := stop_exited hs
    cases why with
    | timeout => cases hd
    | panic =>
      -- no `TR_STOP` entry, and none is remembered: `w` has not left yet
      have hnone : tv.reason.lookup w = none := by
        cases hl : tv.reason.lookup w with
        | none => rfl
        | some a =>
          have := hb.reason w (by rw [hl]; rfl)
          rw [hrun] at this
          cases this
      exact ⟨[], tv, rfl, rfl, rfl, by simp [bookOk, hnone], hb.pieces, hbr⟩
    -- a `TR_STOP` entry with the reason that `bookOk` asks for
    | finish | target =>
      exact ⟨_, _, rfl, replay_cons (one_stopping k mode tv w _) i [], rfl, by simp [bookOk], hb.pieces,
        book_reason_cons hb hs hex⟩
  | exit w =>
    exact ⟨_, _, rfl, replay_cons (one_stopping k mode tv w 4) i [], rfl, by simp [bookOk], hb.pieces,
      book_reason_cons hb hs (exit_exited hs)⟩
  | _ => exact ⟨[], tv, rfl, rfl, rfl, rfl, hb.pieces, hbr⟩

theorem step_complete {k notw : Nat} (hk : k ≤ notw) {mode : Mode} {tv : TV} {s s' : X} {f : FStep} {ms : List Step}
    {cs : List Choice} (h : TRel P k tv s) (hb : Book tv s) (hs : fstep P s f = some (s', ms, cs))
    (hd : disc (mode == .dfs) s f = true)
    (hm : mode = .ondemand → ∀ w p, f ≠ .take w p) (i : Nat) :
    ∃ tv', replay P k mode tv i (entries P notw s f s') = .ok tv' ∧ TRel P k tv' s' ∧ Book tv' s' := by
  obtain ⟨bk, tv1, he, h1, hx, hbk, hpc, hrs⟩ := book_entries (notw := notw) (k := k) (mode := mode) hb hs hd i
  obtain ⟨tv2, h2, hr2, hp2, hq2⟩ := core_complete (notw := notw) hk (tv := tv1) ⟨hx ▸ h.rel, h.len⟩ hs hd hbk hm
    (i + bk.length)
  refine ⟨tv2, ?_, hr2, hp2.trans hpc, fun v hv => hrs v (hq2 ▸ hv)⟩
  rw [he, replay_append, h1]
  exact h2

theorem replay_complete {k notw : Nat} (hk : k ≤ notw) {mode : Mode} (hm : mode ≠ .ondemand) (fs : List FStep) :
    ∀ (tv : TV) (s : X) (i : Nat), TRel P k tv s → Book tv s → disciplined P (mode == .dfs) s fs = true →
    ∃ tv', replay P k mode tv i (record P notw s fs) = .ok tv' ∧ TRel P k tv' (frunFrom P s fs).1 := by
  induction fs with
  | nil =>
    intro tv s i h _ _
    exact ⟨tv, rfl, h⟩
  | cons f fs ih =>
    intro tv s i h hb hd
    simp only [record, frunFrom, disciplined] at hd ⊢
    cases hs : fstep P s f with
    | none =>
      rw [hs] at hd
      exact ih tv s i h hb hd
    | some r =>
      obtain ⟨s', ms, cs⟩ := r
      rw [hs] at hd
      simp only [Bool.and_eq_true] at hd
      obtain ⟨tv1, h1, hr1, hb1⟩ := step_complete hk h hb hs hd.1 (fun e => (hm e).elim) i
      obtain ⟨tv', h', hr'⟩ := ih tv1 s' (i + (entries P notw s f s').length) hr1 hb1 hd.2
      refine ⟨tv', ?_, hr'⟩
      rw [replay_append, h1]
      exact h'

theorem trel_init (k : Nat) : TRel P k { x := finit P k, reason := [], pieces := [] } (finit P k) := by
  refine ⟨rel_refl (finv_init P k) ?_ ?_, ?_⟩
  · simp [finit, Checker.init, discNames]
  · intro w a ha
    have : activeOf (finit P k) w = none := by
      unfold activeOf
      simp [finit]
    rw [this] at ha
    cases ha
  · rw [finit_m]
    simp [m0, Market.init]

theorem book_init (k : Nat) : Book { x := finit P k, reason := [], pieces := [] } (finit P k) :=
  ⟨rfl, fun w hw => by simp at hw⟩

variable (P)

/-! `TR_SPLIT_PIECE` entries are written inside the critical section of `split_and_push`, `TR_STOP` when the worker decides to
leave; entries of OTHER threads that do not need the market mutex (`check_block`) can come in between, so a real log is an
interleaving of `Item`s: the steps of the product (each at its LAST entry) and the bookkeeping entries. -/

inductive Item where
  | step (f : FStep)
  /-- `TR_SPLIT_PIECE`: worker `w` publishes a batch of `n` jobs -/
  | piece (w n : Nat)
  /-- `TR_STOP`: worker `w` is about to leave for reason `a` -/
  | stopping (w a : Nat)

def itemLog (notw : Nat) (s : X) : List Item → List Ev
  | [] => []
  | .piece w n :: is => ⟨w, 8, n, 0⟩ :: itemLog notw s is
  | .stopping w a :: is => ⟨w, 24, a, 0⟩ :: itemLog notw s is
  | .step f :: is =>
    match fstep P s f with
    | none => itemLog notw s is
    | some (s', _, _) => coreEntries P notw s f s' ++ itemLog notw s' is

def itemsOk (dfs : Bool) : List Nat → List (Nat × Nat) → X → List Item → Bool
  | _, _, _, [] => true
  | pc, rs, s, .piece _ n :: is => itemsOk dfs (pc ++ [n]) rs s is
  | pc, rs, s, .stopping w a :: is => itemsOk dfs pc ((w, a) :: rs.filter (fun e => e.1 != w)) s is
  | pc, rs, s, .step f :: is =>
    match fstep P s f with
    | none => itemsOk dfs pc rs s is
    | some (s', _, _) => disc dfs s f && bookOk pc rs s f s' && itemsOk dfs (pcAfter pc s f) rs s' is

def itemSteps : List Item → List FStep
  | [] => []
  | .step f :: is => f :: itemSteps is
  | _ :: is => itemSteps is

variable {P}

/-- the induction of `replay_complete`, with `Book` replaced by `itemsOk`, which follows the announced pieces and reasons
    (`tv.pieces`, `tv.reason`) through the items and checks them at the step that consumes them (`bookOk`) -/
theorem items_complete {k notw : Nat} (hk : k ≤ notw) {mode : Mode} (hm : mode ≠ .ondemand) (is : List Item) :
    ∀ (tv : TV) (s : X) (i : Nat), TRel P k tv s → itemsOk P (mode == .dfs) tv.pieces tv.reason s is = true →
    ∃ tv', replay P k mode tv i (itemLog P notw s is) = .ok tv' ∧ TRel P k tv' (frunFrom P s (itemSteps is)).1 := by
  induction is with
  | nil =>
    intro tv s i h _
    exact ⟨tv, rfl, h⟩
  | cons it is ih =>
    intro tv s i h hok
    cases it with
    | piece w n =>
      simp only [itemLog, itemSteps, itemsOk] at hok ⊢
      rw [replay_cons (one_piece k mode tv w n)]
      exact ih _ s (i + 1) ⟨h.rel, h.len⟩ hok
    | stopping w a =>
      simp only [itemLog, itemSteps, itemsOk] at hok ⊢
      rw [replay_cons (one_stopping k mode tv w a)]
      exact ih _ s (i + 1) ⟨h.rel, h.len⟩ hok
    | step f =>
      simp only [itemLog, itemSteps, frunFrom, itemsOk] at hok ⊢
      cases hs : fstep P s f with
      | none =>
        rw [hs] at hok
        exact ih tv s i h hok
      | some r =>
        obtain ⟨s', ms, cs⟩ := r
        rw [hs] at hok
        simp only [Bool.and_eq_true] at hok
        obtain ⟨⟨hd, hbk⟩, hrest⟩ := hok
        obtain ⟨tv1, h1, hr1, hp1, hq1⟩ := core_complete (notw := notw) hk h hs hd hbk (fun e => (hm e).elim) i
        obtain ⟨tv', h', hr'⟩ := ih tv1 s' (i + (coreEntries P notw s f s').length) hr1 (by rw [hp1, hq1]; exact hrest)
        refine ⟨tv', ?_, hr'⟩
        rw [replay_append, h1]
        exact h'

end SR.ReplayComplete.Full
