import SR.Checker.Parents
import SR.Proofs.Checker.Once
import SR.Proofs.PathApi
/-!
The parent map built along any run of the checker machine (`SR/Checker/Parents.lean`) is a `GenOK` map (read
newest-first), and every path the machine holds — of a job, a visit, a discovery — is the path that the entry of its
last state carries.
-/
namespace SR.Checker
open SR SR.PathApi

section
variable {σ κ α : Type}

structure Held (Q : List σ → Prop) (s : St σ κ) : Prop where
  fr : ∀ j ∈ s.frontier, Q j.path
  ac : ∀ a ∈ s.active, Q a.job.path
  vis : ∀ p ∈ s.visits, Q p
  dsc : ∀ e ∈ s.disc, Q e.2

theorem Held.of {Q : List σ → Prop} {s : St σ κ} (h : Held Q s) {p : List σ}
    (hp : (∃ j ∈ s.frontier, j.path = p) ∨ (∃ a ∈ s.active, a.job.path = p) ∨ p ∈ s.visits ∨ (∃ e ∈ s.disc, e.2 = p)) :
    Q p := by
  rcases hp with ⟨j, hj, rfl⟩ | ⟨a, ha, rfl⟩ | hp | ⟨e, he, rfl⟩
  · exact h.fr j hj
  · exact h.ac a ha
  · exact h.vis p hp
  · exact h.dsc e he

theorem Held.imp {Q Q' : List σ → Prop} {s : St σ κ} (h : Held Q s) (hq : ∀ p, Q p → Q' p) : Held Q' s :=
  ⟨fun j hj => hq _ (h.fr j hj), fun a ha => hq _ (h.ac a ha), fun p hp => hq _ (h.vis p hp),
    fun e he => hq _ (h.dsc e he)⟩

end

section
variable {σ α : Type} {P : Params σ Nat α}

theorem stepParents_work {d d' : List (Nat × List σ)} {j : Job σ} {w : Nat} {c : Choice} {ph : Phase σ} {a' : Active σ}
    (hw : Work P d j w c ph d' a') (s : St σ Nat) (g : Gen) : stepParents P c s g = g := by
  cases hw
  all_goals rfl

theorem stepParents_idle {c : Choice} {s : St σ Nat} (h : ¬ Enabled P c s) (g : Gen) : stepParents P c s g = g := by
  unfold stepParents
  split
  · split
    · rename_i ha
      exact absurd ⟨_, _, ha⟩ h
    · rfl
  · rfl

theorem parents_step (c : Choice) (s : St σ Nat) (g : Gen) :
    ((step P c s).gen = s.gen ∧ stepParents P c s g = g ∧ ∀ Q, Held Q s → Held Q (step P c s)) ∨
    ∃ j t rest, (⟨j, .expanding (t :: rest)⟩ : Active σ) ∈ s.active ∧ P.key t ∉ s.gen ∧
      (step P c s).gen = s.gen ++ [P.key t] ∧ stepParents P c s g = g ++ [(P.key t, some (P.key j.st))] ∧
      ∀ Q, Held Q s → Q (j.path ++ [t]) → Held Q (step P c s) := by
  rcases step_spec c s with ⟨hne, he⟩ | ⟨_, m⟩
  · rw [he]
    exact .inl ⟨rfl, stepParents_idle hne g, fun _ h => h⟩
  generalize step P c s = s' at m ⊢
  cases m with
  | take hj _ =>
    refine .inl ⟨rfl, rfl, fun Q h => ?_⟩
    have hq := h.fr _ (List.mem_of_getElem? hj)
    exact ⟨forall_mem_eraseIdx _ h.fr, forall_mem_concat h.ac hq, List.forall_mem_cons.2 ⟨hq, h.vis⟩, h.dsc⟩
  | tooDeep | dropJob => exact .inl ⟨rfl, rfl, fun Q h => ⟨forall_mem_eraseIdx _ h.fr, h.ac, h.vis, h.dsc⟩⟩
  | work ha hw =>
    refine .inl ⟨rfl, stepParents_work hw s g, fun Q h => ?_⟩
    have hq := h.ac _ (List.mem_of_getElem? ha)
    refine ⟨h.fr, forall_mem_set _ h.ac (hw.path_eq ▸ hq), h.vis, ?_⟩
    rcases hw.disc_eq with rfl | ⟨i, rfl⟩
    · exact h.dsc
    · exact fun e he => (mem_discInsert he).elim (· ▸ hq) (h.dsc e)
  | giveUp | recorded | abandon =>
    exact .inl ⟨rfl, rfl, fun Q h => ⟨h.fr, forall_mem_eraseIdx _ h.ac, h.vis, h.dsc⟩⟩
  | expanded ha =>
    exact .inl ⟨rfl, by simp only [stepParents, ha], fun Q h => ⟨h.fr, forall_mem_eraseIdx _ h.ac, h.vis, h.dsc⟩⟩
  | seen ha hg =>
    exact .inl ⟨rfl, by simp only [stepParents, ha, if_pos hg], fun Q h =>
      ⟨h.fr, forall_mem_set _ h.ac (h.ac _ (List.mem_of_getElem? ha) :), h.vis, h.dsc⟩⟩
  | @fresh w j t rest front ha hg =>
    exact .inr ⟨j, t, rest, List.mem_of_getElem? ha, hg, rfl, by simp only [stepParents, ha, if_neg hg], fun Q h hq =>
      ⟨forall_mem_enqueue front h.fr hq, forall_mem_set _ h.ac (h.ac _ (List.mem_of_getElem? ha) :), h.vis, h.dsc⟩⟩
  | stop => exact .inl ⟨rfl, rfl, fun _ h => ⟨h.fr, h.ac, h.vis, h.dsc⟩⟩

theorem keys_step (c : Choice) (s : St σ Nat) (g : Gen) (h : g.map (·.1) = s.gen) :
    (stepParents P c s g).map (·.1) = (step P c s).gen := by
  rcases parents_step (P := P) c s g with ⟨hg, hpar, _⟩ | ⟨j, t, rest, _, _, hg, hpar, _⟩
  · rw [hpar, hg, h]
  · rw [hpar, hg, List.map_append, h]
    rfl

theorem stepParents_append (c : Choice) (s : St σ Nat) (g : Gen) : ∃ ext, stepParents P c s g = g ++ ext := by
  rcases parents_step (P := P) c s g with ⟨_, hpar, _⟩ | ⟨_, _, _, _, _, _, hpar, _⟩
  · exact ⟨[], by rw [hpar, List.append_nil]⟩
  · exact ⟨_, hpar⟩

variable (P)

/-- `gp` is `g` newest first, each entry with the state path along its parent pointers -/
structure PInvG (gp : List ((Nat × Option Nat) × List σ)) (s : St σ Nat) (g : Gen) : Prop where
  keys : g.map (·.1) = s.gen
  ok : GenOK P.M P.key gp
  rev : gp.map (·.1) = g.reverse
  has : Held (fun p => ∃ st par, p.getLast? = some st ∧ ((P.key st, par), p) ∈ gp) s

variable {P}

theorem parentsInit_keys (key : σ → Nat) (is : List σ) (g : Gen) :
    (parentsInit key is g).map (·.1) = genInit key is (g.map (·.1)) := by
  induction is generalizing g with
  | nil => rfl
  | cons s ss ih =>
    simp only [parentsInit, genInit]
    rw [ih]
    by_cases h : key s ∈ g.map (·.1)
    · rw [if_pos ((get_isSome_iff g _).2 h), if_pos h]
    · rw [if_neg (fun h' => h ((get_isSome_iff g _).1 h')), if_neg h]
      simp

theorem mem_keys_of_map_reverse {gp : List ((Nat × Option Nat) × List σ)} {g : Gen}
    (hmap : gp.map (·.1) = g.reverse) (k : Nat) : k ∈ (gp.map (·.1)).map (·.1) ↔ k ∈ g.map (·.1) := by
  rw [hmap, List.map_reverse, List.mem_reverse]

theorem parentsInit_ok (is : List σ) :
    ∀ (g : Gen) (gp : List ((Nat × Option Nat) × List σ)), (∀ s ∈ is, s ∈ P.M.init) →
      GenOK P.M P.key gp → gp.map (·.1) = g.reverse → (∀ e ∈ gp, ∃ s', e = ((P.key s', none), [s'])) →
      ∃ gp', GenOK P.M P.key gp' ∧ gp'.map (·.1) = (parentsInit P.key is g).reverse ∧
        ∀ e ∈ gp', ∃ s', e = ((P.key s', none), [s']) := by
  induction is with
  | nil => exact fun g gp _ hok hmap hroots => ⟨gp, hok, hmap, hroots⟩
  | cons s ss ih =>
    intro g gp his hok hmap hroots
    have his' : ∀ x ∈ ss, x ∈ P.M.init := fun x hx => his x (List.mem_cons_of_mem _ hx)
    simp only [parentsInit]
    by_cases h : (Gen.get g (P.key s)).isSome
    · rw [if_pos h]
      exact ih g gp his' hok hmap hroots
    · rw [if_neg h]
      have hnone : Gen.get (gp.map (·.1)) (P.key s) = none := by
        rw [get_eq_none_iff]
        exact fun hk => h ((get_isSome_iff g _).2 ((mem_keys_of_map_reverse hmap _).1 hk))
      exact ih (g ++ [(P.key s, none)]) _ his' (GenOK.root hok (his s List.mem_cons_self) hnone) (by simp [hmap])
        (List.forall_mem_cons.2 ⟨⟨s, rfl⟩, hroots⟩)

theorem keys_init : (parentsInit P.key P.M.initB []).map (·.1) = (init P.M P.props P.key).gen :=
  parentsInit_keys P.key P.M.initB []

theorem pinvG_init (inj : ∀ x y, P.key x = P.key y → x = y) :
    ∃ gp, PInvG P gp (init P.M P.props P.key) (parentsInit P.key P.M.initB []) := by
  obtain ⟨gp, h1, h2, h3⟩ := parentsInit_ok (P := P) P.M.initB [] []
    (fun s hs => (Sys.mem_initB.1 hs).1) .nil rfl nofun
  refine ⟨gp, keys_init, h1, h2, fun j hj => ?_, nofun, nofun, nofun⟩
  obtain ⟨s, hs, rfl⟩ := mem_init_frontier hj
  -- the key of `s` has an entry (`genInit_spec`), a root, and of `s` itself since `key` is injective
  have hk : P.key s ∈ (gp.map (·.1)).map (·.1) :=
    (mem_keys_of_map_reverse h2 _).2 (keys_init ▸ ((genInit_spec P.key P.M.initB []).1 _).2 (.inr ⟨s, hs, rfl⟩))
  simp only [List.mem_map] at hk
  obtain ⟨_, ⟨e, he, rfl⟩, hke⟩ := hk
  obtain ⟨s', rfl⟩ := h3 e he
  cases inj _ _ hke
  exact ⟨s, none, rfl, he⟩

theorem pinvG_step (c : Choice) {gp : List ((Nat × Option Nat) × List σ)} {s : St σ Nat} {g : Gen} (hs : SInv P s)
    (h : PInvG P gp s g) : ∃ gp', PInvG P gp' (step P c s) (stepParents P c s g) := by
  rcases parents_step (P := P) c s g with ⟨hg, hpar, hp⟩ | ⟨j, t, rest, ham, hin, hg, hpar, hp⟩
  · rw [hpar]
    exact ⟨gp, h.keys.trans hg.symm, h.ok, h.rev, hp _ h.has⟩
  · rw [hpar]
    -- the worker's path has its entry (`has.ac`); the new entry is a `GenOK.child` of that one
    obtain ⟨st, par, hl, hm⟩ := h.has.ac _ ham
    have hlast : j.path.getLast? = some j.st := (hs.ac _ ham).last
    obtain rfl : st = j.st := Option.some.inj (hl.symm.trans hlast)
    have hsucc : t ∈ P.M.succAll j.st := (List.mem_filter.1 (hs.exp _ ham _ rfl t List.mem_cons_self)).1
    have hnone : Gen.get (gp.map (·.1)) (P.key t) = none := by
      rw [get_eq_none_iff]
      exact fun hk => hin (h.keys ▸ (mem_keys_of_map_reverse h.rev _).1 hk)
    refine ⟨_, ?_, GenOK.child h.ok hm hlast hsucc hnone, by simp [h.rev],
      hp _ (h.has.imp fun p ⟨st', par', hl', hm'⟩ => ⟨st', par', hl', List.mem_cons_of_mem _ hm'⟩)
        ⟨t, some (P.key j.st), by simp, List.mem_cons_self⟩⟩
    rw [hg, List.map_append, h.keys]
    rfl

theorem runPFrom_fst (sg : St σ Nat × Gen) (cs : List Choice) : (runPFrom P sg cs).1 = runFrom P sg.1 cs :=
  (List.foldl_hom Prod.fst fun _ _ => rfl).symm

theorem runP_fst (cs : List Choice) : (runP P cs).1 = run P cs := runPFrom_fst _ cs

theorem runPFrom_induction (Inv : St σ Nat → Gen → Prop)
    (hstep : ∀ c s g, Inv s g → Inv (step P c s) (stepParents P c s g))
    (sg : St σ Nat × Gen) (h0 : Inv sg.1 sg.2) (cs : List Choice) :
    Inv (runPFrom P sg cs).1 (runPFrom P sg cs).2 := by
  unfold runPFrom
  induction cs generalizing sg with
  | nil => exact h0
  | cons c cs ih => exact ih _ (hstep c sg.1 sg.2 h0)

theorem pinvG_run (inj : ∀ x y, P.key x = P.key y → x = y) (cs : List Choice) :
    ∃ gp, PInvG P gp (runP P cs).1 (runP P cs).2 :=
  (runPFrom_induction (fun s g => SInv P s ∧ ∃ gp, PInvG P gp s g)
    (fun c _ _ ⟨hs, _, h⟩ => ⟨sinv_step c hs, pinvG_step c hs h⟩)
    (init P.M P.props P.key, parentsInit P.key P.M.initB []) ⟨sinv_init, pinvG_init inj⟩ cs).2

theorem keys_run (cs : List Choice) : (runP P cs).2.map (·.1) = (runP P cs).1.gen :=
  runPFrom_induction (P := P) (fun s g => g.map (·.1) = s.gen) keys_step
    (init P.M P.props P.key, parentsInit P.key P.M.initB []) keys_init cs

theorem runPFrom_append (sg : St σ Nat × Gen) (cs : List Choice) : ∃ ext, (runPFrom P sg cs).2 = sg.2 ++ ext :=
  runPFrom_induction (fun _ g => ∃ ext, g = sg.2 ++ ext)
    (fun c s g ⟨e1, h1⟩ =>
      let ⟨e2, h2⟩ := stepParents_append (P := P) c s g
      ⟨e1 ++ e2, by rw [h2, h1, List.append_assoc]⟩)
    sg ⟨[], (List.append_nil _).symm⟩ cs

theorem runP_append (cs cs' : List Choice) : runP P (cs ++ cs') = runPFrom P (runP P cs) cs' := by
  simp only [runP, runPFrom, List.foldl_append]

/-- a path the machine holds after `cs` is what `reconstruct_path` returns then and at every later moment: the map only
    grows at its end and never holds a key twice, so the later map still holds every entry of the earlier one -/
theorem reconstruct_later (inj : ∀ x y, P.key x = P.key y → x = y) (cs cs' : List Choice) :
    Held (fun p => ∃ q st, p.getLast? = some st ∧ reconstructPath P.M P.key (runP P (cs ++ cs')).2 (P.key st) = some q ∧
      intoStates q = p ∧ IsExec P.M q) (run P cs) := by
  obtain ⟨gp, h⟩ := pinvG_run inj cs
  obtain ⟨ext, hext⟩ := runPFrom_append (runP P cs) cs'
  rw [← runP_append] at hext
  refine (runP_fst (P := P) cs ▸ h.has).imp fun p ⟨st, par, hl, hm⟩ => ?_
  have hn : ((runP P (cs ++ cs')).2.map (·.1)).Nodup := by
    rw [keys_run, runP_fst]
    exact (ninv_run _).genNodup
  obtain ⟨q, hq, hst, hex, _⟩ := genOK_reconstruct inj h.ok
    (fun e he => (get_of_nodup hn _ _).2
      (hext ▸ List.mem_append_left _ (List.mem_reverse.1 (h.rev ▸ List.mem_map_of_mem he))))
    (by
      rw [hext, ← List.length_map (f := (·.1)), h.rev, List.length_reverse, List.length_append]
      exact Nat.le_add_right ..) hm
  exact ⟨q, st, hl, hq, hst, hex⟩

end
end SR.Checker
