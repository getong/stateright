import SR.Proofs.Checker.Verdict
/-!
Run-control invariants of the checker machine: reasons for `early`, reasons for `stopped`, monotone counters and
discoveries, neutrality of an unexpired timeout.
-/
namespace SR.Checker
open SR

section
variable {σ κ α : Type} [DecidableEq κ]
variable (P : Params σ κ α)

/-- one disjunct per way of dropping a job unexpanded: `tooDeep` (the depth test's `continue`), `dropJob` / `abandon` once a worker
    has stopped, `giveUp` / `dropJob` when every property has a discovery.  The first is a fact about the configuration, not the moment. -/
def EarlyReason (s : St σ κ) : Prop :=
  s.early = true → P.cfg.maxDepth.isSome = true ∨ s.stopped = true ∨ allDiscovered P s = true

variable {P}

theorem allDiscovered_mono {s s' : St σ κ} (h : ∀ k, hasDisc s.disc k = true → hasDisc s'.disc k = true)
    (ha : allDiscovered P s = true) : allDiscovered P s' = true :=
  (allDiscovered_eq_true_iff s').2 fun i hi => h i ((allDiscovered_eq_true_iff s).1 ha i hi)

structure Mono (s s' : St σ κ) : Prop where
  disc : ∀ k, hasDisc s.disc k = true → hasDisc s'.disc k = true
  stopped : s.stopped = true → s'.stopped = true
  early : s.early = true → s'.early = true
  count : s.stateCount ≤ s'.stateCount
  depth : s.maxDepth ≤ s'.maxDepth
  gen : s.gen.length ≤ s'.gen.length

theorem Mono.refl (s : St σ κ) : Mono s s := ⟨fun _ h => h, id, id, Nat.le_refl _, Nat.le_refl _, Nat.le_refl _⟩
theorem Mono.trans {a b c : St σ κ} (h1 : Mono a b) (h2 : Mono b c) : Mono a c :=
  ⟨fun k h => h2.disc k (h1.disc k h), fun h => h2.stopped (h1.stopped h), fun h => h2.early (h1.early h),
   Nat.le_trans h1.count h2.count, Nat.le_trans h1.depth h2.depth, Nat.le_trans h1.gen h2.gen⟩

theorem mono_move {c : Choice} {s s' : St σ κ} (m : Move P s c s') : Mono s s' := by
  cases m with
  | take => exact { Mono.refl s with depth := Nat.le_max_left _ _ }
  | tooDeep => exact { Mono.refl s with depth := Nat.le_max_left _ _, early := fun _ => rfl }
  | work _ hw =>
    rcases hw.disc_eq with rfl | ⟨_, rfl⟩
    · exact { Mono.refl s with }
    · exact { Mono.refl s with disc := fun _ => hasDisc_insert_mono }
  | seen => exact { Mono.refl s with count := Nat.le_succ _ }
  | fresh => exact { Mono.refl s with count := Nat.le_succ _, gen := by simp }
  | stop => exact { Mono.refl s with stopped := fun _ => rfl }
  | expanded | recorded => exact { Mono.refl s with }
  | giveUp | dropJob | abandon => exact { Mono.refl s with early := fun _ => rfl }

theorem mono_step (c : Choice) (s : St σ κ) : Mono s (step P c s) :=
  step_cases c (Mono.refl s) fun _ m => mono_move m

theorem mono_runFrom (s : St σ κ) (cs : List Choice) : Mono s (runFrom P s cs) :=
  runFrom_induction (Mono s) (fun c s' h => h.trans (mono_step c s')) s (Mono.refl s) cs

omit [DecidableEq κ] in
theorem discNames_subset_of_mono {s s' : St σ κ} (h : Mono s s') : discNames s.disc ⊆ discNames s'.disc := by
  intro i hi
  exact (mem_discNames_iff _ i).2 (h.disc i ((mem_discNames_iff _ i).1 hi))

theorem earlyReason_move {c : Choice} {s s' : St σ κ} (m : Move P s c s') (hv : VInv P s) (h : EarlyReason P s) :
    EarlyReason P s' := by
  -- a reason, once there, stays; so only the moves that set `early` have to give one
  have persist : s.early = true → P.cfg.maxDepth.isSome = true ∨ s'.stopped = true ∨ allDiscovered P s' = true :=
    fun he => (h he).imp_right (Or.imp (mono_move m).stopped (allDiscovered_mono (mono_move m).disc))
  cases m with
  | tooDeep _ hd => exact fun _ => .inl (by simp [hd])
  | giveUp ha hi =>
    -- `awaiting` still false after the loop: the worker saw a discovery for every property (second clause of `VAct`)
    exact fun _ => .inr (.inr ((allDiscovered_eq_true_iff _).2 fun k hk =>
      (hv.ac _ (List.mem_of_getElem? ha)).2 _ rfl k (Nat.lt_of_lt_of_le hk hi) hk))
  | dropJob hc => exact fun _ => .inr (Bool.or_eq_true_iff.1 hc)
  | abandon hc => exact fun _ => .inr (.inl hc)
  | _ => exact persist

theorem earlyReason_run (cs : List Choice) : EarlyReason P (run P cs) :=
  (run_cases (Inv := fun s => VInv P s ∧ EarlyReason P s) ⟨vinv_init, nofun⟩
    (fun m hs h => ⟨vinv_laws.move m hs h.1, earlyReason_move m h.1 h.2⟩) cs).2

theorem step_stopped (c : Choice) (s : St σ κ) (h : (step P c s).stopped = true) :
    s.stopped = true ∨ ∃ why, c = .stop why ∧ stopEnabled P why s = true := by
  refine step_cases (Inv := fun s' => s'.stopped = true → _) c .inl (fun s' m h => ?_) h
  cases m with
  | stop hen => exact .inr ⟨_, rfl, hen⟩
  | _ => exact .inl h

theorem stopped_only_if (s0 : St σ κ) (h0 : s0.stopped = false) (cs : List Choice)
    (h : (runFrom P s0 cs).stopped = true) :
    ∃ pre why post, cs = pre ++ Choice.stop why :: post ∧ stopEnabled P why (runFrom P s0 pre) = true := by
  induction cs generalizing s0 with
  | nil => simp [runFrom, h0] at h
  | cons c cs ih =>
    cases hst : (step P c s0).stopped with
    | true =>
      rcases step_stopped c s0 hst with h1 | ⟨why, rfl, hen⟩
      · rw [h0] at h1
        cases h1
      · exact ⟨[], why, cs, rfl, hen⟩
    | false =>
      obtain ⟨pre, why, post, hcs, hen⟩ := ih _ hst h
      exact ⟨c :: pre, why, post, congrArg (c :: ·) hcs, hen⟩

def noTimeout (P : Params σ κ α) : Params σ κ α := { P with cfg := { P.cfg with timeout := false } }

theorem step_noTimeout (c : Choice) (hc : c ≠ .stop .timeout) (s : St σ κ) :
    step (noTimeout P) c s = step P c s := by
  cases c with
  | stop why =>
    cases why with
    | timeout => exact absurd rfl hc
    | _ => rfl
  | _ => rfl

theorem runFrom_noTimeout (cs : List Choice) (hc : ∀ c ∈ cs, c ≠ .stop .timeout) (s : St σ κ) :
    runFrom (noTimeout P) s cs = runFrom P s cs := by
  unfold runFrom
  induction cs generalizing s with
  | nil => rfl
  | cons c cs ih =>
    simp only [List.foldl_cons]
    rw [step_noTimeout c (hc c List.mem_cons_self)]
    exact ih (fun c' hc' => hc c' (List.mem_cons_of_mem _ hc')) _

end
end SR.Checker
