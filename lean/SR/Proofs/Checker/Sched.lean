import SR.Checker.Sched
import SR.Proofs.Checker.Termination
/-!
What one iteration of the worker loop of `SR/Checker/Sched.lean` emits (`Emit`, `schedNext_spec`).  `wgt` stands here because
`Emit.block` says by it that a block starts or ends.
-/
namespace SR.Checker
open SR

section
variable {σ κ α : Type} [DecidableEq κ]
variable {P : Params σ κ α}

/-- An upper bound on the iterations without a machine step that can follow.  Starting a block (`bl = 0`, jobs
    pending) or ending one (`bl > 0`, nothing pending) is when budget and frontier disagree (2); then they agree (1). -/
def wgt (s : St σ κ) (bl : Nat) : Nat :=
  if (decide (bl = 0)) = s.frontier.isEmpty then 1 else 2

theorem wgt_le (s : St σ κ) (bl : Nat) : wgt s bl ≤ 2 := by
  unfold wgt
  split <;> omega

theorem active_nil_of_getElem?_none {s : St σ κ} (h : s.active[0]? = none) : s.active = [] :=
  List.eq_nil_of_length_eq_zero (Nat.le_zero.1 (List.getElem?_eq_none_iff.1 h))

variable (P) in
/-- `work`: the `dropJob`s are what on_demand.rs drops of the block it had drained when it leaves a block early. -/
inductive Emit (d : Discipline) (s : St σ κ) (bl : Nat) : Option (List Choice × Nat) → Prop
  | work {a : Active σ} (n bl' : Nat) (ha : s.active[0]? = some a) :
      Emit d s bl (some (w0choice P (d == .dfs) a :: List.replicate n (.dropJob 0), bl'))
  | stop {why : Why} (bl' : Nat) (ha : s.active = []) (hns : s.stopped = false) (hen : stopEnabled P why s = true) :
      Emit d s bl (some (.stop why :: List.replicate s.frontier.length (.dropJob 0), bl'))
  | block {bl' : Nat} (hw : wgt s bl' < wgt s bl) : Emit d s bl (some ([], bl'))
  | take (bl' : Nat) (ha : s.active = []) (hns : s.stopped = false) (hf : s.frontier ≠ []) :
      Emit d s bl (some ([.take 0], bl'))
  | done (ha : s.active = []) (h : s.stopped = true ∨ s.frontier = []) : Emit d s bl none

theorem schedNext_spec (d : Discipline) (s : St σ κ) (bl : Nat) : Emit P d s bl (schedNext P d s bl) := by
  have busy := fun {a} n bl' ha => Emit.work (P := P) (d := d) (s := s) (bl := bl) (a := a) n bl' ha
  have idle : s.active[0]? = none → ¬ s.stopped = true → s.active = [] ∧ s.stopped = false :=
    fun h0 hst => ⟨active_nil_of_getElem?_none h0, Bool.eq_false_iff.2 hst⟩
  -- the branches of `schedNext` as it is written: 1–5 worker 0 is busy (by phase), 6 stopped, 7–10 between two blocks,
  -- 11–12 inside a block
  fun_cases schedNext P d s bl
  case case1 a ha i aw hph hi => simpa only [w0choice, hph, if_pos hi, List.replicate_zero] using busy 0 bl ha
  case case2 a ha i aw hph hi haw =>
    cases hd : d == .ondemand
    · simpa only [w0choice, hph, if_neg hi, List.replicate_zero, Bool.false_eq_true, if_false] using busy 0 0 ha
    · simpa only [w0choice, hph, if_neg hi, if_true] using busy bl 0 ha
  case case3 a ha i aw hph hi haw => simpa only [w0choice, hph, if_neg hi, List.replicate_zero] using busy 0 bl ha
  case case4 a ha rest hph => simpa only [w0choice, hph, List.replicate_zero] using busy 0 bl ha
  case case5 a ha i hph => simpa only [w0choice, hph, List.replicate_zero] using busy 0 bl ha
  case case6 h0 hst => exact .done (active_nil_of_getElem?_none h0) (.inl hst)
  case case7 h0 hst _ hen => exact .stop 0 (idle h0 hst).1 (idle h0 hst).2 hen
  case case8 h0 hst _ _ hen => exact .stop 0 (idle h0 hst).1 (idle h0 hst).2 hen
  case case9 h0 _ _ _ _ hfe => exact .done (active_nil_of_getElem?_none h0) (.inr (List.isEmpty_iff.1 hfe))
  case case10 h0 hst hbl _ _ hfe =>
    -- a block starts: it is not empty
    refine .block ?_
    have hfl : s.frontier.length ≠ 0 := fun h0 => hfe (by rw [List.eq_nil_of_length_eq_zero h0]; rfl)
    have hb : (if (d == Discipline.ondemand) = true then min blockSize s.frontier.length else blockSize) ≠ 0 := by
      unfold blockSize
      split <;> omega
    unfold wgt
    rw [hbl, Bool.eq_false_iff.2 hfe, decide_eq_false hb]
    decide
  case case11 h0 hst hbl hfe =>
    refine .block ?_
    unfold wgt
    rw [hfe, decide_eq_false hbl]
    decide
  case case12 h0 hst hbl hfe => exact .take _ (idle h0 hst).1 (idle h0 hst).2 fun e => hfe (by rw [e]; rfl)

end
end SR.Checker
