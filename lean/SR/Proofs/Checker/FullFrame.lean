import SR.Proofs.ListAux
import SR.Proofs.Market
import SR.Proofs.Checker.Moves
import SR.Checker.Full
/-! Frame lemmas for the product `Checker/Full.lean`: what a step of the machine, or of the market, does to the parts of the
state the product looks at. -/
namespace SR.Full
open SR SR.Checker SR.Market

theorem mseq_cons_some {m m' : MState} {s : Step} {ss : List Step} (h : mseq m (s :: ss) = some m') :
    ∃ m1, Market.step m s = some m1 ∧ mseq m1 ss = some m' :=
  Option.bind_eq_some_iff.1 h

theorem mseq_single (m : MState) (s : Step) : mseq m [s] = Market.step m s :=
  Option.bind_fun_some _

theorem mseq_mrun : ∀ (ms : List Step) {m m' : MState}, mseq m ms = some m' → mrun m ms = m'
  | [], _, _, h => Option.some.inj h
  | _ :: ss, _, _, h => by
    obtain ⟨m1, h1, h2⟩ := mseq_cons_some h
    simpa [mrun, h1] using mseq_mrun ss h2

section
variable {σ κ α : Type} [DecidableEq κ] (P : Params σ κ α)

theorem take_shape_none (i : Nat) (s : St σ κ) (hi : ¬ i < s.frontier.length) : stepTake P i s = s := by
  unfold stepTake
  rw [List.getElem?_eq_none (by omega)]

/-- a step on the job at position `w` of `active`: the worker keeps its slot or retires -/
structure JobShape (w : Nat) (s s' : St σ κ) : Prop where
  frontier : s'.frontier = s.frontier
  stopped : s'.stopped = s.stopped
  active : s'.active.length = s.active.length ∨ (w < s.active.length ∧ s'.active.length + 1 = s.active.length)

omit [DecidableEq κ] in
theorem jobShape_refl (w : Nat) (s : St σ κ) : JobShape w s s := ⟨rfl, rfl, Or.inl rfl⟩

/-- what a move under the choice `c` does to the parts of the machine state the product looks at (`stop` and `abandon` it
    performs under known guards: `stop_shape`, `runFrom_stop_abandon`) -/
def Counts (c : Choice) (s s' : St σ κ) : Prop :=
  match c with
  | .take _ => s'.frontier.length + 1 = s.frontier.length ∧
      (s'.active.length = s.active.length ∨ s'.active.length = s.active.length + 1) ∧ s'.stopped = s.stopped
  | .evalProp w _ | .finishProps w | .record w => JobShape w s s'
  | .expand w _ => JobShape w s s' ∨
      (s'.frontier.length = s.frontier.length + 1 ∧ s'.active.length = s.active.length ∧ s'.stopped = s.stopped)
  | .dropJob _ => s'.frontier.length + 1 = s.frontier.length ∧ s'.stopped = s.stopped ∧ allDiscovered P s' = allDiscovered P s
  | .stop _ | .abandon _ => True

variable {P} in
omit [DecidableEq κ] in
theorem move_counts {c : Choice} {s s' : St σ κ} (h : Move P s c s') : Counts P c s s' := by
  cases h with
  | take hj | tooDeep hj => exact ⟨length_eraseIdx_add_one (lt_length_of_getElem? hj), by simp, rfl⟩
  | work _ hw => cases hw <;> exact ⟨rfl, rfl, .inl List.length_set⟩
  | giveUp ha | recorded ha =>
    exact ⟨rfl, rfl, .inr ⟨lt_length_of_getElem? ha, length_eraseIdx_add_one (lt_length_of_getElem? ha)⟩⟩
  | expanded ha =>
    exact .inl ⟨rfl, rfl, .inr ⟨lt_length_of_getElem? ha, length_eraseIdx_add_one (lt_length_of_getElem? ha)⟩⟩
  | seen => exact .inl ⟨rfl, rfl, .inl List.length_set⟩
  | fresh f => exact .inr ⟨by cases f <;> simp, List.length_set, rfl⟩
  | dropJob _ hj => exact ⟨length_eraseIdx_add_one (lt_length_of_getElem? hj), rfl, rfl⟩
  | stop | abandon => trivial

variable {P} in
theorem step_counts {c : Choice} {s : St σ κ} (h : Enabled P c s) : Counts P c s (Checker.step P c s) :=
  (step_spec c s).elim (fun hn => absurd h hn.1) fun hm => move_counts hm.2

theorem stop_shape (why : Why) (s : St σ κ) :
    (Checker.step P (.stop why) s).frontier = s.frontier ∧ (Checker.step P (.stop why) s).active = s.active ∧
    (stopEnabled P why s = true → (Checker.step P (.stop why) s).stopped = true) := by
  dsimp only [Checker.step, stepStop]
  split
  · exact ⟨rfl, rfl, fun _ => rfl⟩
  · rename_i h
    exact ⟨rfl, rfl, fun h' => absurd h' h⟩

/-- a worker leaves for `why`; `b`: it has a job, in slot `i` -/
theorem runFrom_stop_abandon {s : St σ κ} {why : Why} (hen : stopEnabled P why s = true) (b : Prop) [Decidable b] {i : Nat}
    (hi : b → i < s.active.length) :
    runFrom P s (.stop why :: if b then [.abandon i] else []) =
      if b then { s with stopped := true, active := s.active.eraseIdx i, early := true } else { s with stopped := true } := by
  by_cases hb : b
  · simp only [if_pos hb, runFrom, List.foldl_cons, List.foldl_nil, Checker.step, stepStop, if_pos hen, stepAbandon, if_true,
      List.getElem?_eq_getElem (hi hb)]
  · simp only [if_neg hb, runFrom, List.foldl_cons, List.foldl_nil, Checker.step, stepStop, if_pos hen]

theorem dropToks_perm : ∀ (gone : List Tok) {ft rest : List Tok}, ft.Perm (gone ++ rest) → (dropToks gone ft).2.Perm rest
  | [], _, _, h => h
  | t :: ts, _, _, h => dropToks_perm ts (by simpa using h.erase t)

/-- the choices by which the machine follows the market when jobs are discarded -/
def DropList (cs : List Choice) : Prop := (cs.all fun | .stop _ | .dropJob _ => true | _ => false) = true

theorem dropList_append {a b : List Choice} (ha : DropList a) (hb : DropList b) : DropList (a ++ b) := by
  rw [DropList, List.all_append, ha, hb]
  rfl

theorem dropToks_dropList : ∀ (gone ft : List Tok), DropList (dropToks gone ft).1
  | [], _ => rfl
  | _ :: ts, _ => dropToks_dropList ts _

theorem runFrom_dropList_active : ∀ (cs : List Choice) (s : St σ κ), DropList cs → (runFrom P s cs).active = s.active
  | [], _, _ => rfl
  | c :: cs, s, h => by
    rw [DropList, List.all_cons, Bool.and_eq_true] at h
    refine (runFrom_dropList_active cs _ h.2).trans ?_
    cases c <;> cases h.1
    · exact (stop_shape P _ s).2.1
    · simp only [Checker.step, stepDropJob]
      repeat' split
      all_goals rfl

theorem runFrom_dropToks : ∀ (gone : List Tok) {ft rest : List Tok} (s : St σ κ), ft.Perm (gone ++ rest) →
    ft.length = s.frontier.length → (gone = [] ∨ (s.stopped || allDiscovered P s) = true) →
    (runFrom P s (dropToks gone ft).1).frontier.length = rest.length ∧ (runFrom P s (dropToks gone ft).1).stopped = s.stopped
  | [], _, _, _, hp, hl, _ => ⟨hl.symm.trans hp.length_eq, rfl⟩
  | t :: ts, ft, _, s, hp, hl, hen => by
    have hen : (s.stopped || allDiscovered P s) = true := hen.resolve_left (List.cons_ne_nil t ts)
    have ht : t ∈ ft := hp.mem_iff.2 (List.mem_cons_self ..)
    have hidx : ft.idxOf t < s.frontier.length := hl ▸ List.idxOf_lt_length_iff.2 ht
    obtain ⟨h1, h3, h4⟩ := step_counts (P := P) (c := .dropJob (ft.idxOf t)) ⟨hen, _, List.getElem?_eq_getElem hidx⟩
    have hl' : (ft.erase t).length = (Checker.step P (.dropJob (ft.idxOf t)) s).frontier.length := by
      rw [List.length_erase_of_mem ht]
      omega
    obtain ⟨i1, i3⟩ := runFrom_dropToks ts (Checker.step P (.dropJob (ft.idxOf t)) s) (by simpa using hp.erase t) hl'
      (Or.inr (by rw [h3, h4]; exact hen))
    exact ⟨i1, i3.trans h3⟩

end

theorem tokens_nil_of_idle {m : MState} (hb : m.batches = []) (h : ∀ v, locOf m v = []) : tokensIn m = [] := by
  rw [tokensIn, hb, List.flatten_nil, List.nil_append, List.flatten_eq_nil_iff]
  intro l hl
  obtain ⟨i, hi, rfl⟩ := List.getElem_of_mem hl
  simpa [locOf, List.getD_eq_getElem?_getD, List.getElem?_eq_getElem hi] using h i

theorem count_tokens_set (m : MState) (w : Nat) (l : List Tok) (hw : w < m.locs.length) (u : Tok) :
    (m.batches.flatten ++ (m.locs.set w l).flatten).count u + (locOf m w).count u
      = (tokensIn m).count u + l.count u := by
  have := count_flatten_set u m.locs w l hw
  simp only [tokensIn, locOf, List.count_append] at this ⊢
  omega

theorem loc_count_le_tokens (m : MState) (w : Nat) (u : Tok) : (locOf m w).count u ≤ (tokensIn m).count u := by
  by_cases hw : w < m.locs.length
  · have := count_tokens_set m w [] hw u
    rw [List.count_nil] at this
    omega
  · simp [locOf, List.getD_eq_getElem?_getD, List.getElem?_eq_none (Nat.le_of_not_lt hw)]

def Idle (m : MState) : Prop := ∀ w, m.pcs[w]? ≠ some Pc.running → locOf m w = []

theorem Idle.set {m m' : MState} (h : Idle m) {w : Nat} {l : List Tok} (hl : m'.locs = m.locs.set w l)
    (hp : ∀ v : Nat, v ≠ w → m.pcs[v]? = some Pc.running → m'.pcs[v]? = some Pc.running)
    (hw : m'.pcs[w]? = some Pc.running ∨ l = []) : Idle m' := by
  intro v hv
  rw [locOf, hl, List.getD_eq_getElem?_getD, List.getElem?_set]
  split
  · next e =>
    subst e
    rcases hw with hw | rfl
    · exact absurd hw hv
    · split <;> rfl
  · next e =>
    rw [← List.getD_eq_getElem?_getD]
    exact h v fun hr => hv (hp v (Ne.symm e) hr)

theorem Idle.notify {m m' : MState} (h : Idle m) (hl : m'.locs = m.locs)
    (hp : ∀ v : Nat, m.pcs[v]? = some Pc.running → m'.pcs[v]? = some Pc.running) : Idle m' := fun v hv => by
  rw [locOf, hl]
  exact h v fun hr => hv (hp v hr)

end SR.Full
