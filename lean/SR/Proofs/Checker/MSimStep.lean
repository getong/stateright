import SR.Checker.MSim
/-!
What the functions of the event machine (`Checker/MSim.lean`) compute, from the model file alone: the tests behind each
outcome of `enterOut`, `busyStep` alternative by alternative (the equations a proof that TAKES a step rewrites with).
-/
namespace SR.Checker.MSim
open SR SR.Checker

-- `DecidableEq σ`, `DecidableEq κ`, needed by `busyStep`, also reach the lemmas about `enterOut` and `applyEff`
set_option linter.unusedSectionVars false
variable {σ κ α : Type} [DecidableEq σ] [DecidableEq κ] {P : Params σ κ α}

theorem enterOut_cases (t : Tr σ κ) :
    (Sim.depthHit P t.path.length = true ∧ enterOut P t = .depth) ∨
    (Sim.depthHit P t.path.length = false ∧
      ((P.M.inB t.cur = false ∧ enterOut P t = .outside) ∨
       (P.M.inB t.cur = true ∧
         ((P.key t.cur ∈ t.seen ∧ enterOut P t = .loop) ∨ (P.key t.cur ∉ t.seen ∧ enterOut P t = .counted))))) := by
  fun_cases enterOut P t
  case case1 hd => exact .inl ⟨hd, rfl⟩
  case case2 hd hb => exact .inr ⟨by simpa using hd, .inl ⟨by simpa using hb, rfl⟩⟩
  case case3 hd hb hk => exact .inr ⟨by simpa using hd, .inr ⟨by simpa using hb, .inl ⟨hk, rfl⟩⟩⟩
  case case4 hd hb hk => exact .inr ⟨by simpa using hd, .inr ⟨by simpa using hb, .inr ⟨hk, rfl⟩⟩⟩

theorem enterOut_loop {t : Tr σ κ} (h : enterOut P t = .loop) : P.M.inB t.cur = true ∧ P.key t.cur ∈ t.seen := by
  rcases enterOut_cases (P := P) t with ⟨_, h'⟩ | ⟨_, ⟨_, h'⟩ | ⟨hb, ⟨hk, _⟩ | ⟨_, h'⟩⟩⟩
  · exact nomatch h'.symm.trans h
  · exact nomatch h'.symm.trans h
  · exact ⟨hb, hk⟩
  · exact nomatch h'.symm.trans h

theorem enterOut_counted {t : Tr σ κ} (h : enterOut P t = .counted) :
    Sim.depthHit P t.path.length = false ∧ P.M.inB t.cur = true ∧ P.key t.cur ∉ t.seen := by
  rcases enterOut_cases (P := P) t with ⟨_, h'⟩ | ⟨hd, ⟨_, h'⟩ | ⟨hb, ⟨_, h'⟩ | ⟨hk, _⟩⟩⟩
  · exact nomatch h'.symm.trans h
  · exact nomatch h'.symm.trans h
  · exact nomatch h'.symm.trans h
  · exact ⟨hd, hb, hk⟩

section
variable {w i : Nat} {sd : Bool} {d : List (Nat × List σ)} {t : Tr σ κ}

theorem busyStep_enter_end (hph : t.ph = .top) (ho : enterOut P t = .depth ∨ enterOut P t = .outside) :
    busyStep P (.enter w) sd d t = some { w' := .ended } := by
  unfold busyStep
  rw [hph]
  rcases ho with ho | ho
  · simp only [ho]
  · simp only [ho]

theorem busyStep_enter_loop (hph : t.ph = .top) (ho : enterOut P t = .loop) :
    busyStep P (.enter w) sd d t = some { w' := .busy { t with path := t.path ++ [t.cur], ph := .record 0 } } := by
  unfold busyStep
  rw [hph]
  simp only [ho]

theorem busyStep_enter_counted (hph : t.ph = .top) (ho : enterOut P t = .counted) :
    busyStep P (.enter w) sd d t =
      some { w' := .busy { t with path := t.path ++ [t.cur], seen := P.key t.cur :: t.seen, awaiting := false,
                                  ph := .props 0 }, cnt := true } := by
  unfold busyStep
  rw [hph]
  simp only [ho]

theorem busyStep_evalProp_hit (hph : t.ph = .props i) (hi : i < P.props.length) (hd : hasDisc d i = true) :
    busyStep P (.evalProp w i) sd d t =
      some { w' := .busy { t with ebits := t.ebits.filter (· != i), ph := .props (i + 1) } } := by
  unfold busyStep
  rw [hph]
  simp only [hi, hd, and_self, if_true]

theorem busyStep_evalProp_miss (hph : t.ph = .props i) (hi : i < P.props.length) (hd : hasDisc d i = false) :
    busyStep P (.evalProp w i) sd d t = some { w' := .busy { t with ph := .decide i } } := by
  unfold busyStep
  rw [hph]
  simp only [hi, hd, and_self, if_true, Bool.false_eq_true, if_false]

theorem busyStep_applyProp {p : Prop' σ} (hph : t.ph = .decide i) (hp : P.props[i]? = some p) :
    busyStep P (.applyProp w i) sd d t =
      match p.exp with
      | .always =>
        if !p.cond t.cur then some { w' := .busy { t with ph := .props (i + 1) }, ins := some (i, t.path) }
        else some { w' := .busy { t with awaiting := true, ph := .props (i + 1) } }
      | .sometimes =>
        if p.cond t.cur then some { w' := .busy { t with ph := .props (i + 1) }, ins := some (i, t.path) }
        else some { w' := .busy { t with awaiting := true, ph := .props (i + 1) } }
      | .eventually =>
        some { w' := .busy { t with awaiting := true,
                                    ebits := if p.cond t.cur then t.ebits.filter (· != i) else t.ebits,
                                    ph := .props (i + 1) } } := by
  unfold busyStep
  rw [hph]
  simp only [hp, if_true]
  rfl

theorem busyStep_finishProps_end (hph : t.ph = .props i) (hi : ¬i < P.props.length) (ha : t.awaiting = false) :
    busyStep P (.finishProps w) sd d t = some { w' := .ended } := by
  unfold busyStep
  rw [hph]
  simp only [hi, ha, if_false, Bool.not_false, if_true]

theorem busyStep_finishProps_go (hph : t.ph = .props i) (hi : ¬i < P.props.length) (ha : t.awaiting = true) :
    busyStep P (.finishProps w) sd d t = some { w' := .busy { t with ph := .choose } } := by
  unfold busyStep
  rw [hph]
  simp only [hi, ha, if_false, Bool.not_true, Bool.false_eq_true]

theorem busyStep_advance {n : σ} (hph : t.ph = .choose) (hn : n ∈ P.M.succB t.cur) :
    busyStep P (.advance w (some n)) sd d t = some { w' := .busy { t with cur := n, ph := .top } } := by
  unfold busyStep
  rw [hph]
  simp only [hn, if_true]

theorem busyStep_terminal (hph : t.ph = .choose) (hn : P.M.succB t.cur = []) :
    busyStep P (.advance w none) sd d t = some { w' := .busy { t with ph := .record 0 } } := by
  unfold busyStep
  rw [hph]
  simp only [hn, List.isEmpty_nil, if_true]

theorem busyStep_recordOne (hph : t.ph = .record i) (hi : i < P.props.length) :
    busyStep P (.recordOne w i) sd d t =
      some { w' := .busy { t with ph := .record (i + 1) }, ins := if i ∈ t.ebits then some (i, t.path) else none } := by
  unfold busyStep
  rw [hph]
  simp only [hi, and_self, if_true]

theorem busyStep_endTrace (hph : t.ph = .record i) (hi : ¬i < P.props.length) :
    busyStep P (.endTrace w) sd d t = some { w' := .ended } := by
  unfold busyStep
  rw [hph]
  simp only [hi, if_false]

end

theorem effOf_some {f : Step σ} {s : St σ κ} {e : Eff σ κ} (h : effOf P f s = some e) :
    ∃ t, s.ws[f.worker]? = some (.busy t) ∧ busyStep P f s.shutdown s.disc t = some e := by
  unfold effOf at h
  split at h
  · next t hw => exact ⟨t, hw, h⟩
  · cases h

theorem effOf_busy {f : Step σ} {s : St σ κ} {t : Tr σ κ} (hw : s.ws[f.worker]? = some (.busy t)) :
    effOf P f s = busyStep P f s.shutdown s.disc t := by
  unfold effOf
  rw [hw]

theorem step_of_eff {f : Step σ} {s : St σ κ} {e : Eff σ κ} (he : effOf P f s = some e) :
    step P f s = some (applyEff s f.worker e) := by
  unfold step
  rw [he]

theorem applyEff_ws (s : St σ κ) (w : Nat) (e : Eff σ κ) : (applyEff s w e).ws = s.ws.set w e.w' := rfl

end SR.Checker.MSim
