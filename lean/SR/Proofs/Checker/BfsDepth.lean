import SR.Proofs.Checker.Bfs
import SR.Proofs.Checker.Control
/-!
# The invariant of single-threaded BFS, with or without a depth limit

`FifoInv` is the invariant of FIFO single-worker runs (`FifoOk`): the queue is layered and depths are distances.  Beside
it `DCtx` carries the invariants of every run and the closure up to the depth limit under the guard `Calm`.  That pending
depths are distances is all `dclosure_move` asks of the order in which jobs are taken; `FifoInv.shortJob` gives it,
`fifo_move` in turn needs `DCtx`, so the two are kept together (`fifo_runFrom`).
-/
namespace SR.Checker
open SR

section
variable {σ κ α : Type} [DecidableEq κ]
variable (P : Params σ κ α)

/-- nothing but the depth limit can have dropped a job so far -/
def Calm (s : St σ κ) : Prop := s.stopped = false ∧ allDiscovered P s = false

/-- `t` lies at distance `n` or more, counted in states as a job's `depth` is -/
def Far (n : Nat) (t : σ) : Prop := ∀ q, P.M.IsPath q → q.getLast? = some t → n ≤ q.length

def Awake (disc : List (Nat × List σ)) (ph : Phase σ) : Prop :=
  (∀ k, ph = .props k true → ∃ i, i < k ∧ i < P.props.length ∧ hasDisc disc i = false) ∧
  (∀ r, ph = .expanding r → ∃ i, i < P.props.length ∧ hasDisc disc i = false)

def ShortDisc (disc : List (Nat × List σ)) : Prop :=
  ∀ e ∈ disc, ∀ pr, P.props[e.1]? = some pr → pr.exp ≠ .eventually →
    ∀ q t, P.M.IsPath q → q.getLast? = some t → Wit pr t → e.2.length ≤ q.length

/-- the fields of `BInv` (explained there) and `GInv`, except `lower`, which is the theorem `FifoInv.lower`, and `GInv`'s
    `recTerm` and `dc`, which `DCtx` carries -/
structure FifoInv (s : St σ κ) : Prop where
  single : s.active.length ≤ 1
  sorted : (s.frontier.map (·.depth)).Pairwise (· ≤ ·)
  actLe : ∀ a ∈ s.active, ∀ j ∈ s.frontier, a.job.depth ≤ j.depth ∧ j.depth ≤ a.job.depth + 1
  spread : s.active = [] → ∀ j ∈ s.frontier, ∀ j' ∈ s.frontier, j'.depth ≤ j.depth + 1
  actDepth : ∀ a ∈ s.active, ∀ d, P.cfg.maxDepth = some d → a.job.depth < d
  awake : ∀ a ∈ s.active, Awake P s.disc a.phase
  noActStopped : s.stopped = true → s.active = []
  shortJob : ∀ j ∈ jobsOf s, Far P j.depth j.st
  visLe : ∀ p ∈ s.visits, ∀ j ∈ jobsOf s, p.length ≤ j.depth
  visSorted : (s.visits.map List.length).Pairwise (· ≥ ·)
  shortVis : ∀ p ∈ s.visits, ∀ q, P.M.IsPath q → q.getLast? = p.getLast? → p.length ≤ q.length
  shortDisc : ShortDisc P s.disc

structure DCtx (s : St σ κ) : Prop where
  inj : ∀ a b, P.M.Reach a → P.M.Reach b → P.key a = P.key b → a = b
  sinv : SInv P s
  vinv : VInv P s
  dc : Calm P s → DClosure P s

variable {P}

theorem calm_of_mono {s s' : St σ κ} (hm : Mono s s') (h : Calm P s') : Calm P s :=
  ⟨Bool.eq_false_iff.2 fun hs => Bool.eq_false_iff.1 h.1 (hm.stopped hs),
   Bool.eq_false_iff.2 fun ha => Bool.eq_false_iff.1 h.2 (allDiscovered_mono hm.disc ha)⟩

theorem calm_of_step (c : Choice) {s : St σ κ} (h : Calm P (step P c s)) : Calm P s :=
  calm_of_mono (mono_step c s) h

theorem calm_of_awake {s : St σ κ} (hg : FifoInv P s) (hne : s.active ≠ []) {n : Nat} (hnl : n < P.props.length)
    (hnd : hasDisc s.disc n = false) : Calm P s := by
  refine ⟨Bool.eq_false_iff.2 fun hs => hne (hg.noActStopped hs), Bool.eq_false_iff.2 fun hal => ?_⟩
  simp only [allDiscovered, List.all_eq_true, List.mem_range] at hal
  rw [hal n hnl] at hnd
  cases hnd

theorem dclosure_set_active {s : St σ κ} (c : DClosure P s) (w : Nat) (a a' : Active σ)
    (ha : s.active[w]? = some a) (hst : a'.job.st = a.job.st)
    (hexp : ∀ rest, a'.phase = .expanding rest → ∀ t' ∈ P.M.succB a.job.st, t' ∈ rest ∨ P.key t' ∈ s.gen)
    (hrec : ∀ i, a'.phase = .recording i → P.M.succB a.job.st = [])
    (disc' : List (Nat × List σ)) :
    DClosure P { s with active := s.active.set w a', disc := disc' } :=
  DClosure.set c w a a' ha hst hexp (forall_mem_set w c.actRec fun i hr => hst ▸ hrec i hr) disc' s.stateCount

theorem fifo_init : FifoInv P (init P.M P.props P.key) := by
  have hfr : ∀ j ∈ (init P.M P.props P.key).frontier, j.depth = 1 := by
    intro j hj
    simp only [init, List.mem_map] at hj
    obtain ⟨s, _, rfl⟩ := hj
    rfl
  have hjobs : ∀ j ∈ jobsOf (init P.M P.props P.key), j.depth = 1 := by
    intro j hj
    rcases mem_jobsOf.1 hj with hj | ⟨a, ha, _⟩
    · exact hfr j hj
    · cases ha
  refine
    { single := Nat.zero_le _, sorted := ?sorted, actLe := nofun, spread := ?spread, actDepth := nofun, awake := nofun,
      noActStopped := nofun, shortJob := ?shortJob, visLe := nofun, visSorted := .nil,
      shortVis := nofun, shortDisc := nofun }
  case sorted =>
    refine List.pairwise_map.2 (List.pairwise_of_forall_mem_list fun a ha b hb => ?_)
    rw [hfr a ha, hfr b hb]
    exact Nat.le_refl 1
  case spread =>
    intro _ j hj j' hj'
    rw [hfr j hj, hfr j' hj']
    exact Nat.le_succ 1
  case shortJob =>
    intro j hj q hq _
    rw [hjobs j hj]
    exact List.length_pos_iff.2 (Sys.isPath_ne_nil hq)

theorem single_active {s : St σ κ} (hg : FifoInv P s) {a : Active σ} (ha : s.active[0]? = some a) : s.active = [a] := by
  have hlen := hg.single
  match hact : s.active with
  | [] =>
    rw [hact] at ha
    cases ha
  | [x] =>
    rw [hact] at ha
    cases ha
    rfl
  | _ :: _ :: _ =>
    rw [hact] at hlen
    exact absurd hlen (by simp)

theorem active_set0 {s : St σ κ} (hg : FifoInv P s) {a : Active σ} (ha : s.active[0]? = some a) (a' : Active σ) :
    s.active.set 0 a' = [a'] := by
  rw [single_active hg ha]
  rfl

theorem FifoInv.depth_le {s : St σ κ} (hg : FifoInv P s) {a : Active σ} (ha : s.active[0]? = some a) :
    ∀ x ∈ jobsOf s, a.job.depth ≤ x.depth := by
  intro x hx
  rw [mem_jobsOf, single_active hg ha] at hx
  rcases hx with hx | ⟨_, hb, rfl⟩
  · exact (hg.actLe a (List.mem_of_getElem? ha) x hx).1
  · cases List.mem_singleton.1 hb
    exact Nat.le_refl _

/-- were `t` a job's state, `shortJob` would bound the job's depth by the path; were it `Deep`, the limit would -/
theorem FifoInv.done_of_shorter {s : St σ κ} (hx : DCtx P s) (hg : FifoInv P s) (c : DClosure P s)
    {q : List σ} {t : σ} (hq : P.M.IsPath q) (hl : q.getLast? = some t) (hk : P.key t ∈ s.gen)
    (hlt : ∀ j ∈ jobsOf s, q.length < j.depth) (hlim : ∀ d, P.cfg.maxDepth = some d → q.length < d) :
    t ∈ s.done := by
  have htr : P.M.Reach t := Sys.reach_last_of_isPath hq hl
  rcases c.genJob _ hk with ⟨u, hu, hku⟩ | ⟨d, hd, u, hku, hur, hdeep⟩
  · rw [jobStates_eq, List.mem_append, List.mem_map] at hu
    rcases hu with ⟨j, hj, rfl⟩ | hu
    · obtain rfl := hx.inj _ _ (job_reach hx.sinv hj) htr hku
      exact absurd (hg.shortJob j hj q hq hl) (Nat.not_le.2 (hlt j hj))
    · rwa [← hx.inj _ _ (c.doneReach u hu) htr hku]
  · obtain rfl := hx.inj _ _ hur htr hku
    exact absurd (hdeep q hq hl) (Nat.not_le.2 (hlim d hd))

/-- along the path: the last but one state is generated and has a shorter path, so it is done, and the successors of done
    states are generated -/
theorem FifoInv.lower {s : St σ κ} (hx : DCtx P s) (hg : FifoInv P s) (c : DClosure P s) :
    ∀ q t, P.M.IsPath q → q.getLast? = some t → (∀ j ∈ jobsOf s, q.length ≤ j.depth) →
      (∀ d, P.cfg.maxDepth = some d → q.length ≤ d) → P.key t ∈ s.gen := by
  intro q t hq hl
  induction Sys.pathTo_iff.2 ⟨hq, hl⟩ with
  | single hxi => exact fun _ _ => c.initIn _ hxi
  | snoc hp htu ih =>
    intro hle hlim
    rw [List.length_append] at hle hlim
    have hq1 := hp.isPath
    have hku := ih hq1.1 hq1.2 (fun j hj => Nat.le_of_succ_le (hle j hj)) (fun d hd => Nat.le_of_succ_le (hlim d hd))
    exact c.doneCl _ (hg.done_of_shorter hx c hq1.1 hq1.2 hku hle hlim) _ htu

theorem FifoInv.done_below {s : St σ κ} (hx : DCtx P s) (hg : FifoInv P s) (c : DClosure P s)
    {q : List σ} {t : σ} (hq : P.M.IsPath q) (hl : q.getLast? = some t)
    (hlt : ∀ j ∈ jobsOf s, q.length < j.depth) (hlim : ∀ d, P.cfg.maxDepth = some d → q.length < d) : t ∈ s.done :=
  hg.done_of_shorter hx c hq hl
    (hg.lower hx c q t hq hl (fun j hj => Nat.le_of_lt (hlt j hj)) fun d hd => Nat.le_of_lt (hlim d hd)) hlt hlim

/-- `disc'` and `n` are free so that the conclusion matches the record update of every step that replaces the worker.
    Callers give `hd`, `hst` as `(by rfl)`: a plain `rfl` is elaborated before `a'` is known and would decide `a' := a`. -/
theorem fifo_set0 {s : St σ κ} (hg : FifoInv P s) {a a' : Active σ} (ha : s.active[0]? = some a)
    (hd : a'.job.depth = a.job.depth) (hst : a'.job.st = a.job.st)
    (disc' : List (Nat × List σ)) (n : Nat)
    (hawake : Awake P disc' a'.phase) (hdisc : ShortDisc P disc') :
    FifoInv P { s with active := s.active.set 0 a', disc := disc', stateCount := n } := by
  have ham : a ∈ s.active := List.mem_of_getElem? ha
  rw [active_set0 hg ha a']
  have hjobs : ∀ x ∈ jobsOf ({ s with active := [a'], disc := disc', stateCount := n } : St σ κ),
      ∃ y ∈ jobsOf s, y.depth = x.depth ∧ y.st = x.st := by
    intro x hx
    simp only [mem_jobsOf, List.mem_singleton] at hx
    rcases hx with hx | ⟨b, rfl, rfl⟩
    · exact ⟨x, mem_jobsOf.2 (Or.inl hx), rfl, rfl⟩
    · exact ⟨a.job, mem_jobsOf.2 (Or.inr ⟨a, ham, rfl⟩), hd.symm, hst.symm⟩
  refine
    { single := Nat.le_refl 1
      sorted := hg.sorted
      actLe := List.forall_mem_singleton.2 (hd ▸ hg.actLe a ham)
      spread := nofun
      actDepth := List.forall_mem_singleton.2 (hd ▸ hg.actDepth a ham)
      awake := List.forall_mem_singleton.2 hawake
      noActStopped := fun h => absurd (hg.noActStopped h) (List.ne_nil_of_mem ham)
      shortJob := ?shortJob
      visLe := ?visLe
      visSorted := hg.visSorted
      shortVis := hg.shortVis
      shortDisc := hdisc }
  case shortJob =>
    intro x hx
    obtain ⟨y, hy, hyd, hys⟩ := hjobs x hx
    exact hyd ▸ hys ▸ hg.shortJob y hy
  case visLe =>
    intro p hp x hx
    obtain ⟨y, hy, hyd, _⟩ := hjobs x hx
    exact hyd ▸ hg.visLe p hp y hy

theorem fifo_setPhase {s : St σ κ} (hg : FifoInv P s) {a a' : Active σ} (ha : s.active[0]? = some a)
    (hd : a'.job.depth = a.job.depth) (hst : a'.job.st = a.job.st) (hawake : Awake P s.disc a'.phase) :
    FifoInv P { s with active := s.active.set 0 a' } :=
  fifo_set0 hg ha hd hst s.disc s.stateCount hawake hg.shortDisc

theorem fifo_shrink {s s' : St σ κ} (hg : FifoInv P s) (hfr : s'.frontier.Sublist s.frontier)
    (hact : s'.active.Sublist s.active) (hvis : s'.visits = s.visits) (hdisc : s'.disc = s.disc)
    (hstop : s'.stopped = true → s.active = []) : FifoInv P s' := by
  have hjobs : ∀ x ∈ jobsOf s', x ∈ jobsOf s := (hfr.append (hact.map _)).subset
  refine
    { single := Nat.le_trans hact.length_le hg.single
      sorted := hg.sorted.sublist (hfr.map _)
      actLe := fun a ha j hj => hg.actLe a (hact.subset ha) j (hfr.subset hj)
      spread := fun _ j hj j' hj' => ?_
      actDepth := fun a ha => hg.actDepth a (hact.subset ha)
      awake := fun a ha => hdisc ▸ hg.awake a (hact.subset ha)
      noActStopped := fun h => List.sublist_nil.1 (hstop h ▸ hact)
      shortJob := fun x hx' => hg.shortJob x (hjobs x hx')
      visLe := fun p hp x hx' => hg.visLe p (hvis ▸ hp) x (hjobs x hx')
      visSorted := hvis ▸ hg.visSorted
      shortVis := hvis ▸ hg.shortVis
      shortDisc := hdisc ▸ hg.shortDisc }
  -- a worker that has left bounded the frontier from both sides
  match hs : s.active with
  | [] => exact hg.spread hs j (hfr.subset hj) j' (hfr.subset hj')
  | a :: _ =>
    have ham : a ∈ s.active := hs ▸ List.mem_cons_self
    exact Nat.le_trans (hg.actLe a ham j' (hfr.subset hj')).2 (Nat.succ_le_succ (hg.actLe a ham j (hfr.subset hj)).1)

/-- a witness with a shorter path would be done, so its discovery would be recorded already -/
theorem new_disc_shortest {s : St σ κ} (hx : DCtx P s) (hg : FifoInv P s) {j : Job σ} {i : Nat} {aw : Bool}
    (ha : s.active[0]? = some ⟨j, .props i aw⟩) {p : Prop' σ} (hp : P.props[i]? = some p)
    (hnd : hasDisc s.disc i = false) : ShortDisc P (discInsert s.disc i j.path) := by
  intro e he pr hpr hev q t hq hl hw
  rcases mem_discInsert he with rfl | he
  · rw [hp] at hpr
    cases hpr
    have ham : (⟨j, .props i aw⟩ : Active σ) ∈ s.active := List.mem_of_getElem? ha
    have c := hx.dc (calm_of_awake hg (List.ne_nil_of_mem ham) (lt_length_of_getElem? hp) hnd)
    refine Nat.le_of_not_lt fun hlt => ?_
    rw [← (hx.sinv.ac _ ham).depth] at hlt
    have := hx.vinv.done t (hg.done_below hx c hq hl (fun x hx' => Nat.lt_of_lt_of_le hlt (hg.depth_le ha x hx'))
      fun d hd => Nat.lt_trans hlt (hg.actDepth _ ham d hd)) i p hp hw
    rw [hnd] at this
    cases this
  · exact hg.shortDisc e he pr hpr hev q t hq hl hw

theorem fifo_work {s : St σ κ} (hx : DCtx P s) (hg : FifoInv P s) {c : Choice} {w : Nat} {j : Job σ} {ph : Phase σ}
    {d' : List (Nat × List σ)} {a' : Active σ} (ha : s.active[w]? = some ⟨j, ph⟩) (hw : Work P s.disc j w c ph d' a')
    (hf : FifoOk s c) : FifoInv P { s with active := s.active.set w a', disc := d' } := by
  have ham := List.mem_of_getElem? ha
  have hold := hg.awake _ ham
  -- the flag is unchanged: the undiscovered property it stands for lies below `i`
  have keepAw : ∀ {i aw} (d' : List (Nat × List σ)), ph = .props i aw →
      (∀ k, k < i → hasDisc s.disc k = false → hasDisc d' k = false) → Awake P d' (.props (i+1) aw) := by
    intro i aw d' hph hmono
    refine ⟨fun k hk => ?_, nofun⟩
    cases hk
    obtain ⟨n, hn, hnl, hnd⟩ := hold.1 i hph
    exact ⟨n, Nat.lt_succ_of_lt hn, hnl, hmono n hn hnd⟩
  -- no stale read: the property met is undiscovered
  have newAw : ∀ {i p}, P.props[i]? = some p → (hasDisc s.disc i && !false) = false →
      Awake P s.disc (.props (i+1) true) := by
    refine fun hp hnd => ⟨fun k hk => ?_, nofun⟩
    cases hk
    exact ⟨_, Nat.lt_succ_self _, lt_length_of_getElem? hp, by simpa using hnd⟩
  cases hw with
  | skip hp hd =>
    obtain ⟨rfl, -⟩ := hf
    exact fifo_setPhase hg ha (by rfl) (by rfl) (keepAw s.disc rfl fun _ _ h => h)
  | @found i aw p b hp hwit hs =>
    obtain ⟨rfl, rfl⟩ := hf
    have hnd : hasDisc s.disc i = false := by simpa using hs
    refine fifo_set0 hg ha (by rfl) (by rfl) _ s.stateCount (keepAw _ rfl ?_) (new_disc_shortest hx hg ha hp hnd)
    intro k hk hd
    rw [hasDisc_insert, hd, beq_eq_false_iff_ne.2 (Nat.ne_of_lt hk)]
    rfl
  | pass hp _ _ hs | evHolds hp _ _ hs | evFails hp _ _ hs =>
    obtain ⟨rfl, rfl⟩ := hf
    exact fifo_setPhase hg ha (by rfl) (by rfl) (newAw hp hs)
  | terminal | noRecord =>
    cases hf
    exact fifo_setPhase hg ha (by rfl) (by rfl) ⟨nofun, nofun⟩
  | expand =>
    cases hf
    obtain ⟨n, _, hnl, hnd⟩ := hold.1 _ rfl
    exact fifo_setPhase hg ha (by rfl) (by rfl) ⟨nofun, fun _ _ => ⟨n, hnl, hnd⟩⟩
  | @record i hi hm =>
    cases hf
    refine fifo_set0 hg ha (by rfl) (by rfl) _ s.stateCount ⟨nofun, nofun⟩ ?_
    -- only eventually-properties are recorded here
    intro e he pr hpr hev
    rcases mem_discInsert he with rfl | he
    · exact absurd ((hx.sinv.ac _ ham).eb i hm pr hpr) hev
    · exact hg.shortDisc e he pr hpr hev

/-- the head of the queue goes to the worker: the jobs are the same -/
theorem fifo_taken {s : St σ κ} (hx : DCtx P s) (hg : FifoInv P s) (hact : s.active = []) (hst : s.stopped = false)
    {j : Job σ} (hj : s.frontier[0]? = some j) (hlt : ∀ d, P.cfg.maxDepth = some d → j.depth < d) :
    FifoInv P { s with frontier := s.frontier.eraseIdx 0, maxDepth := max s.maxDepth j.depth,
                       visits := j.path :: s.visits, active := s.active ++ [⟨j, .props 0 false⟩] } := by
  obtain ⟨tail, hfr⟩ := List.head?_eq_some_iff.1 (List.head?_eq_getElem?.trans hj)
  have hjf : j ∈ s.frontier := hfr ▸ List.mem_cons_self
  have hjo := hx.sinv.fr j hjf
  have hjmem : j ∈ jobsOf s := mem_jobsOf.2 (Or.inl hjf)
  have hsorted := hg.sorted
  rw [hfr, List.map_cons, List.pairwise_cons] at hsorted
  have hhead : ∀ j' ∈ tail, j.depth ≤ j'.depth := fun j' hj' => hsorted.1 _ (List.mem_map_of_mem hj')
  have htailf : ∀ x ∈ tail, x ∈ s.frontier := fun x hx' => hfr ▸ List.mem_cons_of_mem _ hx'
  have hjobs : ∀ x, x ∈ jobsOf s ↔ x = j ∨ x ∈ tail := by
    intro x
    simp [mem_jobsOf, hfr, hact]
  rw [hact, List.nil_append, hfr, List.eraseIdx_cons_zero]
  have hsame : ∀ x ∈ tail ++ [j], x ∈ jobsOf s := fun x hx' =>
    (hjobs x).2 ((List.mem_append.1 hx').symm.imp_left List.mem_singleton.1)
  have hall : ∀ x ∈ jobsOf s, j.path.length ≤ x.depth := by
    intro x hx'
    rw [← hjo.depth]
    rcases (hjobs x).1 hx' with rfl | hx'
    · exact Nat.le_refl _
    · exact hhead x hx'
  refine
    { single := Nat.le_refl 1
      sorted := hsorted.2
      actLe := List.forall_mem_singleton.2 fun j' hj' => ⟨hhead j' hj', hg.spread hact j hjf j' (htailf j' hj')⟩
      spread := nofun
      actDepth := List.forall_mem_singleton.2 hlt
      awake := List.forall_mem_singleton.2 ⟨nofun, nofun⟩
      noActStopped := fun h => absurd h (by simp [hst])
      shortJob := fun x hx' => hg.shortJob x (hsame x hx')
      visLe := List.forall_mem_cons.2
        ⟨fun x hx' => hall x (hsame x hx'), fun p hp x hx' => hg.visLe p hp x (hsame x hx')⟩
      visSorted := List.pairwise_cons.2 ⟨?visSorted, hg.visSorted⟩
      shortVis := List.forall_mem_cons.2
        ⟨fun q hq hl => hjo.depth ▸ hg.shortJob j hjmem q hq (hl.trans hjo.last), hg.shortVis⟩
      shortDisc := hg.shortDisc }
  intro n hn
  obtain ⟨p, hp, rfl⟩ := List.mem_map.1 hn
  exact hjo.depth ▸ hg.visLe p hp j hjmem

theorem fifo_fresh {s : St σ κ} (hx : DCtx P s) (hg : FifoInv P s) {j : Job σ} {t : σ} {rest' : List σ}
    (ha : s.active[0]? = some ⟨j, .expanding (t :: rest')⟩) (hnin : P.key t ∉ s.gen) :
    FifoInv P { s with stateCount := s.stateCount + 1, gen := s.gen ++ [P.key t],
                       frontier := s.frontier ++ [⟨t, j.path ++ [t], j.ebits, j.depth + 1⟩],
                       active := s.active.set 0 ⟨j, .expanding rest'⟩ } := by
  have ham : (⟨j, .expanding (t :: rest')⟩ : Active σ) ∈ s.active := List.mem_of_getElem? ha
  obtain ⟨n, hnl, hnd⟩ := (hg.awake _ ham).2 _ rfl
  have hc := calm_of_awake hg (List.ne_nil_of_mem ham) hnl hnd
  rw [active_set0 hg ha ⟨j, .expanding rest'⟩]
  -- the new job's level is its distance, the level above being complete
  have hchild : Far P (j.depth + 1) t := by
    refine fun q hq hl => Nat.lt_of_not_ge fun hcon => hnin (hg.lower hx (hx.dc hc) q t hq hl ?_ ?_)
    · exact fun x hx' => Nat.le_trans hcon (hg.depth_le ha x hx')
    · exact fun d hd => Nat.le_trans hcon (Nat.le_of_lt (hg.actDepth _ ham d hd))
  let child : Job σ := { st := t, path := j.path ++ [t], ebits := j.ebits, depth := j.depth + 1 }
  have hjobs : ∀ x ∈ (s.frontier ++ [child]) ++ [j], x = child ∨ x ∈ jobsOf s := by
    intro x hx'
    simp only [List.mem_append, List.mem_singleton] at hx'
    rcases hx' with (h | h) | rfl
    · exact Or.inr (mem_jobsOf.2 (Or.inl h))
    · exact Or.inl h
    · exact Or.inr (mem_jobsOf.2 (Or.inr ⟨_, ham, rfl⟩))
  refine
    { single := Nat.le_refl 1
      sorted := ?sorted
      actLe := List.forall_mem_singleton.2 ?actLe
      spread := nofun
      actDepth := List.forall_mem_singleton.2 fun d hd => hg.actDepth _ ham d hd
      awake := List.forall_mem_singleton.2 ⟨nofun, fun _ _ => ⟨n, hnl, hnd⟩⟩
      noActStopped := fun h => absurd (hg.noActStopped h) (List.ne_nil_of_mem ham)
      shortJob := ?shortJob
      visLe := ?visLe
      visSorted := hg.visSorted
      shortVis := hg.shortVis
      shortDisc := hg.shortDisc }
  case sorted =>
    rw [List.map_append, List.pairwise_append]
    refine ⟨hg.sorted, List.pairwise_singleton _ _, fun a ha' b hb' => ?_⟩
    obtain ⟨x, hx', rfl⟩ := List.mem_map.1 ha'
    cases List.mem_singleton.1 hb'
    exact (hg.actLe _ ham x hx').2
  case actLe =>
    intro x hx'
    rcases List.mem_append.1 hx' with hx' | hx'
    · exact hg.actLe _ ham x hx'
    · cases List.mem_singleton.1 hx'
      exact ⟨Nat.le_succ _, Nat.le_refl _⟩
  case shortJob =>
    intro x hx'
    rcases hjobs x hx' with rfl | hx'
    · exact hchild
    · exact hg.shortJob x hx'
  case visLe =>
    intro p hp x hx'
    rcases hjobs x hx' with rfl | hx'
    · exact Nat.le_succ_of_le (hg.visLe p hp j (mem_jobsOf.2 (Or.inr ⟨_, ham, rfl⟩)))
    · exact hg.visLe p hp x hx'

/-- The closure outlives every move, in whatever order the jobs are taken, as long as the depths of the pending jobs are
    distances: a job skipped at the limit is then `Deep`, and every other way of dropping a job, like a stop, ends `Calm`. -/
theorem dclosure_move {c : Choice} {s s' : St σ κ} (m : Move P s c s') (hx : DCtx P s)
    (hfar : ∀ j ∈ s.frontier, Far P j.depth j.st) (hc' : Calm P s') : DClosure P s' := by
  have hs' := sinv_move m hx.sinv
  have cl := hx.dc (calm_of_mono (mono_move m) hc')
  cases m with
  | take hj => exact cl.take hj _
  | @tooDeep i j d hj hmd hge =>
    have hjf := List.mem_of_getElem? hj
    refine ⟨cl.initIn, cl.genJob_mono fun u hu => ?_, cl.doneCl, cl.actExp, cl.actRec, cl.doneReach⟩
    rw [mem_jobStates] at hu ⊢
    rcases hu with ⟨x, hx', rfl⟩ | hu
    · rcases mem_eraseIdx_or_eq hj hx' with rfl | hx'
      · exact .inr ⟨d, hmd, _, rfl, (hx.sinv.fr _ hjf).reach, fun q hq hl => Nat.le_trans hge (hfar _ hjf q hq hl)⟩
      · exact .inl (.inl ⟨x, hx', rfl⟩)
    · exact .inl (.inr hu)
  | work ha hwk =>
    exact cl.set _ _ _ ha hwk.st_eq (fun _ hr _ ht' => .inl ((hwk.expanding hr).1 ▸ ht')) hs'.recTerm _ s.stateCount
  | giveUp ha hi =>
    -- everything is discovered
    refine absurd ?_ (Bool.eq_false_iff.1 hc'.2)
    simp only [allDiscovered, List.all_eq_true, List.mem_range]
    exact fun k hk => (hx.vinv.ac _ (List.mem_of_getElem? ha)).2 _ rfl k (Nat.lt_of_lt_of_le hk hi) hk
  | expanded ha => exact cl.expand true (.expanded ha) hx.sinv
  | recorded ha =>
    have ham := List.mem_of_getElem? ha
    exact dclosure_retire cl _ _ ha (fun t' ht' => nomatch cl.actRec _ ham _ rfl ▸ ht') (hx.sinv.ac _ ham).reach
  | seen ha hg => exact cl.expand true (.seen ha hg) hx.sinv
  | fresh front ha hg => exact cl.expand _ (.fresh front ha hg) hx.sinv
  | stop => cases hc'.1
  | dropJob hc =>
    rcases Bool.or_eq_true_iff.1 hc with h | h
    · exact absurd h (Bool.eq_false_iff.1 hc'.1)
    · exact absurd h (Bool.eq_false_iff.1 hc'.2)
  | abandon hst => exact absurd hst (Bool.eq_false_iff.1 hc'.1)

theorem fifo_move {c : Choice} {s s' : St σ κ} (m : Move P s c s') (hx : DCtx P s) (hg : FifoInv P s)
    (hf : FifoOk s c) : FifoInv P s' := by
  cases m with
  | take hj hd =>
    obtain ⟨rfl, hact, hst⟩ := hf
    exact fifo_taken hx hg hact hst hj hd
  | tooDeep | dropJob => exact fifo_shrink hg (List.eraseIdx_sublist _ _) (.refl _) rfl rfl hg.noActStopped
  | work ha hw => exact fifo_work hx hg ha hw hf
  | giveUp | expanded | recorded =>
    exact fifo_shrink hg (.refl _) (List.eraseIdx_sublist _ _) rfl rfl hg.noActStopped
  | seen ha hin =>
    obtain ⟨rfl, -⟩ := hf
    exact fifo_set0 hg ha (by rfl) (by rfl) s.disc (s.stateCount + 1)
      ⟨nofun, fun _ _ => (hg.awake _ (List.mem_of_getElem? ha)).2 _ rfl⟩ hg.shortDisc
  | fresh front ha hnin =>
    obtain ⟨rfl, rfl⟩ := hf
    exact fifo_fresh hx hg ha hnin
  | stop => exact fifo_shrink hg (.refl _) (.refl _) rfl rfl fun _ => hf
  | abandon hst ha =>
    rw [hg.noActStopped hst] at ha
    cases ha

theorem fifo_step (c : Choice) {s : St σ κ} (hx : DCtx P s) (hg : FifoInv P s) (hf : FifoOk s c) :
    FifoInv P (step P c s) :=
  step_cases c hg fun _ m => fifo_move m hx hg hf

theorem dctx_step (c : Choice) {s : St σ κ} (hx : DCtx P s) (hg : FifoInv P s) : DCtx P (step P c s) :=
  ⟨hx.inj, sinv_step c hx.sinv, vinv_step c hx.sinv hx.vinv,
    step_cases c hx.dc fun _ m => dclosure_move m hx fun j hj => hg.shortJob j (mem_jobsOf.2 (.inl hj))⟩

theorem fifo_runFrom (s : St σ κ) (hx : DCtx P s) (hg : FifoInv P s) (cs : List Choice) (hf : FifoRun P s cs) :
    FifoInv P (runFrom P s cs) ∧ DCtx P (runFrom P s cs) := by
  unfold runFrom
  induction cs generalizing s with
  | nil => exact ⟨hg, hx⟩
  | cons c cs ih => exact ih _ (dctx_step c hx hg) (fifo_step c hx hg hf.1) hf.2

theorem fifo_run (hinj : ∀ a b, P.M.Reach a → P.M.Reach b → P.key a = P.key b → a = b)
    (cs : List Choice) (hf : FifoRun P (init P.M P.props P.key) cs) : FifoInv P (run P cs) ∧ DCtx P (run P cs) :=
  fifo_runFrom (init P.M P.props P.key) ⟨hinj, sinv_init, vinv_init, fun _ => (cinv_init rfl).dclosure⟩ fifo_init cs hf

variable (P) in
/-- what `BInv` becomes with a depth limit: `lower` and the closure of `DCtx` under the guard `Calm`; nothing uses it -/
structure GInv (s : St σ κ) : Prop where
  single : s.active.length ≤ 1
  sorted : (s.frontier.map (·.depth)).Pairwise (· ≤ ·)
  actLe : ∀ a ∈ s.active, ∀ j ∈ s.frontier, a.job.depth ≤ j.depth ∧ j.depth ≤ a.job.depth + 1
  spread : s.active = [] → ∀ j ∈ s.frontier, ∀ j' ∈ s.frontier, j'.depth ≤ j.depth + 1
  shortJob : ∀ j ∈ jobsOf s, ∀ q, P.M.IsPath q → q.getLast? = some j.st → j.depth ≤ q.length
  actDepth : ∀ a ∈ s.active, ∀ d, P.cfg.maxDepth = some d → a.job.depth < d
  lower : Calm P s → ∀ q t, P.M.IsPath q → q.getLast? = some t →
            (∀ j ∈ jobsOf s, q.length ≤ j.depth) → (∀ d, P.cfg.maxDepth = some d → q.length ≤ d) → P.key t ∈ s.gen
  awake : ∀ a ∈ s.active,
            (∀ k, a.phase = .props k true → ∃ i, i < k ∧ i < P.props.length ∧ hasDisc s.disc i = false) ∧
            (∀ r, a.phase = .expanding r → ∃ i, i < P.props.length ∧ hasDisc s.disc i = false)
  noActStopped : s.stopped = true → s.active = []
  recTerm : ∀ a ∈ s.active, ∀ i, a.phase = .recording i → P.M.succB a.job.st = []
  dc : Calm P s → DClosure P s

theorem ginv_run (hinj : ∀ a b, P.M.Reach a → P.M.Reach b → P.key a = P.key b → a = b)
    (cs : List Choice) (hf : FifoRun P (init P.M P.props P.key) cs) : GInv P (run P cs) :=
  have ⟨hg, hx⟩ := fifo_run hinj cs hf
  { single := hg.single, sorted := hg.sorted, actLe := hg.actLe, spread := hg.spread, shortJob := hg.shortJob,
    actDepth := hg.actDepth, lower := fun hc => hg.lower hx (hx.dc hc), awake := hg.awake,
    noActStopped := hg.noActStopped, recTerm := hx.sinv.recTerm, dc := hx.dc }

/-- without a limit the closure `lower` needs is the one every run has while no job was dropped (`cinv_run`) -/
theorem binv_run (hnd : P.cfg.maxDepth = none)
    (hinj : ∀ a b, P.M.Reach a → P.M.Reach b → P.key a = P.key b → a = b)
    (cs : List Choice) (hf : FifoRun P (init P.M P.props P.key) cs) : BInv P (run P cs) :=
  have ⟨hg, hx⟩ := fifo_run hinj cs hf
  { single := hg.single, sorted := hg.sorted, actLe := hg.actLe, spread := hg.spread, visLe := hg.visLe,
    visSorted := hg.visSorted, shortJob := hg.shortJob, shortVis := hg.shortVis,
    lower := fun he q t hq hl hle =>
      hg.lower hx (cinv_run cs he).dclosure q t hq hl hle (fun _ hd => nomatch hnd.symm.trans hd),
    awake := hg.awake, noActStopped := hg.noActStopped, shortDisc := hg.shortDisc }

/-- **single-threaded BFS with a depth limit evaluates every state nearer than the limit** (a path of FEWER than `d`
    states), if no worker stopped and not every property was discovered -/
theorem bfs_depth_complete (hinj : ∀ a b, P.M.Reach a → P.M.Reach b → P.key a = P.key b → a = b)
    (cs : List Choice) (hf : FifoRun P (init P.M P.props P.key) cs)
    (hq : Quiescent (run P cs)) (hc : Calm P (run P cs))
    (d : Nat) (hd : P.cfg.maxDepth = some d) :
    ∀ q t, P.M.IsPath q → q.getLast? = some t → q.length < d → t ∈ (run P cs).done := by
  obtain ⟨hg, hx⟩ := fifo_run hinj cs hf
  intro q t hq' hl hlt
  refine hg.done_below hx (hx.dc hc) hq' hl (fun j hj => ?_) fun d' hd' => Option.some.inj (hd ▸ hd') ▸ hlt
  rw [mem_jobsOf, hq.1, hq.2] at hj
  simp at hj

end
end SR.Checker
