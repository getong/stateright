import SR.Checker.Machine
import SR.Proofs.ListAux
/-!
The transitions of the checker machine as a relation.  `step` is total: a choice that does not apply leaves the
state as it is.  `Move P s c s'` lists what the choice `c` does where it applies, each case with its guard and the state it
produces, so that an invariant of the machine is proved by one case analysis on `Move` (`step_cases`), with `c` a variable
where it does not matter which choice moved.  A lemma about the successor of ONE known choice under known guards is shorter
along the step function itself (`unfold stepTake; rw [hj]`): the guards have chosen the branch already.
-/
namespace SR.Checker
open SR

section
variable {σ κ α : Type} [DecidableEq κ]

abbrev Disc (σ : Type) := List (Nat × List σ)

theorem mem_discInsert {d : Disc σ} {i : Nat} {p : List σ} {e : Nat × List σ}
    (h : e ∈ discInsert d i p) : e = (i, p) ∨ e ∈ d := by
  unfold discInsert at h
  rcases List.mem_cons.1 h with h | h
  · exact Or.inl h
  · exact Or.inr (List.mem_filter.1 h).1

theorem hasDisc_iff_exists (d : Disc σ) (i : Nat) : hasDisc d i = true ↔ ∃ p, (i, p) ∈ d := by
  constructor
  · intro h
    obtain ⟨⟨k, p⟩, he, hk⟩ := List.any_eq_true.1 h
    exact ⟨p, beq_iff_eq.1 hk ▸ he⟩
  · rintro ⟨p, hp⟩
    exact List.any_eq_true.2 ⟨(i, p), hp, beq_self_eq_true i⟩

theorem hasDisc_insert (d : Disc σ) (i k : Nat) (p : List σ) :
    hasDisc (discInsert d i p) k = (k == i || hasDisc d k) := by
  rw [Bool.eq_iff_iff, Bool.or_eq_true, beq_iff_eq, hasDisc_iff_exists, hasDisc_iff_exists]
  by_cases hki : k = i
  · simp [hki, discInsert]
  · simp [hki, discInsert, List.mem_filter]

theorem hasDisc_insert_mono {d : Disc σ} {i k : Nat} {p : List σ} (h : hasDisc d k = true) :
    hasDisc (discInsert d i p) k = true := by
  rw [hasDisc_insert, h]
  simp

theorem hasDisc_insert_self (d : Disc σ) (i : Nat) (p : List σ) :
    hasDisc (discInsert d i p) i = true := by
  rw [hasDisc_insert]
  simp

theorem mem_discNames_iff (d : Disc σ) (i : Nat) : i ∈ discNames d ↔ hasDisc d i = true := by
  unfold discNames hasDisc
  simp only [List.mem_map, List.any_eq_true, beq_iff_eq]

theorem discNames_insert_nodup {d : Disc σ} (h : (discNames d).Nodup) (i : Nat) (p : List σ) :
    (discNames (discInsert d i p)).Nodup := by
  unfold discNames discInsert at *
  simp only [List.map_cons, List.nodup_cons]
  constructor
  · intro hm
    obtain ⟨e, he, hei⟩ := List.mem_map.1 hm
    have := (List.mem_filter.1 he).2
    simp at this
    exact this hei
  · exact h.sublist (List.filter_sublist.map _)

theorem discInsert_length {d : Disc σ} (h : (discNames d).Nodup) (n : Nat) (p : List σ) :
    d.length ≤ (discInsert d n p).length := by
  unfold discInsert
  simp only [List.length_cons]
  induction d with
  | nil => simp
  | cons e es ih =>
    simp only [discNames, List.map_cons, List.nodup_cons] at h
    by_cases he : e.1 = n
    · have hf : es.filter (fun e => e.1 != n) = es := by
        apply List.filter_eq_self.2
        intro e' he'
        have : e'.1 ≠ n := by
          intro hc
          apply h.1
          rw [he, ← hc]
          exact List.mem_map_of_mem he'
        simpa using this
      have : (e.1 != n) = false := by simpa using he
      simp only [List.filter_cons, this, Bool.false_eq_true, if_false, hf, List.length_cons]
      omega
    · have : (e.1 != n) = true := by simpa using he
      simp only [List.filter_cons, this, if_true, List.length_cons]
      have := ih h.2
      omega

theorem allDiscovered_eq_true_iff {P : Params σ κ α} (s : St σ κ) :
    allDiscovered P s = true ↔ ∀ i, i < P.props.length → hasDisc s.disc i = true := by
  simp [allDiscovered, List.all_eq_true]

def Wit (pr : Prop' σ) (u : σ) : Prop :=
  (pr.exp = .always ∧ pr.cond u = false) ∨ (pr.exp = .sometimes ∧ pr.cond u = true)

theorem wit_always {pr : Prop' σ} (h : pr.exp = .always) (u : σ) : Wit pr u ↔ pr.cond u = false := by
  simp [Wit, h]

theorem wit_sometimes {pr : Prop' σ} (h : pr.exp = .sometimes) (u : σ) : Wit pr u ↔ pr.cond u = true := by
  simp [Wit, h]

theorem ne_eventually_of_witness {p : Prop' σ} {u : σ} (h : Wit p u) : p.exp ≠ .eventually := by
  rcases h with ⟨h, _⟩ | ⟨h, _⟩
  all_goals simp [h]

variable (P : Params σ κ α)

/-- what worker number `w` does on its own under the choice `c`: discoveries `d` ↦ `d'`, worker `⟨j, ph⟩` ↦ `a'`, nothing else
    touched.  `hs`: the property has no discovery, or the earlier read was stale (`skip` otherwise). -/
inductive Work (d : Disc σ) (j : Job σ) (w : Nat) :
    Choice → Phase σ → Disc σ → Active σ → Prop
  | skip {i aw p} (hp : P.props[i]? = some p) (hd : hasDisc d i = true) :
      Work d j w (.evalProp w false) (.props i aw) d ⟨{ j with ebits := j.ebits.erase i }, .props (i+1) aw⟩
  | found {i aw p b} (hp : P.props[i]? = some p) (hw : Wit p j.st) (hs : (hasDisc d i && !b) = false) :
      Work d j w (.evalProp w b) (.props i aw) (discInsert d i j.path) ⟨j, .props (i+1) aw⟩
  | pass {i aw p b} (hp : P.props[i]? = some p) (hne : p.exp ≠ .eventually) (hw : ¬ Wit p j.st)
      (hs : (hasDisc d i && !b) = false) :
      Work d j w (.evalProp w b) (.props i aw) d ⟨j, .props (i+1) true⟩
  | evHolds {i aw p b} (hp : P.props[i]? = some p) (he : p.exp = .eventually) (hc : p.cond j.st = true)
      (hs : (hasDisc d i && !b) = false) :
      Work d j w (.evalProp w b) (.props i aw) d ⟨{ j with ebits := j.ebits.erase i }, .props (i+1) true⟩
  | evFails {i aw p b} (hp : P.props[i]? = some p) (he : p.exp = .eventually) (hc : p.cond j.st = false)
      (hs : (hasDisc d i && !b) = false) :
      Work d j w (.evalProp w b) (.props i aw) d ⟨j, .props (i+1) true⟩
  | terminal {i} (hi : P.props.length ≤ i) (hss : P.M.succB j.st = []) :
      Work d j w (.finishProps w) (.props i true) d ⟨j, .recording 0⟩
  | expand {i} (hi : P.props.length ≤ i) (hss : P.M.succB j.st ≠ []) :
      Work d j w (.finishProps w) (.props i true) d ⟨j, .expanding (P.M.succB j.st)⟩
  | record {i} (hi : i < P.props.length) (hm : i ∈ j.ebits) :
      Work d j w (.record w) (.recording i) (discInsert d i j.path) ⟨j, .recording (i+1)⟩
  | noRecord {i} (hi : i < P.props.length) (hm : i ∉ j.ebits) :
      Work d j w (.record w) (.recording i) d ⟨j, .recording (i+1)⟩

inductive Move (s : St σ κ) : Choice → St σ κ → Prop
  | take {i j} (hj : s.frontier[i]? = some j) (hd : ∀ d, P.cfg.maxDepth = some d → j.depth < d) :
      Move s (.take i)
        { s with frontier := s.frontier.eraseIdx i, maxDepth := max s.maxDepth j.depth,
                 visits := j.path :: s.visits, active := s.active ++ [⟨j, .props 0 false⟩] }
  | tooDeep {i j d} (hj : s.frontier[i]? = some j) (hd : P.cfg.maxDepth = some d) (hge : d ≤ j.depth) :
      Move s (.take i) { s with frontier := s.frontier.eraseIdx i, maxDepth := max s.maxDepth j.depth, early := true }
  | work {c w j ph d' a'} (ha : s.active[w]? = some ⟨j, ph⟩) (hw : Work P s.disc j w c ph d' a') :
      Move s c { s with active := s.active.set w a', disc := d' }
  /-- the property loop ended with `is_awaiting_discoveries` false -/
  | giveUp {w j i} (ha : s.active[w]? = some ⟨j, .props i false⟩) (hi : P.props.length ≤ i) :
      Move s (.finishProps w) { s with active := s.active.eraseIdx w, early := true }
  | expanded {w f j} (ha : s.active[w]? = some ⟨j, .expanding []⟩) :
      Move s (.expand w f) { s with active := s.active.eraseIdx w, done := j.st :: s.done }
  | recorded {w j i} (ha : s.active[w]? = some ⟨j, .recording i⟩) (hi : P.props.length ≤ i) :
      Move s (.record w) { s with active := s.active.eraseIdx w, done := j.st :: s.done }
  | seen {w f j t rest} (ha : s.active[w]? = some ⟨j, .expanding (t :: rest)⟩) (hg : P.key t ∈ s.gen) :
      Move s (.expand w f) { s with stateCount := s.stateCount + 1, active := s.active.set w ⟨j, .expanding rest⟩ }
  | fresh {w j t rest} (front : Bool) (ha : s.active[w]? = some ⟨j, .expanding (t :: rest)⟩)
      (hg : P.key t ∉ s.gen) :
      Move s (.expand w front)
        { s with stateCount := s.stateCount + 1, gen := s.gen ++ [P.key t],
                 frontier :=
                   if front then ⟨t, j.path ++ [t], j.ebits, j.depth + 1⟩ :: s.frontier
                   else s.frontier ++ [⟨t, j.path ++ [t], j.ebits, j.depth + 1⟩],
                 active := s.active.set w ⟨j, .expanding rest⟩ }
  /-- `h0`: on a stopped state `stepStop` writes `stopped := true` again, which changes nothing and is no move -/
  | stop {why} (hen : stopEnabled P why s = true) (h0 : s.stopped = false) : Move s (.stop why) { s with stopped := true }
  | dropJob {i j} (hc : (s.stopped || allDiscovered P s) = true) (hj : s.frontier[i]? = some j) :
      Move s (.dropJob i) { s with frontier := s.frontier.eraseIdx i, early := true }
  | abandon {w a} (hc : s.stopped = true) (ha : s.active[w]? = some a) :
      Move s (.abandon w) { s with active := s.active.eraseIdx w, early := true }

abbrev Enabled (c : Choice) (s : St σ κ) : Prop :=
  match c with
  | .take i => ∃ j, s.frontier[i]? = some j
  | .evalProp w _ => ∃ j i aw, s.active[w]? = some ⟨j, .props i aw⟩ ∧ i < P.props.length
  | .finishProps w => ∃ j i aw, s.active[w]? = some ⟨j, .props i aw⟩ ∧ ¬ i < P.props.length
  | .expand w _ => ∃ j rest, s.active[w]? = some ⟨j, .expanding rest⟩
  | .record w => ∃ j i, s.active[w]? = some ⟨j, .recording i⟩
  | .stop why => stopEnabled P why s = true ∧ s.stopped = false
  | .dropJob i => (s.stopped || allDiscovered P s) = true ∧ ∃ j, s.frontier[i]? = some j
  | .abandon w => s.stopped = true ∧ ∃ a, s.active[w]? = some a

variable {P}

theorem Work.st_eq {d d' : Disc σ} {j : Job σ} {w : Nat} {c : Choice} {ph : Phase σ} {a' : Active σ}
    (hw : Work P d j w c ph d' a') : a'.job.st = j.st := by
  cases hw
  all_goals rfl

theorem Work.path_eq {d d' : Disc σ} {j : Job σ} {w : Nat} {c : Choice} {ph : Phase σ} {a' : Active σ}
    (hw : Work P d j w c ph d' a') : a'.job.path = j.path := by
  cases hw
  all_goals rfl

theorem Work.expanding {d d' : Disc σ} {j : Job σ} {w : Nat} {c : Choice} {ph : Phase σ} {a' : Active σ}
    (hw : Work P d j w c ph d' a') {rest : List σ} (hr : a'.phase = .expanding rest) :
    rest = P.M.succB j.st ∧ P.M.succB j.st ≠ [] := by
  cases hw
  case expand _ hss => exact ⟨(Phase.expanding.inj hr).symm, hss⟩
  all_goals cases hr

theorem Work.recording {d d' : Disc σ} {j : Job σ} {w : Nat} {c : Choice} {ph : Phase σ} {a' : Active σ}
    (hw : Work P d j w c ph d' a') {i : Nat} (hr : a'.phase = .recording i) :
    P.M.succB j.st = [] ∨ ∃ i', ph = .recording i' := by
  cases hw
  case terminal _ hss => exact .inl hss
  case record | noRecord => exact .inr ⟨_, rfl⟩
  all_goals cases hr

theorem Work.disc_eq {d d' : Disc σ} {j : Job σ} {w : Nat} {c : Choice} {ph : Phase σ} {a' : Active σ}
    (hw : Work P d j w c ph d' a') : d' = d ∨ ∃ i, d' = discInsert d i j.path := by
  cases hw
  case found | record => exact .inr ⟨_, rfl⟩
  all_goals exact .inl rfl

theorem step_spec (c : Choice) (s : St σ κ) :
    (¬ Enabled P c s ∧ step P c s = s) ∨ (Enabled P c s ∧ Move P s c (step P c s)) := by
  cases c with
  | take i =>
    simp only [step]
    unfold stepTake
    split
    · rename_i hj
      exact .inl ⟨fun ⟨_, h⟩ => (nomatch hj.symm.trans h), rfl⟩
    · rename_i j hj
      refine .inr ⟨⟨j, hj⟩, ?_⟩
      split
      · rename_i d hd
        split
        · rename_i hge
          exact .tooDeep hj hd hge
        · rename_i hlt
          refine .take hj fun d' hd' => ?_
          rw [hd] at hd'
          cases hd'
          exact Nat.lt_of_not_le hlt
      · rename_i hd
        refine .take hj fun d' hd' => ?_
        rw [hd] at hd'
        cases hd'
  | evalProp w b =>
    simp only [step]
    unfold stepEvalProp
    split
    · rename_i j i aw ha
      split
      · rename_i hp
        refine .inl ⟨fun ⟨_, _, _, ha', hi'⟩ => ?_, rfl⟩
        cases ha.symm.trans ha'
        exact absurd hi' (Nat.not_lt.2 (List.getElem?_eq_none_iff.1 hp))
      · rename_i p hp
        refine .inr ⟨⟨j, i, aw, ha, lt_length_of_getElem? hp⟩, ?_⟩
        split
        · rename_i hd
          obtain ⟨hd1, hd2⟩ := Bool.and_eq_true_iff.1 hd
          cases b
          · exact .work ha (.skip hp hd1)
          · exact nomatch hd2
        · rename_i hd
          have hs := Bool.eq_false_iff.2 hd
          split
          · -- always
            rename_i he
            split
            · rename_i hc
              exact .work ha (.found hp (.inl ⟨he, by simpa using hc⟩) hs)
            · rename_i hc
              refine .work ha (.pass hp (by simp [he]) ?_ hs)
              simpa [Wit, he] using hc
          · -- sometimes
            rename_i he
            split
            · rename_i hc
              exact .work ha (.found hp (.inr ⟨he, hc⟩) hs)
            · rename_i hc
              refine .work ha (.pass hp (by simp [he]) ?_ hs)
              simpa [Wit, he] using hc
          · -- eventually
            rename_i he
            cases hc : p.cond j.st
            · exact .work ha (.evFails hp he hc hs)
            · exact .work ha (.evHolds hp he hc hs)
    · rename_i hx
      exact .inl ⟨fun ⟨j, i, aw, ha, _⟩ => hx j i aw ha, rfl⟩
  | finishProps w =>
    simp only [step]
    unfold stepFinishProps
    split
    · rename_i j i aw ha
      split
      · rename_i hi
        refine .inl ⟨fun ⟨_, _, _, ha', hi'⟩ => ?_, rfl⟩
        cases ha.symm.trans ha'
        exact hi' hi
      · rename_i hi
        refine .inr ⟨⟨j, i, aw, ha, hi⟩, ?_⟩
        cases aw
        · exact .giveUp ha (Nat.le_of_not_lt hi)
        · cases hss : P.M.succB j.st
          · exact .work ha (.terminal (Nat.le_of_not_lt hi) hss)
          · refine .work ha ?_
            rw [← hss]
            exact .expand (Nat.le_of_not_lt hi) (by simp [hss])
    · rename_i hx
      exact .inl ⟨fun ⟨j, i, aw, ha, _⟩ => hx j i aw ha, rfl⟩
  | expand w f =>
    simp only [step]
    unfold stepExpand
    split
    · rename_i j rest ha
      refine .inr ⟨⟨j, rest, ha⟩, ?_⟩
      cases rest with
      | nil => exact .expanded ha
      | cons t rest =>
        by_cases hg : P.key t ∈ s.gen
        · dsimp only
          rw [if_pos hg]
          exact .seen ha hg
        · dsimp only
          rw [if_neg hg]
          exact .fresh f ha hg
    · rename_i hx
      exact .inl ⟨fun ⟨j, rest, ha⟩ => hx j rest ha, rfl⟩
  | record w =>
    simp only [step]
    unfold stepRecord
    split
    · rename_i j i ha
      refine .inr ⟨⟨j, i, ha⟩, ?_⟩
      split
      · rename_i hi
        split
        · rename_i hm
          exact .work ha (.record hi hm)
        · rename_i hm
          exact .work ha (.noRecord hi hm)
      · rename_i hi
        exact .recorded ha (Nat.le_of_not_lt hi)
    · rename_i hx
      exact .inl ⟨fun ⟨j, i, ha⟩ => hx j i ha, rfl⟩
  | stop why =>
    simp only [step]
    unfold stepStop
    split
    · rename_i hen
      cases h0 : s.stopped
      · exact .inr ⟨⟨hen, h0⟩, .stop hen h0⟩
      · -- stopping a stopped run changes nothing
        refine .inl ⟨fun ⟨_, h⟩ => (nomatch h0.symm.trans h), ?_⟩
        rw [← h0]
    · rename_i hen
      exact .inl ⟨fun ⟨h, _⟩ => hen h, rfl⟩
  | dropJob i =>
    simp only [step]
    unfold stepDropJob
    split
    · rename_i hc
      split
      · rename_i hj
        exact .inl ⟨fun ⟨_, _, h⟩ => (nomatch hj.symm.trans h), rfl⟩
      · rename_i j hj
        exact .inr ⟨⟨hc, j, hj⟩, .dropJob hc hj⟩
    · rename_i hc
      exact .inl ⟨fun ⟨h, _⟩ => hc h, rfl⟩
  | abandon w =>
    simp only [step]
    unfold stepAbandon
    split
    · rename_i hc
      split
      · rename_i ha
        exact .inl ⟨fun ⟨_, _, h⟩ => (nomatch ha.symm.trans h), rfl⟩
      · rename_i a ha
        exact .inr ⟨⟨hc, a, ha⟩, .abandon hc ha⟩
    · rename_i hc
      exact .inl ⟨fun ⟨h, _⟩ => hc h, rfl⟩

theorem step_cases {Inv : St σ κ → Prop} (c : Choice) {s : St σ κ} (h : Inv s)
    (hm : ∀ s', Move P s c s' → Inv s') : Inv (step P c s) :=
  (step_spec c s).elim (fun e => e.2.symm ▸ h) fun m => hm _ m.2

theorem Enabled.move {c : Choice} {s : St σ κ} (h : Enabled P c s) : Move P s c (step P c s) :=
  ((step_spec c s).resolve_left fun h' => h'.1 h).2

theorem runFrom_induction (Inv : St σ κ → Prop) (hstep : ∀ c s, Inv s → Inv (step P c s))
    (s : St σ κ) (h0 : Inv s) (cs : List Choice) : Inv (runFrom P s cs) := by
  unfold runFrom
  induction cs generalizing s with
  | nil => exact h0
  | cons c cs ih => exact ih _ (hstep c s h0)

theorem runFrom_cons (s : St σ κ) (c : Choice) (cs : List Choice) :
    runFrom P s (c :: cs) = runFrom P (step P c s) cs :=
  rfl

theorem runFrom_append (s : St σ κ) (cs ds : List Choice) :
    runFrom P s (cs ++ ds) = runFrom P (runFrom P s cs) ds :=
  List.foldl_append

theorem run_append (cs ds : List Choice) : run P (cs ++ ds) = runFrom P (run P cs) ds :=
  runFrom_append _ cs ds

theorem discNodup_step (c : Choice) {s : St σ κ} (h : (discNames s.disc).Nodup) : (discNames (step P c s).disc).Nodup := by
  refine step_cases (Inv := fun s => (discNames s.disc).Nodup) c h fun _ m => ?_
  cases m with
  | work _ hw =>
    rcases hw.disc_eq with rfl | ⟨_, rfl⟩
    · exact h
    · exact discNames_insert_nodup h _ _
  | _ => exact h

theorem discNodup_run (cs : List Choice) : (discNames (run P cs).disc).Nodup :=
  runFrom_induction (fun s => (discNames s.disc).Nodup) (fun c _ => discNodup_step c) (init ..) List.nodup_nil cs

end
end SR.Checker
