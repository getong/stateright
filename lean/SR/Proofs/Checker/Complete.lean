import SR.Proofs.Checker.Sound
/-!
Closure invariant of the checker machine: as long as no job was dropped (`early = false`), every generated
key belongs to a job that is pending, being worked on, or done; the successors of every done state are
generated; the already-handled successors of every state under expansion are generated.
At quiescence this yields: every reachable state is (equivalent to) a done state.
-/
namespace SR.Checker
open SR

section
variable {σ κ α : Type} [DecidableEq κ]
variable (P : Params σ κ α)

def jobStates (s : St σ κ) : List σ := s.frontier.map (·.st) ++ s.active.map (·.job.st) ++ s.done

structure Closure (s : St σ κ) : Prop where
  initIn : ∀ t ∈ P.M.initB, P.key t ∈ s.gen
  genJob : ∀ k ∈ s.gen, ∃ u ∈ jobStates s, P.key u = k
  doneCl : ∀ t ∈ s.done, ∀ t' ∈ P.M.succB t, P.key t' ∈ s.gen
  actExp : ∀ a ∈ s.active, ∀ rest, a.phase = .expanding rest →
              ∀ t' ∈ P.M.succB a.job.st, t' ∈ rest ∨ P.key t' ∈ s.gen
  /-- `SInv.recTerm` once more -/
  actRec : ∀ a ∈ s.active, ∀ i, a.phase = .recording i → P.M.succB a.job.st = []
  doneReach : ∀ t ∈ s.done, P.M.Reach t

def CInv (s : St σ κ) : Prop := s.early = false → Closure P s

def Deep (k : κ) : Prop :=
  ∃ d, P.cfg.maxDepth = some d ∧ ∃ u, P.key u = k ∧ P.M.Reach u ∧ ∀ q, P.M.IsPath q → q.getLast? = some u → d ≤ q.length

/-- `Closure`, except that a generated key may be `Deep`: what is left of it under a depth limit -/
structure DClosure (s : St σ κ) : Prop where
  initIn : ∀ t ∈ P.M.initB, P.key t ∈ s.gen
  genJob : ∀ k ∈ s.gen, (∃ u ∈ jobStates s, P.key u = k) ∨ Deep P k
  doneCl : ∀ t ∈ s.done, ∀ t' ∈ P.M.succB t, P.key t' ∈ s.gen
  actExp : ∀ a ∈ s.active, ∀ rest, a.phase = .expanding rest →
              ∀ t' ∈ P.M.succB a.job.st, t' ∈ rest ∨ P.key t' ∈ s.gen
  actRec : ∀ a ∈ s.active, ∀ i, a.phase = .recording i → P.M.succB a.job.st = []
  doneReach : ∀ t ∈ s.done, P.M.Reach t

def noLimit : Params σ κ α := { P with cfg := { P.cfg with maxDepth := none } }

variable {P}

theorem genInit_eq_foldl (key : σ → κ) (is : List σ) (g : List κ) : genInit key is g = (is.map key).foldl insertNew g := by
  induction is generalizing g with
  | nil => rfl
  | cons s ss ih => exact ih _

theorem genInit_spec (key : σ → κ) (is : List σ) (g : List κ) :
    (∀ k, k ∈ genInit key is g ↔ k ∈ g ∨ ∃ t ∈ is, key t = k) ∧ (g.Nodup → (genInit key is g).Nodup) ∧
      (genInit key is g).length ≤ g.length + is.length := by
  rw [genInit_eq_foldl]
  refine ⟨fun k => ?_, nodup_foldl_insertNew _ _, ?_⟩
  · rw [mem_foldl_insertNew, List.mem_map]
  · simpa using length_foldl_insertNew (is.map key) g

theorem cinv_init : CInv P (init P.M P.props P.key) := by
  intro _
  have hg := (genInit_spec P.key P.M.initB []).1
  refine ⟨fun t ht => (hg _).2 (.inr ⟨t, ht, rfl⟩), ?_, List.forall_mem_nil _, List.forall_mem_nil _, List.forall_mem_nil _,
    List.forall_mem_nil _⟩
  intro k hk
  rcases (hg k).1 hk with h | ⟨t, ht, rfl⟩
  · cases h
  · refine ⟨t, List.mem_append_left _ (List.mem_append_left _ ?_), rfl⟩
    rw [init_frontier_st]
    exact List.mem_reverse.2 ht

theorem mem_jobStates {s : St σ κ} {u : σ} :
    u ∈ jobStates s ↔ (∃ j ∈ s.frontier, j.st = u) ∨ (∃ a ∈ s.active, a.job.st = u) ∨ u ∈ s.done := by
  simp [jobStates, List.mem_append, List.mem_map]

theorem Closure.dclosure {s : St σ κ} (c : Closure P s) {cf : Cfg} : DClosure { P with cfg := cf } s :=
  ⟨c.initIn, fun k hk => .inl (c.genJob k hk), c.doneCl, c.actExp, c.actRec, c.doneReach⟩

/-- Without a depth limit no key is `Deep`, so `Closure` is `DClosure` and the lemmas below serve both. -/
theorem closure_iff_dclosure {s : St σ κ} : Closure P s ↔ DClosure (noLimit P) s :=
  ⟨fun c => c.dclosure,
   fun c => ⟨c.initIn, fun k hk => (c.genJob k hk).resolve_right (fun ⟨_, hd, _⟩ => nomatch hd), c.doneCl, c.actExp,
     c.actRec, c.doneReach⟩⟩

theorem DClosure.genJob_mono {s s' : St σ κ} (c : DClosure P s)
    (h : ∀ u ∈ jobStates s, u ∈ jobStates s' ∨ Deep P (P.key u)) :
    ∀ k ∈ s.gen, (∃ u ∈ jobStates s', P.key u = k) ∨ Deep P k := by
  intro k hk
  rcases c.genJob k hk with ⟨u, hu, rfl⟩ | hdeep
  · exact (h u hu).imp_left fun hu' => ⟨u, hu', rfl⟩
  · exact Or.inr hdeep

theorem DClosure.take {s : St σ κ} (c : DClosure P s) {i : Nat} {j : Job σ} (hj : s.frontier[i]? = some j) (n : Nat) :
    DClosure P { s with frontier := s.frontier.eraseIdx i, maxDepth := n, visits := j.path :: s.visits,
                        active := s.active ++ [⟨j, .props 0 false⟩] } := by
  refine ⟨c.initIn, c.genJob_mono fun u hu => .inl ?_, c.doneCl, forall_mem_concat c.actExp (fun _ hr => by cases hr),
    forall_mem_concat c.actRec (fun _ hr => by cases hr), c.doneReach⟩
  rw [mem_jobStates] at hu ⊢
  rcases hu with ⟨j', hj', rfl⟩ | ⟨a, ha, rfl⟩ | hu
  · rcases mem_eraseIdx_or_eq hj hj' with rfl | hj'
    · exact .inr (.inl ⟨_, List.mem_append_right _ (List.mem_singleton.2 rfl), rfl⟩)
    · exact .inl ⟨j', hj', rfl⟩
  · exact .inr (.inl ⟨a, List.mem_append_left _ ha, rfl⟩)
  · exact .inr (.inr hu)

theorem DClosure.set {s : St σ κ} (c : DClosure P s) (w : Nat) (a a' : Active σ)
    (ha : s.active[w]? = some a) (hst : a'.job.st = a.job.st)
    (hexp : ∀ rest, a'.phase = .expanding rest → ∀ t' ∈ P.M.succB a.job.st, t' ∈ rest ∨ P.key t' ∈ s.gen)
    (hrec : ∀ x ∈ s.active.set w a', ∀ i, x.phase = .recording i → P.M.succB x.job.st = [])
    (disc' : Disc σ) (n : Nat) :
    DClosure P { s with active := s.active.set w a', disc := disc', stateCount := n } := by
  refine ⟨c.initIn, c.genJob_mono fun u hu => .inl ?_, c.doneCl,
    forall_mem_set w c.actExp fun rest hr t' ht' => hexp rest hr t' (hst ▸ ht'), hrec, c.doneReach⟩
  simp only [jobStates, List.mem_append, List.mem_map, map_set_same (·.job.st) ha hst] at hu ⊢
  exact hu

theorem DClosure.push {s : St σ κ} (c : DClosure P s) (front : Bool) (j : Job σ) :
    DClosure P { s with gen := s.gen ++ [P.key j.st], frontier := if front then j :: s.frontier else s.frontier ++ [j] } := by
  refine ⟨fun t ht => List.mem_append_left _ (c.initIn t ht), fun k hk => ?_,
    fun t ht t' ht' => List.mem_append_left _ (c.doneCl t ht t' ht'),
    fun x hx rest hr t' ht' => (c.actExp x hx rest hr t' ht').imp_right (List.mem_append_left _), c.actRec, c.doneReach⟩
  have hf : ∀ x, x = j ∨ x ∈ s.frontier → x ∈ (if front then j :: s.frontier else s.frontier ++ [j]) := by
    intro x hx
    cases front
    · exact List.mem_append.2 (hx.symm.imp_right List.mem_singleton.2)
    · exact List.mem_cons.2 hx
  rcases List.mem_append.1 hk with hk | hk
  · refine c.genJob_mono (fun u hu => .inl ?_) k hk
    rw [mem_jobStates] at hu ⊢
    exact hu.imp_left fun ⟨x, hx, e⟩ => ⟨x, hf x (.inr hx), e⟩
  · cases List.mem_singleton.1 hk
    exact .inl ⟨j.st, mem_jobStates.2 (.inl ⟨j, hf j (.inl rfl), rfl⟩), rfl⟩

theorem actDone_retire {s : St σ κ} {w : Nat} {a : Active σ} (ha : s.active[w]? = some a) :
    ((s.active.eraseIdx w).map (·.job.st) ++ (a.job.st :: s.done)).Perm (s.active.map (·.job.st) ++ s.done) := by
  have h1 := (perm_eraseIdx ha).map (fun x : Active σ => x.job.st)
  simp only [List.map_cons] at h1
  exact (List.perm_middle.trans (List.Perm.append_right _ h1.symm))

theorem actDone_set {s : St σ κ} {w : Nat} {a a' : Active σ} (ha : s.active[w]? = some a)
    (hst : a'.job.st = a.job.st) :
    ((s.active.set w a').map (·.job.st) ++ s.done).Perm (s.active.map (·.job.st) ++ s.done) := by
  rw [map_set_same (fun x : Active σ => x.job.st) ha hst]

theorem dclosure_retire {s : St σ κ} (c : DClosure P s) (w : Nat) (a : Active σ) (ha : s.active[w]? = some a)
    (hcl : ∀ t' ∈ P.M.succB a.job.st, P.key t' ∈ s.gen) (hreach : P.M.Reach a.job.st) :
    DClosure P { s with active := s.active.eraseIdx w, done := a.job.st :: s.done } := by
  refine ⟨c.initIn, c.genJob_mono fun u hu => Or.inl ?_, List.forall_mem_cons.2 ⟨hcl, c.doneCl⟩,
    forall_mem_eraseIdx w c.actExp, forall_mem_eraseIdx w c.actRec,
    List.forall_mem_cons.2 ⟨hreach, c.doneReach⟩⟩
  unfold jobStates at hu ⊢
  rw [List.append_assoc] at hu ⊢
  exact ((actDone_retire ha).append_left _).mem_iff.2 hu

theorem DClosure.actExp_next {s : St σ κ} (c : DClosure P s) {j : Job σ} {t : σ} {rest' : List σ}
    (ham : (⟨j, .expanding (t :: rest')⟩ : Active σ) ∈ s.active) (ht : P.key t ∈ s.gen) (r : List σ)
    (hr : (Phase.expanding rest' : Phase σ) = .expanding r) : ∀ t' ∈ P.M.succB j.st, t' ∈ r ∨ P.key t' ∈ s.gen := by
  intro t' ht'
  cases hr
  rcases c.actExp _ ham _ rfl t' ht' with h' | h'
  · rcases List.mem_cons.1 h' with rfl | h'
    · exact Or.inr ht
    · exact Or.inl h'
  · exact Or.inr h'

/-- `cf`: the closure may be that of another limit than the step's (`noLimit P` in `cinv_move`, `P` itself in
    `BfsDepth.lean`). -/
theorem DClosure.expand {cf : Cfg} {s s' : St σ κ} {w : Nat} (cl : DClosure { P with cfg := cf } s) (f : Bool)
    (m : Move P s (.expand w f) s') (hs : SInv P s) : DClosure { P with cfg := cf } s' := by
  have hs' := sinv_move m hs
  cases m with
  | work _ hw => cases hw
  | expanded ha =>
    have ham := List.mem_of_getElem? ha
    exact dclosure_retire cl _ _ ha (fun t' ht' => (cl.actExp _ ham [] rfl t' ht').resolve_left List.not_mem_nil)
      (hs.ac _ ham).reach
  | @seen w _ j t rest ha hg =>
    exact cl.set w _ ⟨j, .expanding rest⟩ ha rfl (cl.actExp_next (List.mem_of_getElem? ha) hg) hs'.recTerm s.disc _
  | @fresh w j t rest f ha hg =>
    -- the new key is enqueued with its job; then it is a successor already generated
    have c1 := cl.push f ⟨t, j.path ++ [t], j.ebits, j.depth + 1⟩
    exact c1.set w _ ⟨j, .expanding rest⟩ ha rfl
      (c1.actExp_next (List.mem_of_getElem? ha) (List.mem_append_right _ (List.mem_singleton.2 rfl))) hs'.recTerm s.disc _

theorem cinv_move {c : Choice} {s s' : St σ κ} (m : Move P s c s') (hs : SInv P s) (h : CInv P s) : CInv P s' := by
  intro he
  have hs' := sinv_move m hs
  refine closure_iff_dclosure.2 ?_
  cases m with
  | take hj => exact (closure_iff_dclosure.1 (h he)).take hj _
  | work ha hw =>
    exact (closure_iff_dclosure.1 (h he)).set _ _ _ ha hw.st_eq (fun _ hr _ ht' => .inl ((hw.expanding hr).1 ▸ ht'))
      hs'.recTerm _ s.stateCount
  | expanded ha => exact (closure_iff_dclosure.1 (h he)).expand true (.expanded ha) hs
  | recorded ha =>
    have c := closure_iff_dclosure.1 (h he)
    have ham := List.mem_of_getElem? ha
    exact dclosure_retire c _ _ ha (fun t' ht' => nomatch c.actRec _ ham _ rfl ▸ ht') (hs.ac _ ham).reach
  | seen ha hg => exact (closure_iff_dclosure.1 (h he)).expand true (.seen ha hg) hs
  | fresh front ha hg => exact (closure_iff_dclosure.1 (h he)).expand _ (.fresh front ha hg) hs
  | stop =>
    have c := closure_iff_dclosure.1 (h he)
    exact ⟨c.initIn, c.genJob, c.doneCl, c.actExp, c.actRec, c.doneReach⟩
  | tooDeep | giveUp | dropJob | abandon => cases he

theorem cinv_run (cs : List Choice) : CInv P (run P cs) :=
  run_cases cinv_init cinv_move cs

theorem Closure.gen_done {s : St σ κ} (c : Closure P s) (hq : Quiescent s) :
    ∀ k ∈ s.gen, ∃ u ∈ s.done, P.key u = k := by
  intro k hk
  obtain ⟨u, hu, rfl⟩ := c.genJob k hk
  rw [mem_jobStates, hq.1, hq.2] at hu
  exact ⟨u, by simpa using hu, rfl⟩

/-- `R`: for plain runs `Eq`, with the key injective on reachable states; under symmetry reduction the symmetry
    equivalence. -/
theorem complete_of_quiescent (R : σ → σ → Prop)
    (hkey : ∀ a b, P.M.Reach a → P.M.Reach b → P.key a = P.key b → R a b)
    (htrans : ∀ a b c, R a b → R b c → R a c)
    (hsim : ∀ a b, R a b → ∀ a' ∈ P.M.succB a, ∃ b' ∈ P.M.succB b, R a' b')
    (cs : List Choice) (hq : Quiescent (run P cs)) (he : (run P cs).early = false) :
    ∀ t, P.M.Reach t → ∃ u ∈ (run P cs).done, R t u := by
  have c := cinv_run (P := P) cs he
  intro t ht
  induction ht with
  | @init t0 h =>
    obtain ⟨u, hu, hk⟩ := c.gen_done hq _ (c.initIn _ h)
    exact ⟨u, hu, hkey _ _ (.init h) (c.doneReach u hu) hk.symm⟩
  | @step s0 t0 _ ht ih =>
    obtain ⟨u, hu, hru⟩ := ih
    obtain ⟨u', hu', hr'⟩ := hsim _ _ hru _ ht
    obtain ⟨v, hv, hk⟩ := c.gen_done hq _ (c.doneCl u hu u' hu')
    exact ⟨v, hv, htrans _ _ _ hr' (hkey _ _ (.step (c.doneReach u hu) hu') (c.doneReach v hv) hk.symm)⟩

theorem done_of_reach (hinj : ∀ a b, P.M.Reach a → P.M.Reach b → P.key a = P.key b → a = b)
    (cs : List Choice) (hq : Quiescent (run P cs)) (he : (run P cs).early = false) :
    ∀ t, P.M.Reach t → t ∈ (run P cs).done := by
  intro t ht
  obtain ⟨u, hu, rfl⟩ := complete_of_quiescent Eq hinj (fun _ _ _ => Eq.trans)
    (fun _ _ hab a' ha' => ⟨a', hab ▸ ha', rfl⟩) cs hq he t ht
  exact hu

end
end SR.Checker
