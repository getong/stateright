import SR.Checker.Spec
import SR.Checker.Fuel
import SR.Proofs.Checker.Paths
import SR.Proofs.ListAux
/-!
The executable definitions the oracles run (`isPathB`, `reachList`) against the declarative ones of `SR.Basic`.  The hypothesis
of `reachList_iff` is the test `oracle-closure-not-stabilised` of `Drv/Chk.lean`; on a well-formed graph (`Graph.WF` of
`Checker/Fuel.lean`) the equivalence holds without it (`reachList_iff_wf` in `SpecAdequacy.lean`) and the test always succeeds
(`C13_oracle_reach_stabilises` in `Props/OracleAdequacy.lean`).  At the end: on such a graph successors and reachable states
are state numbers `< g.n` (`Graph.target_lt`, `Graph.reach_lt`).
-/
namespace SR.Checker
open SR

namespace Graph
variable (g : Graph)

theorem chainB_iff (p : List Nat) : g.chainB p = true ↔ g.toSys.Chain p := by
  induction p with
  | nil => simp [chainB, Sys.Chain]
  | cons s rest ih =>
    cases rest with
    | nil => simp [chainB, Sys.Chain]
    | cons t rest' =>
      simp only [chainB, Sys.Chain, Bool.and_eq_true, ih, succB, List.contains_eq_mem, decide_eq_true_eq]

theorem isPathB_iff (p : List Nat) : g.isPathB p = true ↔ g.toSys.IsPath p := by
  cases p with
  | nil => exact ⟨nofun, fun h => absurd rfl (Sys.isPath_ne_nil h)⟩
  | cons s rest =>
    simp only [isPathB, Bool.and_eq_true, chainB_iff, initB, List.contains_eq_mem, decide_eq_true_eq]
    constructor
    · exact fun ⟨hi, hc⟩ => ⟨s, rest, rfl, hi, hc⟩
    · rintro ⟨_, _, heq, hi, hc⟩
      cases heq
      exact ⟨hi, hc⟩

theorem closeStep_eq (known : List Nat) : g.closeStep known = (known.flatMap g.succB).foldl insertNew known :=
  List.foldl_flatMap.symm

theorem mem_closeStep (known : List Nat) (x : Nat) :
    x ∈ g.closeStep known ↔ x ∈ known ∨ ∃ s ∈ known, x ∈ g.succB s := by
  rw [closeStep_eq, mem_foldl_insertNew, List.mem_flatMap]

theorem closeN_sound (n : Nat) (k : List Nat) (hk : ∀ x ∈ k, g.toSys.Reach x) : ∀ x ∈ g.closeN n k, g.toSys.Reach x := by
  induction n generalizing k with
  | zero => exact hk
  | succ n ih =>
    apply ih
    intro x hx
    rcases (mem_closeStep g k x).1 hx with h | ⟨s, hs, hxs⟩
    · exact hk x h
    · exact Sys.Reach.step (hk s hs) hxs

theorem reachList_sound : ∀ x ∈ g.reachList, g.toSys.Reach x := by
  apply closeN_sound
  intro x hx
  exact Sys.Reach.init (by simpa [initB] using (List.mem_eraseDups.1 hx))

theorem closeN_mono (n : Nat) (k : List Nat) : ∀ x ∈ k, x ∈ g.closeN n k := by
  induction n generalizing k with
  | zero => exact fun _ h => h
  | succ n ih => exact fun x hx => ih _ x ((mem_closeStep g k x).2 (Or.inl hx))

theorem reachList_complete (hfix : ∀ x, x ∈ g.closeStep g.reachList → x ∈ g.reachList) :
    ∀ x, g.toSys.Reach x → x ∈ g.reachList := by
  intro x hx
  induction hx with
  | init h =>
    apply closeN_mono
    exact List.mem_eraseDups.2 (by simpa [initB] using h)
  | step _ ht ih => exact hfix _ ((mem_closeStep g _ _).2 (Or.inr ⟨_, ih, ht⟩))

theorem reachList_iff (hfix : ∀ x, x ∈ g.closeStep g.reachList → x ∈ g.reachList) (x : Nat) :
    x ∈ g.reachList ↔ g.toSys.Reach x :=
  ⟨reachList_sound g x, reachList_complete g hfix x⟩

end Graph

theorem Graph.target_lt {g : Graph} (hwf : g.WF) {s t : Nat} (ht : t ∈ g.toSys.succB s) : t < g.n := by
  obtain ⟨⟨a, _, hn⟩, _⟩ := Sys.mem_succB.1 ht
  -- `toSys` reads `adj` with `getD … []` and the row with `getD … none`: a successor sits in a row that is in `adj`,
  -- and those are what `WF` speaks of
  have h1 : some t ∈ g.adj.getD s [] := mem_of_getD_ne hn nofun
  have h2 : g.adj.getD s [] ∈ g.adj := mem_of_getD_ne rfl (List.ne_nil_of_mem h1)
  simpa using hwf.2 _ h2 _ h1

theorem Graph.reach_lt {g : Graph} (hwf : g.WF) {s : Nat} (hr : g.toSys.Reach s) : s < g.n := by
  induction hr with
  | init h => exact hwf.1 _ (List.mem_filter.1 h).1
  | step _ ht _ => exact Graph.target_lt hwf ht

end SR.Checker
