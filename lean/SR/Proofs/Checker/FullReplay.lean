import SR.Drv.Full
import SR.Proofs.ExceptHolds
/-! The trace validator of `SR/Drv/Full.lean` only ever performs steps of the product: a trace it ACCEPTS is a run of the
concurrent checker of `Checker/Full.lean`, so the theorems of `Props/C05Full.lean` hold of that very run.

Every handler `one*` of the validator is a `do` block over `stepE` / `advance` / `discardAll`, which move the product
state by product steps.  `Except.Holds` takes the block apart; what is left to say per handler is which of the three calls
it makes, in which order (`IsRun.after_stepE`, `.after_advance`, `.after_discardAll`, each taking what has to hold of the
state it returns). -/
namespace SR.Drv.Full
open SR SR.Checker SR.Market SR.Full Except

variable (P : Params Nat Nat Nat)

def IsRun (x0 x : FState Nat Nat) : Prop := ∃ fs : List FStep, x = (frunFrom P x0 fs).1

theorem isRun_refl (x0 : FState Nat Nat) : IsRun P x0 x0 := ⟨[], rfl⟩

theorem frunFrom_snoc (fs : List FStep) (x : FState Nat Nat) (f : FStep) (x' : FState Nat Nat)
    (ms : List Step) (cs : List Choice) (h : fstep P (frunFrom P x fs).1 f = some (x', ms, cs)) :
    (frunFrom P x (fs ++ [f])).1 = x' := by
  fun_induction frunFrom P x fs with
  | case1 => simp only [List.nil_append, frunFrom, h]
  | case2 _ _ _ hg ih => simp only [List.cons_append, frunFrom, hg, ih h]
  | case3 _ _ _ _ _ _ hg _ ih => simp only [List.cons_append, frunFrom, hg, ih h]

variable {P} {x0 : FState Nat Nat}

theorem IsRun.after_stepE {x : FState Nat Nat} {Q : FState Nat Nat → Prop} (hx : IsRun P x0 x) (f : FStep)
    (k : ∀ y, IsRun P x0 y → Q y) : (stepE P x f).Holds Q := by
  obtain ⟨fs, rfl⟩ := hx
  unfold stepE
  split
  · next y ms cs hf => exact holds_pure.2 (k y ⟨fs ++ [f], (frunFrom_snoc P fs x0 f y ms cs hf).symm⟩)
  · exact holds_throw

theorem IsRun.after_advance {Q : FState Nat Nat → Prop} (w : Nat) : ∀ (fuel : Nat) {x : FState Nat Nat}, IsRun P x0 x →
    (∀ y, IsRun P x0 y → Q y) → (advance P x w fuel).Holds Q
  | 0, x, hx, k => holds_pure.2 (k x hx)
  | fuel + 1, x, hx, k => by
    unfold advance
    split
    · exact holds_pure.2 (k x hx)
    · split
      · simp only [holds_ite, holds_pure, holds_bind]
        exact ⟨fun _ => k x hx, fun _ => hx.after_stepE _ fun _ h => h.after_advance w fuel k⟩
      · exact hx.after_stepE _ k
      · exact holds_pure.2 (k x hx)
      · simp only [holds_ite, holds_pure, holds_bind]
        exact ⟨fun _ => k x hx, fun _ => hx.after_stepE _ fun _ h => h.after_advance w fuel k⟩

theorem IsRun.after_discardAll {Q : FState Nat Nat → Prop} (w : Nat) : ∀ (ts : List Tok) {x : FState Nat Nat},
    IsRun P x0 x → (∀ y, IsRun P x0 y → Q y) → (discardAll P x w ts).Holds Q
  | [], x, hx, k => holds_pure.2 (k x hx)
  | t :: ts, x, hx, k => by
    unfold discardAll
    split
    · exact holds_throw
    · exact holds_bind.2 (hx.after_stepE _ fun _ h => h.after_discardAll w ts k)

theorem isRun_onePop (k : Nat) {tv : TV} (e : Ev) (hx : IsRun P x0 tv.x) :
    (onePop P k tv e).Holds fun tv' => IsRun P x0 tv'.x := by
  simp only [onePop, holds_ite, holds_bind, holds_throw, holds_pure, implies_true, true_and]
  exact fun _ => hx.after_advance _ _ fun _ h _ => h.after_stepE _ fun _ h => h

theorem isRun_oneSplit {tv : TV} (e : Ev) (hx : IsRun P x0 tv.x) :
    (oneSplit P tv e).Holds fun tv' => IsRun P x0 tv'.x := by
  simp only [oneSplit, holds_ite, holds_bind, holds_throw, holds_pure, implies_true, true_and]
  exact hx.after_advance _ _ fun _ h _ => h.after_stepE _ fun _ h _ _ => h

theorem isRun_oneSplitClosed {tv : TV} (e : Ev) (hx : IsRun P x0 tv.x) :
    (oneSplitClosed P tv e).Holds fun tv' => IsRun P x0 tv'.x := by
  simp only [oneSplitClosed, holds_ite, holds_bind, holds_throw, holds_pure, implies_true, true_and]
  exact hx.after_advance _ _ fun _ h _ _ => h.after_stepE _ fun _ h => h

theorem isRun_oneDrop (k : Nat) {tv : TV} (e : Ev) (hx : IsRun P x0 tv.x) :
    (oneDrop P k tv e).Holds fun tv' => IsRun P x0 tv'.x := by
  simp only [oneDrop, holds_ite, holds_bind, holds_pure]
  exact ⟨fun _ => hx.after_advance _ _ fun _ h => h.after_stepE _ fun _ h => h, fun _ => hx.after_stepE _ fun _ h => h⟩

theorem isRun_oneTake {tv : TV} (e : Ev) (hx : IsRun P x0 tv.x) :
    (oneTake P tv e).Holds fun tv' => IsRun P x0 tv'.x := by
  simp only [oneTake, holds_ite, holds_bind, holds_throw, implies_true, true_and]
  refine hx.after_advance _ _ fun x hx1 _ => ?_
  split
  · exact holds_throw
  · simp only [holds_ite, holds_bind, holds_throw, holds_pure, implies_true, true_and]
    exact fun _ => hx1.after_stepE _ fun _ h => h.after_advance _ _ fun _ h => h

theorem isRun_oneBlock {tv : TV} (e : Ev) (hx : IsRun P x0 tv.x) :
    (oneBlock P tv e).Holds fun tv' => IsRun P x0 tv'.x := by
  simp only [oneBlock, holds_ite, holds_bind, holds_throw, holds_pure, implies_true, true_and]
  exact hx.after_advance _ _ fun _ h _ _ _ => h

theorem isRun_oneBlockEnd {tv : TV} (e : Ev) (hx : IsRun P x0 tv.x) :
    (oneBlockEnd P tv e).Holds fun tv' => IsRun P x0 tv'.x := by
  simp only [oneBlockEnd, holds_ite, holds_bind, holds_throw, holds_pure, implies_true, true_and]
  exact hx.after_advance _ _ fun _ h _ _ => h.after_discardAll _ _ fun _ h => h

theorem isRun_oneTakeLocal {tv : TV} (e : Ev) (hx : IsRun P x0 tv.x) :
    (oneTakeLocal P tv e).Holds fun tv' => IsRun P x0 tv'.x := by
  simp only [oneTakeLocal, holds_ite, holds_bind, holds_throw, implies_true, true_and]
  refine hx.after_advance _ _ fun x hx1 _ => ?_
  split
  · exact holds_throw
  · split
    · simp only [holds_ite, holds_bind, holds_throw, holds_pure, implies_true, true_and]
      exact fun _ => hx1.after_stepE _ fun _ h => h.after_advance _ _ fun _ h => h
    · exact holds_throw

theorem isRun_oneProp {tv : TV} (e : Ev) (hx : IsRun P x0 tv.x) :
    (oneProp P tv e).Holds fun tv' => IsRun P x0 tv'.x := by
  simp only [oneProp]
  split
  · simp only [holds_ite, holds_bind, holds_throw, holds_pure, implies_true, true_and]
    exact fun _ _ => hx.after_stepE _ fun _ h _ _ => h.after_advance _ _ fun _ h => h
  · exact holds_throw

theorem isRun_oneExpand (dfs : Bool) {tv : TV} (e : Ev) (hx : IsRun P x0 tv.x) :
    (oneExpand P dfs tv e).Holds fun tv' => IsRun P x0 tv'.x := by
  simp only [oneExpand]
  split
  · simp only [holds_ite, holds_bind, holds_throw, holds_pure, implies_true, true_and]
    exact fun _ _ => hx.after_stepE _ fun _ h => h.after_advance _ _ fun _ h => h
  · exact holds_throw

theorem isRun_oneRecord {tv : TV} (e : Ev) (hx : IsRun P x0 tv.x) :
    (oneRecord P tv e).Holds fun tv' => IsRun P x0 tv'.x := by
  simp only [oneRecord]
  split
  · simp only [holds_ite, holds_bind, holds_throw, holds_pure, implies_true, true_and]
    exact fun _ => hx.after_stepE _ fun _ h => h.after_advance _ _ fun _ h => h
  · exact holds_throw

theorem isRun_oneTimeout {tv : TV} (hx : IsRun P x0 tv.x) :
    (oneTimeout P tv).Holds fun tv' => IsRun P x0 tv'.x := by
  simp only [oneTimeout, holds_bind, holds_pure]
  exact hx.after_stepE _ fun _ h => h

theorem isRun_one (k : Nat) (mode : Mode) {tv : TV} (e : Ev) (hx : IsRun P x0 tv.x) :
    (one P k mode tv e).Holds fun tv' => IsRun P x0 tv'.x := by
  unfold one
  -- the cases of `one`, by entry kind
  split
  · exact isRun_onePop k e hx                 -- 1
  · exact isRun_onePop k e hx                 -- 2
  · exact isRun_onePop k e hx                 -- 3
  · exact holds_throw               -- 5
  · exact holds_pure.2 hx                     -- 8
  · exact isRun_oneSplit e hx                 -- 7
  · exact isRun_oneSplitClosed e hx           -- 9
  · exact isRun_oneDrop k e hx                -- 10
  · exact isRun_oneTimeout hx                 -- 11
  · split                                     -- 20
    · exact isRun_oneTakeLocal e hx
    · exact isRun_oneTake e hx
  · exact isRun_oneProp e hx                  -- 21
  · exact isRun_oneExpand _ e hx              -- 22
  · exact isRun_oneRecord e hx                -- 23
  · exact holds_pure.2 hx                     -- 24
  · split                                     -- 25
    · exact isRun_oneBlock e hx
    · exact holds_throw
  · split                                     -- 26
    · exact isRun_oneBlockEnd e hx
    · exact holds_throw
  · exact holds_throw

theorem isRun_replay (k : Nat) (mode : Mode) : ∀ (es : List Ev) (tv tv' : TV) (i : Nat),
    IsRun P x0 tv.x → replay P k mode tv i es = .ok tv' → IsRun P x0 tv'.x
  | [], _, _, _, hx, h => by
    cases h
    exact hx
  | e :: es, tv, tv', i, hx, h => by
    unfold replay at h
    split at h
    · next tv1 h1 => exact isRun_replay k mode es tv1 tv' (i + 1) ((isRun_one k mode e hx).ok h1) h
    · cases h

end SR.Drv.Full
