import SR.Drv.SimTrace
import SR.Proofs.ExceptHolds
/-! The trace validator `tvsim` (`Drv/SimTrace.lean`) only ever performs steps of the machine: an accepted trace is a run of
`MSim`.  Its handlers are `Except` programs over `stepE` / `fill` / `busyE`; `Except.Holds` takes them apart. -/
namespace SR.Drv.SimTrace
open SR SR.Checker SR.Checker.MSim SR.Drv.Chk Except

variable (P : Params Nat Nat Nat)

def IsRun (x0 x : S) : Prop := ∃ fs : List (Step Nat), x = MSim.runFrom P x0 fs

theorem isRun_refl (x0 : S) : IsRun P x0 x0 := ⟨[], rfl⟩

theorem runFrom_snoc (fs : List (Step Nat)) (x : S) (f : Step Nat) (x' : S)
    (h : MSim.step P f (MSim.runFrom P x fs) = some x') : MSim.runFrom P x (fs ++ [f]) = x' := by
  fun_induction MSim.runFrom P x fs
  case case1 => simp only [List.nil_append, MSim.runFrom, h]
  -- the first step is not enabled / is enabled
  case case2 hg ih | case3 hg ih => simpa only [List.cons_append, MSim.runFrom, hg] using ih h

variable {P} {x0 x : S}

theorem isRun_stepE (hx : IsRun P x0 x) (f : Step Nat) : (stepE P x f).Holds (IsRun P x0) := by
  obtain ⟨fs, rfl⟩ := hx
  unfold stepE
  split
  · next y hf => exact holds_pure.2 ⟨fs ++ [f], (runFrom_snoc P fs x0 f y hf).symm⟩
  · exact holds_throw

theorem isRun_fill (w : Nat) (fuel : Nat) {x : S} (hx : IsRun P x0 x) : (fill P x w fuel).Holds (IsRun P x0) := by
  fun_induction fill P x w fuel
  -- a step without an entry is taken: `finishProps` (4), `recordOne` (5)
  case case4 ih | case5 ih => exact holds_bind.2 ((isRun_stepE hx _).mono fun _ => ih _)
  all_goals exact holds_pure.2 hx

theorem isRun_busyE (hx : IsRun P x0 x) (f : Step Nat) : (busyE P x f).Holds fun r => IsRun P x0 r.2 := by
  unfold busyE
  split
  · exact holds_throw
  · simp only [holds_bind, holds_pure]
    exact isRun_stepE hx f

theorem holds_check {c : Bool} {msg : Unit → String} {k : R S} {Q : S → Prop} (h : k.Holds Q) :
    (check c msg k).Holds Q := by
  unfold check
  split
  · exact holds_throw
  · exact h

theorem isRun_oneEnter (e : Ev) (want : EnterOut) (hx : IsRun P x0 x) : (oneEnter P x e want).Holds (IsRun P x0) := by
  unfold oneEnter
  split
  · exact holds_throw
  · exact holds_check (holds_check (holds_check (holds_check (isRun_stepE hx _))))

theorem isRun_oneRead (e : Ev) (hit : Bool) (hx : IsRun P x0 x) : (oneRead P x e hit).Holds (IsRun P x0) := by
  unfold oneRead
  exact holds_check (isRun_stepE hx _)

theorem isRun_oneApply (e : Ev) (ins : Bool) (hx : IsRun P x0 x) : (oneApply P x e ins).Holds (IsRun P x0) := by
  unfold oneApply
  split
  · exact holds_error
  · next hy => exact holds_check (holds_pure.2 ((isRun_busyE hx _).ok hy))

theorem isRun_oneEndProps (e : Ev) (hx : IsRun P x0 x) : (oneEndProps P x e).Holds (IsRun P x0) := by
  unfold oneEndProps
  split
  · exact holds_error
  · next hy => exact holds_check (holds_pure.2 ((isRun_stepE hx _).ok hy))

theorem isRun_oneNext (e : Ev) (hx : IsRun P x0 x) : (oneNext P x e).Holds (IsRun P x0) := by
  unfold oneNext
  split
  · exact holds_error
  · next hy => exact isRun_stepE ((isRun_fill _ _ hx).ok hy) _

theorem isRun_oneTerminal (e : Ev) (hx : IsRun P x0 x) : (oneTerminal P x e).Holds (IsRun P x0) := by
  unfold oneTerminal
  split
  · exact holds_error
  · next hy =>
    split
    · exact holds_check (isRun_stepE ((isRun_fill _ _ hx).ok hy) _)
    · exact holds_throw

theorem isRun_oneRecord (e : Ev) (hx : IsRun P x0 x) : (oneRecord P x e).Holds (IsRun P x0) := by
  unfold oneRecord
  split
  · exact holds_error
  · next hy =>
    split
    · exact holds_error
    · next hz => exact holds_check (holds_pure.2 ((isRun_busyE ((isRun_fill _ _ hx).ok hy) _).ok hz))

theorem isRun_oneDone (e : Ev) (hx : IsRun P x0 x) : (oneDone P x e).Holds (IsRun P x0) := by
  unfold oneDone
  split
  · exact holds_error
  · next hy => exact isRun_stepE ((isRun_fill _ _ hx).ok hy) _

theorem isRun_oneCut (e : Ev) (hx : IsRun P x0 x) : (oneCut P x e).Holds (IsRun P x0) := by
  unfold oneCut
  split
  · exact holds_check (isRun_stepE hx _)
  · exact holds_throw

theorem isRun_one (e : Ev) (hx : IsRun P x0 x) : (one P x e).Holds (IsRun P x0) := by
  unfold one
  -- the cases of `one`, by `e.kind` (and `e.b` / `e.a` below it)
  split
  · exact isRun_stepE hx _                -- 40 start
  · exact isRun_oneEnter e _ hx           -- 41 enter, counted
  · exact isRun_oneRead e _ hx            -- 42 read: not discovered
  · split                                 -- 21
    · exact isRun_oneRead e _ hx          --   b = 0 read: discovered
    · exact isRun_oneApply e _ hx         --   b = 1 evaluated, inserted
    · exact isRun_oneApply e _ hx         --   b = 2 evaluated, nothing inserted
    · exact holds_throw
  · exact isRun_oneNext e hx              -- 43 successor chosen
  · split                                 -- 44 end of trace
    · exact isRun_oneEnter e _ hx         --   a = 1 loop found
    · exact isRun_oneTerminal e hx        --   a = 2 no action left
    · exact isRun_oneEnter e _ hx         --   a = 3 depth limit
    · exact isRun_oneEnter e _ hx         --   a = 4 outside the boundary
    · exact isRun_oneEndProps e hx        --   a = 5 everything discovered
    · exact isRun_oneCut e hx             --   a = 6 shutdown seen
    · exact holds_throw
  · exact isRun_oneRecord e hx            -- 23 recording loop inserts
  · exact isRun_oneDone e hx              -- 45 recording loop over
  · split                                 -- 46 leave
    · exact isRun_stepE hx _              --   a = 1 finish
    · exact isRun_stepE hx _              --   a = 2 target
    · exact isRun_stepE hx _              --   a = 3 shutdown
    · exact holds_throw
  · exact isRun_stepE hx _                -- 47 cont
  · split                                 -- 48
    · exact isRun_stepE hx _              --   a = 0 timeout
    · exact isRun_stepE hx _              --   otherwise panic
  · exact holds_throw

theorem isRun_replay (es : List Ev) {x : S} (i : Nat) (hx : IsRun P x0 x) : (replay P x i es).Holds (IsRun P x0) := by
  fun_induction replay P x i es
  case case1 => exact holds_pure.2 hx
  case case2 h1 ih => exact ih ((isRun_one _ hx).ok h1)  -- the entry is accepted
  case case3 => exact holds_throw

end SR.Drv.SimTrace
