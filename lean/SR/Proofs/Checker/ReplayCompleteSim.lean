import SR.Drv.SimTrace
import SR.Proofs.Checker.MSimStep
import SR.Proofs.ListAux
/-!
The converse of `isRun_replay` (`Proofs/Checker/SimReplay.lean`): the log the `TR_SIM_*` hooks write for a run of the
machine (`record`, one `entry` per step) is accepted.

Two kinds of steps have no entry (`entry`).  The replay performs them only when the next entry of the same worker arrives
(`fill`), so between entries it is BEHIND the machine by such steps (`Lag`).  They change nothing but the phase of the
worker's own trace, so a step enabled in the machine's state is enabled in the replay's, with the same effect on the
shared state (`step_complete`); once every worker has left nothing is behind.
-/
namespace SR.ReplayComplete.Sim
open SR SR.Checker SR.Checker.MSim SR.Drv.SimTrace

abbrev T := Tr Nat Nat
abbrev W := WSt Nat Nat

variable (P : Params Nat Nat Nat)

/-- the entry the `TR_SIM_*` hooks write when the machine takes the (enabled) step `f` in state `s`; `none`: the step has
    no entry (`finishProps` when something is awaited; an iteration of the recording loop whose bit is not set).
    The timeout entry carries 99999, the index the harness gives to a thread that is not a worker; `one` does not read
    the worker of an entry of kind 48 with `a = 0`, so the number plays no role below. -/
def entry (s : S) (f : Step Nat) : Option Ev :=
  match f with
  | .start w a => some ⟨w, 40, a, 0⟩
  | .enter w =>
    match trOf s w with
    | some t =>
      match enterOut P t with
      | .counted => some ⟨w, 41, t.cur, t.path.length + 1⟩
      | .loop => some ⟨w, 44, 1, t.path.length + 1⟩
      | .depth => some ⟨w, 44, 3, t.path.length⟩
      | .outside => some ⟨w, 44, 4, t.path.length⟩
    | none => none
  | .evalProp w i => if hasDisc s.disc i then some ⟨w, 21, i, 0⟩ else some ⟨w, 42, i, 0⟩
  | .applyProp w i =>
    match effOf P (.applyProp w i) s with
    | some e => if e.ins.isSome then some ⟨w, 21, i, 1⟩ else some ⟨w, 21, i, 2⟩
    | none => none
  | .finishProps w =>
    match trOf s w with
    | some t => if t.awaiting then none else some ⟨w, 44, 5, t.path.length⟩
    | none => none
  | .advance w (some n) => some ⟨w, 43, n, 0⟩
  | .advance w none =>
    match trOf s w with
    | some t => some ⟨w, 44, 2, t.path.length⟩
    | none => none
  | .recordOne w i =>
    match trOf s w with
    | some t => if i ∈ t.ebits then some ⟨w, 23, i, 0⟩ else none
    | none => none
  | .endTrace w => some ⟨w, 45, 0, 0⟩
  | .cut w =>
    match trOf s w with
    | some t => some ⟨w, 44, 6, t.path.length⟩
    | none => none
  | .cont w => some ⟨w, 47, 0, 0⟩
  | .leave w .finish => some ⟨w, 46, 1, 0⟩
  | .leave w .target => some ⟨w, 46, 2, 0⟩
  | .leave w .shutdown => some ⟨w, 46, 3, 0⟩
  | .timeout => some ⟨99999, 48, 0, 0⟩
  | .panic w => some ⟨w, 48, 1, 0⟩

def record (s : S) : List (Step Nat) → List Ev
  | [] => []
  | f :: fs =>
    match MSim.step P f s with
    | none => record s fs
    | some s' => (entry P s f).toList ++ record s' fs

/-- the step without an entry that a trace can take, if any; the guards are those of `SimTrace.fill`, which takes
    exactly these steps (`fill_succ`) -/
def sil (t : T) : Option T :=
  match t.ph with
  | .props i => if i < P.props.length ∨ !t.awaiting then none else some { t with ph := .choose }
  | .record i => if i < P.props.length ∧ i ∉ t.ebits then some { t with ph := .record (i + 1) } else none
  | _ => none

/-- `LagT P t t'`: `t'` (the machine's trace) is `t` (the replay's) after some steps without an entry -/
inductive LagT : T → T → Prop
  | refl (t : T) : LagT t t
  | step {t t' t'' : T} : sil P t = some t' → LagT t' t'' → LagT t t''

inductive LagW : W → W → Prop
  | refl (a : W) : LagW a a
  | busy {t t' : T} : LagT P t t' → LagW (.busy t) (.busy t')

def LagO : Option W → Option W → Prop
  | none, none => True
  | some a, some b => LagW P a b
  | _, _ => False

structure Lag (x s : S) : Prop where
  disc : x.disc = s.disc
  cnt : x.stateCount = s.stateCount
  sd : x.shutdown = s.shutdown
  ws : ∀ w : Nat, LagO P x.ws[w]? s.ws[w]?

variable {P}

theorem sil_cases {t t' : T} (h : sil P t = some t') :
    (∃ i, t.ph = .props i ∧ t' = { t with ph := .choose }) ∨
      ∃ i, t.ph = .record i ∧ i < P.props.length ∧ t' = { t with ph := .record (i + 1) } := by
  unfold sil at h
  split at h
  · rename_i i hph
    split at h
    · cases h
    · cases h
      exact .inl ⟨i, hph, rfl⟩
  · rename_i i hph
    split at h
    · rename_i hc
      cases h
      exact .inr ⟨i, hph, hc.1, rfl⟩
    · cases h
  · cases h

theorem lagT_snoc {t t' t'' : T} (h : LagT P t t') (h' : sil P t' = some t'') : LagT P t t'' := by
  induction h with
  | refl t => exact .step h' (.refl _)
  | step h1 _ ih => exact .step h1 (ih h')

/-- a step without an entry ends in phase `.choose` or `.record _` (`sil_cases`): in any other phase the replay is not
    behind.  The same phase condition is the hypothesis of `lag_ws_eq`, `sync_of_ph` and the body of `Settled`. -/
theorem lagT_eq {t t' : T} (h : LagT P t t') (hph : t'.ph ≠ .choose ∧ ∀ i, t'.ph ≠ .record i) : t = t' := by
  induction h with
  | refl t => rfl
  | step h1 _ ih =>
    cases ih hph
    rcases sil_cases h1 with ⟨_, _, rfl⟩ | ⟨_, _, _, rfl⟩
    · exact (hph.1 rfl).elim
    · exact (hph.2 _ rfl).elim

theorem lag_refl (s : S) : Lag P s s :=
  ⟨rfl, rfl, rfl, fun w => by
    cases h : s.ws[w]? with
    | none => exact trivial
    | some a => exact LagW.refl a⟩

theorem lag_ws_eq {x s : S} (h : Lag P x s) {w : Nat}
    (hw : ∀ t, s.ws[w]? = some (.busy t) → t.ph ≠ .choose ∧ ∀ i, t.ph ≠ .record i) : x.ws[w]? = s.ws[w]? := by
  have hl := h.ws w
  match hx : x.ws[w]?, hs : s.ws[w]?, hl with
  | none, none, _ => rfl
  | some _, some _, .refl _ => rfl
  | some _, some _, .busy hl => rw [lagT_eq hl (hw _ hs)]

theorem lag_get {x s : S} (h : Lag P x s) {w : Nat} {b : W} (hb : s.ws[w]? = some b) :
    ∃ a, x.ws[w]? = some a ∧ LagW P a b := by
  have hl := h.ws w
  rw [hb] at hl
  match hx : x.ws[w]?, hl with
  | some a, hl => exact ⟨a, rfl, hl⟩

theorem lag_get_busy {x s : S} (h : Lag P x s) {w : Nat} {t : T} (hb : s.ws[w]? = some (.busy t)) :
    ∃ tx, x.ws[w]? = some (.busy tx) ∧ LagT P tx t := by
  obtain ⟨a, ha, hl⟩ := lag_get h hb
  cases hl with
  | refl => exact ⟨t, ha, .refl t⟩
  | busy hl => exact ⟨_, ha, hl⟩

theorem sync_of_ph {x s : S} (h : Lag P x s) {w : Nat} {t : T} (hs : s.ws[w]? = some (.busy t))
    (hph : t.ph ≠ .choose ∧ ∀ i, t.ph ≠ .record i) : x.ws[w]? = some (.busy t) :=
  hs ▸ lag_ws_eq h fun _ ht => WSt.busy.inj (Option.some.inj (hs.symm.trans ht)) ▸ hph

theorem lag_length {x s : S} (h : Lag P x s) : x.ws.length = s.ws.length := by
  have hw : ∀ w, x.ws.length ≤ w ↔ s.ws.length ≤ w := by
    intro w
    rw [← List.getElem?_eq_none_iff, ← List.getElem?_eq_none_iff]
    have hl := h.ws w
    match hx : x.ws[w]?, hs : s.ws[w]?, hl with
    | none, none, _ => exact Iff.rfl
    | some _, some _, _ => exact ⟨nofun, nofun⟩
  exact Nat.le_antisymm ((hw _).2 (Nat.le_refl _)) ((hw _).1 (Nat.le_refl _))

theorem lag_upd {x s x' s' : S} (h : Lag P x s) (w : Nat) (hx : ∀ v, w ≠ v → x'.ws[v]? = x.ws[v]?)
    (hs : ∀ v, w ≠ v → s'.ws[v]? = s.ws[v]?) (hw : LagO P x'.ws[w]? s'.ws[w]?)
    (hd : x'.disc = s'.disc) (hc : x'.stateCount = s'.stateCount) (hsd : x'.shutdown = s'.shutdown) : Lag P x' s' := by
  refine ⟨hd, hc, hsd, fun v => ?_⟩
  by_cases hv : w = v
  · subst hv
    exact hw
  · rw [hx v hv, hs v hv]
    exact h.ws v

theorem lag_set {x s : S} (h : Lag P x s) {w : Nat} {a b : W} (hw : w < s.ws.length) (hab : LagW P a b)
    {x' s' : S} (hx : x'.ws = x.ws.set w a) (hs : s'.ws = s.ws.set w b)
    (hd : x'.disc = s'.disc) (hc : x'.stateCount = s'.stateCount) (hsd : x'.shutdown = s'.shutdown) : Lag P x' s' := by
  refine lag_upd h w (fun v hv => ?_) (fun v hv => ?_) ?_ hd hc hsd
  · rw [hx, List.getElem?_set_ne hv]
  · rw [hs, List.getElem?_set_ne hv]
  · rw [hx, hs, List.getElem?_set_self hw, List.getElem?_set_self (lag_length h ▸ hw)]
    exact hab

theorem lag_setw {x s : S} (h : Lag P x s) {w : Nat} {b0 : W} (hs : s.ws[w]? = some b0) (b : W) :
    Lag P { x with ws := x.ws.set w b } { s with ws := s.ws.set w b } :=
  lag_set h (lt_length_of_getElem? hs) (LagW.refl b) rfl rfl h.disc h.cnt h.sd

theorem lag_sd {x s : S} (h : Lag P x s) : Lag P { x with shutdown := true } { s with shutdown := true } :=
  ⟨h.disc, h.cnt, rfl, h.ws⟩

theorem stepE_of {x x' : S} {f : Step Nat} (h : MSim.step P f x = some x') : stepE P x f = .ok x' := by
  unfold stepE
  rw [h]
  rfl

theorem busyE_of {x x' : S} {f : Step Nat} {e : Eff Nat Nat} (he : effOf P f x = some e)
    (hst : stepE P x f = .ok x') : busyE P x f = .ok (e, x') := by
  unfold busyE
  rw [he]
  simp only [hst]
  rfl

theorem trOf_busy {x : S} {w : Nat} {t : T} (h : x.ws[w]? = some (.busy t)) : trOf x w = some t := by
  unfold trOf
  rw [h]

theorem check_false {msg : Unit → String} {k : R S} : check false msg k = k := rfl

theorem sync_step {x s : S} (h : Lag P x s) {f : Step Nat} {t : T} {e : Eff Nat Nat}
    (hs : s.ws[f.worker]? = some (.busy t)) (hx : x.ws[f.worker]? = some (.busy t))
    (he : busyStep P f s.shutdown s.disc t = some e) :
    effOf P f x = some e ∧ stepE P x f = .ok (applyEff x f.worker e) ∧
      Lag P (applyEff x f.worker e) (applyEff s f.worker e) := by
  have hex : effOf P f x = some e := by
    rw [effOf_busy hx, h.sd, h.disc]
    exact he
  refine ⟨hex, stepE_of (step_of_eff hex), lag_set h (lt_length_of_getElem? hs) (LagW.refl e.w') rfl rfl ?_ ?_ h.sd⟩
  · simp only [applyEff, h.disc]
  · simp only [applyEff, h.cnt]

theorem silent_step {x s : S} (h : Lag P x s) {w : Nat} {t t' : T} (hs : s.ws[w]? = some (.busy t))
    (hsil : sil P t = some t') : Lag P x (applyEff s w { w' := .busy t' }) := by
  obtain ⟨tx, hx, hl⟩ := lag_get_busy h hs
  refine lag_upd h w (fun _ _ => rfl) (fun v hv => List.getElem?_set_ne hv) ?_ h.disc h.cnt h.sd
  rw [applyEff_ws, List.getElem?_set_self (lt_length_of_getElem? hs), hx]
  exact LagW.busy (lagT_snoc hl hsil)

/-- bound on the steps without an entry that `t` can take in a row; at most `max 1 P.props.length`, below the driver's
    `fuelOf P = P.props.length + 3` -/
def mu (P : Params Nat Nat Nat) (t : T) : Nat :=
  match t.ph with
  | .props _ => 1
  | .record i => P.props.length - i
  | _ => 0

theorem mu_lt_fuel (t : T) : mu P t < fuelOf P := by
  unfold mu fuelOf
  split <;> omega

theorem sil_mu {t t' : T} (h : sil P t = some t') : mu P t' < mu P t := by
  rcases sil_cases h with ⟨_, hph, rfl⟩ | ⟨_, hph, _, rfl⟩
  · simp only [mu, hph, Nat.lt_add_one]
  · simp only [mu, hph]
    omega

theorem fill_succ {x : S} {w : Nat} {t : T} (hx : x.ws[w]? = some (.busy t)) (fuel : Nat) :
    fill P x w (fuel + 1) =
      match sil P t with
      | none => .ok x
      | some t' => fill P (applyEff x w { w' := .busy t' }) w fuel := by
  rw [fill]
  simp only [trOf_busy hx, sil]
  cases hph : t.ph with
  | props i =>
    simp only []
    split
    · rfl
    · rename_i hc
      rw [not_or] at hc
      have hb : effOf P (.finishProps w) x = some { w' := .busy { t with ph := .choose } } :=
        (effOf_busy hx).trans (busyStep_finishProps_go hph hc.1 (by simpa using hc.2))
      rw [stepE_of (step_of_eff hb)]
      rfl
  | record i =>
    simp only []
    split
    · rename_i hc
      have hb : effOf P (.recordOne w i) x = some { w' := .busy { t with ph := .record (i + 1) } } := by
        rw [effOf_busy hx, busyStep_recordOne hph hc.1, if_neg hc.2]
      rw [stepE_of (step_of_eff hb)]
      rfl
    · rfl
  | _ => rfl

theorem fill_sync {x s : S} (h : Lag P x s) {w : Nat} {t : T} (hs : s.ws[w]? = some (.busy t))
    (hsil : sil P t = none) :
    ∃ x1, fill P x w (fuelOf P) = .ok x1 ∧ Lag P x1 s ∧ x1.ws[w]? = some (.busy t) := by
  obtain ⟨tx, hx, hl⟩ := lag_get_busy h hs
  have hf := mu_lt_fuel (P := P) tx
  generalize fuelOf P = fuel at hf ⊢
  induction hl generalizing x fuel with
  | refl t =>
    refine ⟨x, ?_, h, hx⟩
    cases fuel with
    | zero => rfl
    | succ fuel => rw [fill_succ hx, hsil]
  | @step tx t1 t h1 hl ih =>
    cases fuel with
    | zero => exact (Nat.not_lt_zero _ hf).elim
    | succ fuel =>
      rw [fill_succ hx, h1]
      have hx1 : (applyEff x w { w' := .busy t1 }).ws[w]? = some (.busy t1) := by
        rw [applyEff_ws, List.getElem?_set_self (lt_length_of_getElem? hx)]
      refine ih ?_ hs hsil hx1 fuel (Nat.lt_of_lt_of_le (sil_mu h1) (Nat.le_of_lt_succ hf))
      refine lag_upd h w (fun v hv => List.getElem?_set_ne hv) (fun _ _ => rfl) ?_ h.disc h.cnt h.sd
      rw [hx1, hs]
      exact LagW.busy hl

/-- the replay catches up where the validator calls `fill` (elsewhere it cannot be behind) and takes the same step; the
    checks compare the entry with what it was computed from -/
theorem busy_complete {x s : S} {f : Step Nat} {t : T} {e : Eff Nat Nat} (h : Lag P x s)
    (hs : s.ws[f.worker]? = some (.busy t)) (he : busyStep P f s.shutdown s.disc t = some e) :
    match entry P s f with
    | none => Lag P x (applyEff s f.worker e)
    | some ev => ∃ x', one P x ev = .ok x' ∧ Lag P x' (applyEff s f.worker e) := by
  have hsync := fun x1 (h1 : Lag P x1 s) hx1 => sync_step h1 hs hx1 he
  unfold busyStep at he
  split at he
  any_goals simp only [Step.worker] at hs
  · rename_i w hph  -- `enter w`
    have hx := sync_of_ph h hs (by simp [hph])
    obtain ⟨-, hst, hlag⟩ := hsync x h hx
    simp only [entry, trOf_busy hs]
    cases ho : enterOut P t
    all_goals
      refine ⟨_, ?_, hlag⟩
      show oneEnter P x _ _ = _
      unfold oneEnter
      rw [trOf_busy hx]
      -- phase, outcome, state entered and path length were recorded from this trace; `check` is unfolded so that each
      -- condition is decided before simp visits its message
      simp [check, hph, ho]
      exact hst
  · rename_i w i j hph  -- `evalProp w i`
    have hx := sync_of_ph h hs (by simp [hph])
    obtain ⟨-, hst, hlag⟩ := hsync x h hx
    cases hd : hasDisc s.disc i
    all_goals
      simp only [entry, hd, Bool.false_eq_true, ↓reduceIte]
      refine ⟨_, ?_, hlag⟩
      show oneRead P x _ _ = _
      unfold oneRead
      simp only [h.disc, hd, bne_self_eq_false, check_false]
      exact hst
  · rename_i w i j hph  -- `applyProp w i`
    have hx := sync_of_ph h hs (by simp [hph])
    obtain ⟨hex, hst, hlag⟩ := hsync x h hx
    have hes : effOf P (.applyProp w i) s = some e := (hsync s (lag_refl s) hs).1
    cases hi : e.ins.isSome
    all_goals
      simp only [entry, hes, hi, Bool.false_eq_true, ↓reduceIte]
      refine ⟨_, ?_, hlag⟩
      show oneApply P x _ _ = _
      unfold oneApply
      rw [busyE_of hex hst]
      -- whether a discovery was inserted was recorded from the same effect `e`
      simp only [hi, bne_self_eq_false, check_false]
      rfl
  · rename_i w j hph  -- `finishProps w`
    obtain ⟨hj, he⟩ := Option.ite_none_left_eq_some.1 he
    cases ha : t.awaiting
    · -- nothing awaited: the trace ends, entry 44/5
      simp only [ha, Bool.not_false, ↓reduceIte] at he
      cases he
      have hx := sync_of_ph h hs (by simp [hph])
      obtain ⟨-, hst, hlag⟩ := hsync x h hx
      simp only [entry, trOf_busy hs, ha, Bool.false_eq_true, ↓reduceIte]
      refine ⟨_, ?_, hlag⟩
      show oneEndProps P x _ = _
      unfold oneEndProps
      rw [hst]
      have : isEnded (applyEff x w { w' := .ended }) w = true := by
        unfold isEnded
        rw [applyEff_ws, List.getElem?_set_self (lt_length_of_getElem? hx)]
      simp only [Step.worker, this, Bool.not_true, check_false]
      rfl
    · -- something awaited: no entry
      simp only [ha, Bool.not_true, Bool.false_eq_true, ↓reduceIte] at he
      cases he
      simp only [entry, trOf_busy hs, ha, ↓reduceIte]
      exact silent_step h hs (by simp [sil, hph, hj, ha])
  · rename_i w n hph  -- `advance w (some n)`
    obtain ⟨x1, hfill, h1, hx1⟩ := fill_sync h hs (by simp [sil, hph])
    obtain ⟨-, hst, hlag⟩ := hsync x1 h1 hx1
    simp only [entry]
    refine ⟨_, ?_, hlag⟩
    show oneNext P x _ = _
    unfold oneNext
    rw [hfill]
    exact hst
  · rename_i w hph  -- `advance w none`
    obtain ⟨x1, hfill, h1, hx1⟩ := fill_sync h hs (by simp [sil, hph])
    obtain ⟨-, hst, hlag⟩ := hsync x1 h1 hx1
    simp only [entry, trOf_busy hs]
    refine ⟨_, ?_, hlag⟩
    show oneTerminal P x _ = _
    unfold oneTerminal
    rw [hfill]
    simp only [trOf_busy hx1]
    simp only [bne_self_eq_false, check_false]
    exact hst
  · rename_i w i j hph  -- `recordOne w i`
    obtain ⟨⟨rfl, hlt⟩, he'⟩ := Option.ite_none_right_eq_some.1 he
    by_cases hb : i ∈ t.ebits
    all_goals
      simp only [hb, ↓reduceIte] at he'
      cases he'
    · obtain ⟨x1, hfill, h1, hx1⟩ := fill_sync h hs (by simp [sil, hph, hb])
      obtain ⟨hex, hst, hlag⟩ := hsync x1 h1 hx1
      simp only [entry, trOf_busy hs, hb, ↓reduceIte]
      refine ⟨_, ?_, hlag⟩
      show oneRecord P x _ = _
      unfold oneRecord
      rw [hfill]
      simp only []
      rw [busyE_of hex hst]
      -- the bit is set, so the effect inserts
      simp only [Option.isNone_some, check_false]
      rfl
    · simp only [entry, trOf_busy hs, hb, ↓reduceIte]
      exact silent_step h hs (by simp [sil, hph, hlt, hb])
  · rename_i w j hph  -- `endTrace w`
    obtain ⟨hj, -⟩ := Option.ite_none_left_eq_some.1 he
    obtain ⟨x1, hfill, h1, hx1⟩ := fill_sync h hs (by simp [sil, hph, hj])
    obtain ⟨-, hst, hlag⟩ := hsync x1 h1 hx1
    simp only [entry]
    refine ⟨_, ?_, hlag⟩
    show oneDone P x _ = _
    unfold oneDone
    rw [hfill]
    exact hst
  · rename_i w hph  -- `cut w`
    have hx := sync_of_ph h hs (by simp [hph])
    obtain ⟨-, hst, hlag⟩ := hsync x h hx
    simp only [entry, trOf_busy hs]
    refine ⟨_, ?_, hlag⟩
    show oneCut P x _ = _
    unfold oneCut
    simp only [trOf_busy hx]
    simp only [bne_self_eq_false, check_false]
    exact hst
  · cases he

theorem effOf_nonbusy {f : Step Nat} (hf : ∀ sd d t, busyStep P f sd d t = none) (x : S) : effOf P f x = none := by
  unfold effOf
  split
  · exact hf _ _ _
  · rfl

theorem goesOn_lag {x s : S} (h : Lag P x s) : goesOn P x = goesOn P s := by
  unfold goesOn
  rw [h.disc, h.cnt]

/-- `hn`: `f` is `start`, `cont`, `leave`, `timeout` or `panic`.  Such a step reads the shared state, the same in the replay,
    and of its worker only whether it is idle, ended or has left — on which a replay that is behind agrees (`LagW`) -/
theorem loop_complete {x s s' : S} {f : Step Nat} (h : Lag P x s) (hn : effOf P f s = none)
    (hstep : MSim.step P f s = some s') :
    ∃ ev, entry P s f = some ev ∧ ∃ x', one P x ev = .ok x' ∧ Lag P x' s' := by
  unfold MSim.step at hstep
  rw [hn] at hstep
  simp only [] at hstep
  split at hstep
  -- `start`, `cont` and the three `leave`s have one shape
  iterate 5
    split at hstep
    · rename_i hs
      obtain ⟨hc, hs'⟩ := Option.ite_none_right_eq_some.1 hstep
      cases hs'
      have hx := hs ▸ lag_ws_eq h fun _ ht => nomatch hs.symm.trans ht
      refine ⟨_, rfl, _, stepE_of ?_, lag_setw h hs _⟩
      simp only [MSim.step, effOf, Step.worker, hx, goesOn_lag h, h.disc, h.cnt, h.sd, hc, ↓reduceIte]
    · cases hstep
  · -- `timeout`
    obtain ⟨hc, hs'⟩ := Option.ite_none_right_eq_some.1 hstep
    cases hs'
    refine ⟨_, rfl, _, stepE_of ?_, lag_sd h⟩
    unfold MSim.step
    rw [effOf_nonbusy (fun _ _ _ => rfl)]
    simp only [hc, ↓reduceIte]
  · -- `panic`: in the replay the worker may be behind, but has not left either
    split at hstep
    · cases hstep
    · rename_i hs
      cases hstep
      obtain ⟨a, ha, hl⟩ := lag_get h hs
      refine ⟨_, rfl, _, stepE_of ?_, lag_sd (lag_setw h hs _)⟩
      unfold MSim.step
      rw [effOf_nonbusy (fun _ _ _ => rfl)]
      cases hl
      all_goals simp only [ha]
    · cases hstep
  · cases hstep

theorem step_complete {x s s' : S} {f : Step Nat} (h : Lag P x s) (hstep : MSim.step P f s = some s') :
    match entry P s f with
    | none => Lag P x s'
    | some e => ∃ x', one P x e = .ok x' ∧ Lag P x' s' := by
  cases he : effOf P f s with
  | none =>
    obtain ⟨ev, hev, hx⟩ := loop_complete h he hstep
    rw [hev]
    exact hx
  | some e =>
    cases (step_of_eff he).symm.trans hstep
    obtain ⟨t, hs, hb⟩ := effOf_some he
    exact busy_complete h hs hb

theorem replay_complete (fs : List (Step Nat)) : ∀ (x s : S) (i : Nat), Lag P x s →
    ∃ x', replay P x i (record P s fs) = .ok x' ∧ Lag P x' (MSim.runFrom P s fs) := by
  induction fs with
  | nil =>
    intro x s i h
    exact ⟨x, rfl, h⟩
  | cons f fs ih =>
    intro x s i h
    simp only [record, MSim.runFrom]
    cases hst : MSim.step P f s with
    | none => exact ih x s i h
    | some s' =>
      have hc := step_complete h hst
      cases he : entry P s f with
      | none =>
        rw [he] at hc
        exact ih x s' i hc
      | some e =>
        rw [he] at hc
        obtain ⟨x1, h1, hl1⟩ := hc
        obtain ⟨x', h', hl'⟩ := ih x1 s' (i + 1) hl1
        refine ⟨x', ?_, hl'⟩
        simp only [Option.toList, List.cons_append, List.nil_append, replay, h1]
        exact h'

/-- no worker of `s` is at a point where steps without an entry can have been taken -/
def Settled (s : S) : Prop :=
  ∀ (w : Nat) (t : T), s.ws[w]? = some (WSt.busy t) → t.ph ≠ Ph.choose ∧ ∀ i, t.ph ≠ Ph.record i

theorem eq_of_lag_settled {x s : S} (h : Lag P x s) (hs : Settled s) : x = s := by
  have hws : x.ws = s.ws := List.ext_getElem? fun w => lag_ws_eq h (hs w)
  cases x
  cases s
  simp only [MSim.St.mk.injEq]
  exact ⟨h.disc, h.cnt, h.sd, hws⟩

theorem replay_complete_settled {x s : S} (fs : List (Step Nat)) (i : Nat) (h : Lag P x s)
    (hs : Settled (MSim.runFrom P s fs)) : replay P x i (record P s fs) = .ok (MSim.runFrom P s fs) := by
  obtain ⟨x', hx', hl⟩ := replay_complete fs x s i h
  rw [hx', eq_of_lag_settled hl hs]

theorem settled_of_allLeft {s : S} (h : allLeft s = true) : Settled s := by
  intro w t hw
  unfold allLeft at h
  rw [List.all_eq_true] at h
  have := h _ (List.mem_of_getElem? hw)
  simp at this

end SR.ReplayComplete.Sim
