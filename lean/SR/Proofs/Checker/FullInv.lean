import SR.Proofs.MarketInv
import SR.Proofs.Checker.FullFrame
/-! The coupling invariant `FInv` of the product `Checker/Full.lean` and its preservation by every step.

A step projects onto market steps (`fstep_proj`), so the market half of the invariant holds after it because it held
before (`minv_mrun`, `oinv_preserved`): the lemmas `finv_*`, one per kind of step, are handed it as `hm` and establish
the coupling. -/
namespace SR.Full
open SR SR.Checker SR.Market

section
variable {σ κ α : Type} [DecidableEq κ] (P : Params σ κ α)

/-- the coupling between the physical jobs (market batches, worker deques) and the machine -/
structure FInv (x : FState σ κ) : Prop where
  mi : MInv x.m
  oi : OInv x.m
  cnt : ∀ t, x.ft.count t = (tokensIn x.m).count t
  len : x.ft.length = x.c.frontier.length
  nodup : x.ft.Nodup
  created : ∀ t ∈ x.ft, t ∈ x.m.created
  awlen : x.aw.length = x.c.active.length
  awnd : x.aw.Nodup
  awrun : ∀ w ∈ x.aw, x.m.pcs[w]? = some Pc.running
  /-- `Idle x.m`, written out -/
  idle : ∀ w, x.m.pcs[w]? ≠ some Pc.running → locOf x.m w = []
  closed : x.m.isOpen = false → x.c.stopped = true ∨ (tokensIn x.m = [] ∧ x.aw = [])

variable {P} {x x' : FState σ κ} {ms : List Step} {cs : List Choice}

theorem fstep_proj {x x' : FState σ κ} {f : FStep} {ms : List Step} {cs : List Choice}
    (h : fstep P x f = some (x', ms, cs)) : mseq x.m ms = some x'.m ∧ x'.c = runFrom P x.c cs := by
  cases f with
  | pop w | split w picks | stop w why | exit w | timeout =>
    obtain ⟨_, m', hs, he⟩ := guard_map_some h
    cases he
    exact ⟨(mseq_single ..).trans hs, rfl⟩
  | wake w | xdrop =>
    dsimp only [fstep] at h
    obtain ⟨m', hs, he⟩ := Option.map_eq_some_iff.1 h
    cases he
    exact ⟨(mseq_single ..).trans hs, rfl⟩
  | take w p =>
    dsimp only [fstep] at h
    split at h
    · cases h
    · obtain ⟨_, h⟩ := Option.ite_none_left_eq_some.1 h
      obtain ⟨m', hs, he⟩ := Option.map_eq_some_iff.1 h
      cases he
      exact ⟨hs, rfl⟩
  | discard w p =>
    dsimp only [fstep] at h
    split at h
    · cases h
    · obtain ⟨_, m', hs, he⟩ := guard_map_some h
      cases he
      exact ⟨hs, rfl⟩
  | evalProp w b | finishProps w | record w =>
    obtain ⟨_, he⟩ := Option.ite_none_right_eq_some.1 h
    cases he
    exact ⟨rfl, rfl⟩
  | expand w front tok back =>
    obtain ⟨_, h⟩ := Option.ite_none_right_eq_some.1 h
    split at h
    · obtain ⟨m', hs, he⟩ := Option.map_eq_some_iff.1 h
      cases he
      exact ⟨hs, rfl⟩
    · cases h
      exact ⟨rfl, rfl⟩

theorem FInv.mem_ft (inv : FInv x) {w : Nat} {t : Tok} (ht : t ∈ locOf x.m w) : t ∈ x.ft := by
  have h1 := loc_count_le_tokens x.m w t
  have h2 := List.count_pos_iff.2 ht
  exact List.count_pos_iff.1 (by rw [inv.cnt t]; omega)

theorem FInv.ft_nil (inv : FInv x) (h : tokensIn x.m = []) : x.ft = [] :=
  eq_nil_of_count fun u => by rw [inv.cnt u, h]; rfl

theorem FInv.stopped_of_closed (inv : FInv x) (hc : x.m.isOpen = false) (hne : x.ft ≠ [] ∨ x.aw ≠ []) :
    x.c.stopped = true :=
  (inv.closed hc).resolve_right fun h => hne.elim (fun e => e (inv.ft_nil h.1)) fun e => e h.2

theorem FInv.quiescent (inv : FInv x) (ht : tokensIn x.m = []) (ha : x.aw = []) : Quiescent x.c :=
  ⟨List.eq_nil_of_length_eq_zero (inv.len ▸ congrArg List.length (inv.ft_nil ht)),
   List.eq_nil_of_length_eq_zero (inv.awlen ▸ congrArg List.length ha)⟩

/-- a thread that is gone has run `Drop`, which empties the shared batches; the deques went with their threads -/
theorem FInv.join (inv : FInv x) (hex : allExited x) (h0 : 0 < x.m.pcs.length) : Quiescent x.c := by
  have hnr : ∀ v, x.m.pcs[v]? ≠ some Pc.running := fun v hv => nomatch hex _ (List.mem_of_getElem? hv)
  have hexm : Pc.exited ∈ x.m.pcs := hex _ (List.getElem_mem h0) ▸ List.getElem_mem h0
  have hb := (inv.mi.p.dropped (inv.mi.p.exited hexm)).2
  exact inv.quiescent (tokens_nil_of_idle hb fun v => inv.idle v (hnr v))
    (List.eq_nil_iff_forall_not_mem.2 fun v hv => hnr v (inv.awrun v hv))

theorem finv_woken {w : Nat} {b : Bool} (inv : FInv x) (hp : x.m.pcs[w]? = some (Pc.parked b)) :
    FInv { x with m := woken x.m w } := by
  have hset : ∀ v : Nat, x.m.pcs[v]? = some Pc.running → (woken x.m w).pcs[v]? = some Pc.running := fun v hv => by
    have e : w ≠ v := fun e => by
      rw [e, hv] at hp
      cases hp
    exact (List.getElem?_set_ne e).trans hv
  exact ⟨⟨pinv_woken inv.mi.p hp, ⟨inv.mi.t.nodup, inv.mi.t.cons⟩⟩, oinv_woken inv.oi hp, inv.cnt, inv.len, inv.nodup,
    inv.created, inv.awlen, inv.awnd, fun v hv => hset v (inv.awrun v hv), Idle.notify inv.idle rfl hset, inv.closed⟩

theorem finv_popEff (inv : FInv x) {w : Nat} (hrun : x.m.pcs[w]? = some Pc.running) (hloc : locOf x.m w = [])
    (hnaw : w ∉ x.aw) {m' : MState} (hp : PopEff x.m w m') (hm : MInv m' ∧ OInv m') : FInv { x with m := m' } := by
  cases hp with
  | @got b rest hb =>
    have hcnt : ∀ u, (tokensIn { x.m with batches := rest, locs := x.m.locs.set w (x.m.locs.getD w [] ++ b) }).count u
        = (tokensIn x.m).count u := fun u => by
      have hs := count_flatten_set u x.m.locs w (x.m.locs.getD w [] ++ b) (inv.mi.p.wf ▸ lt_length_of_getElem? hrun)
      simp only [tokensIn, hb, List.flatten_cons, List.count_append] at hs ⊢
      omega
    exact ⟨hm.1, hm.2, fun t => (inv.cnt t).trans (hcnt t).symm, inv.len, inv.nodup, inv.created, inv.awlen, inv.awnd,
      inv.awrun, Idle.set inv.idle rfl (fun _ _ h => h) (.inl hrun),
      fun hc => (inv.closed hc).imp_right fun h => ⟨eq_nil_of_count fun u => by rw [hcnt u, h.1]; rfl, h.2⟩⟩
  | close hb hoc =>
    refine ⟨hm.1, hm.2, inv.cnt, inv.len, inv.nodup, inv.created, inv.awlen, inv.awnd,
      fun v hv => getElem?_notifyAll_running (inv.awrun v hv), Idle.notify inv.idle rfl fun _ => getElem?_notifyAll_running,
      fun _ => ?_⟩
    cases hopen : x.m.isOpen
    · exact inv.closed hopen
    · -- the market was open: `w` was the last worker running, and has found nothing
      have hnr : ∀ v, v ≠ w → x.m.pcs[v]? ≠ some Pc.running := fun v hne hv => by
        have := two_le_count_running hne hv hrun
        have := inv.oi hopen
        omega
      have hall : ∀ v, locOf x.m v = [] := fun v => by
        by_cases e : v = w
        · exact e ▸ hloc
        · exact inv.idle v (hnr v e)
      exact Or.inr ⟨tokens_nil_of_idle hb hall,
        List.eq_nil_iff_forall_not_mem.2 fun v hv => hnr v (fun e => hnaw (e ▸ hv)) (inv.awrun v hv)⟩
  | park hb hoc =>
    refine ⟨hm.1, hm.2, inv.cnt, inv.len, inv.nodup, inv.created, inv.awlen, inv.awnd, fun v hv => ?_, fun v hv => ?_,
      inv.closed⟩
    · have e : w ≠ v := fun e => hnaw (e ▸ hv)
      exact (List.getElem?_set_ne e).trans (inv.awrun v hv)
    · by_cases e : v = w
      · exact e ▸ hloc
      · exact inv.idle v fun hr => hv ((List.getElem?_set_ne (Ne.symm e)).trans hr)

theorem finv_pop {w : Nat} (inv : FInv x)
    (h : fstep P x (.pop w) = some (x', ms, cs)) (hm : MInv x'.m ∧ OInv x'.m) : FInv x' := by
  obtain ⟨⟨hloc, hnaw⟩, m', hs, he⟩ := guard_map_some h
  cases he
  cases step_eff hs with
  | popClosed => exact inv
  | popBegin hrun _ hp => exact finv_popEff inv hrun hloc hnaw hp hm

theorem finv_wake {w : Nat} (inv : FInv x)
    (h : fstep P x (.wake w) = some (x', ms, cs)) (hm : MInv x'.m ∧ OInv x'.m) : FInv x' := by
  dsimp only [fstep] at h
  obtain ⟨m', hs, he⟩ := Option.map_eq_some_iff.1 h
  cases he
  cases step_eff hs with
  | wake hpark hp =>
    have hnr : x.m.pcs[w]? ≠ some Pc.running := by simp [hpark]
    exact finv_popEff (finv_woken inv hpark) (getElem?_woken hpark) (inv.idle w hnr) (fun hw => hnr (inv.awrun w hw))
      hp hm

/-- the product state after a machine step on the current job of `w` that leaves the machine in `c'` -/
def xJob (x : FState σ κ) (w : Nat) (c' : St σ κ) : FState σ κ :=
  { x with c := c', aw := if c'.active.length < x.c.active.length then x.aw.eraseIdx (x.aw.idxOf w) else x.aw }

theorem onJob_eq (x : FState σ κ) (w : Nat) (mk : Nat → Choice) :
    onJob P x w mk =
      if w ∈ x.aw then some (xJob x w (Checker.step P (mk (x.aw.idxOf w)) x.c), [], [mk (x.aw.idxOf w)]) else none := rfl

theorem onJob_inv {w : Nat} {mk : Nat → Choice} (hs : onJob P x w mk = some (x', ms, cs)) :
    w ∈ x.aw ∧ x' = xJob x w (Checker.step P (mk (x.aw.idxOf w)) x.c) := by
  rw [onJob_eq] at hs
  obtain ⟨hw, hs⟩ := Option.ite_none_right_eq_some.1 hs
  cases hs
  exact ⟨hw, rfl⟩

theorem finv_job (inv : FInv x) {w : Nat} (hw : w ∈ x.aw) {c' : St σ κ}
    (sh : JobShape (x.aw.idxOf w) x.c c') : FInv (xJob x w c') := by
  have hi : x.aw.idxOf w < x.aw.length := List.idxOf_lt_length_iff.2 hw
  have hlen : x.ft.length = c'.frontier.length := sh.frontier ▸ inv.len
  have hawl := inv.awlen
  have hst : x.m.isOpen = false → c'.stopped = true := fun hc =>
    sh.stopped.trans (inv.stopped_of_closed hc (.inr (List.ne_nil_of_mem hw)))
  unfold xJob
  rcases sh.active with h1 | ⟨_, h1⟩
  · rw [if_neg (by omega)]
    exact ⟨inv.mi, inv.oi, inv.cnt, hlen, inv.nodup, inv.created, hawl.trans h1.symm, inv.awnd, inv.awrun, inv.idle,
      fun hc => Or.inl (hst hc)⟩
  · rw [if_pos (by omega)]
    refine ⟨inv.mi, inv.oi, inv.cnt, hlen, inv.nodup, inv.created, ?_, inv.awnd.eraseIdx _,
      fun v hv => inv.awrun v (List.mem_of_mem_eraseIdx hv), inv.idle, fun hc => Or.inl (hst hc)⟩
    show (x.aw.eraseIdx (x.aw.idxOf w)).length = c'.active.length
    rw [List.length_eraseIdx, if_pos hi]
    omega

theorem finv_onJob {w : Nat} {mk : Nat → Choice}
    (inv : FInv x) (hmk : ∀ i s s', Move P s (mk i) s' → JobShape i s s')
    (h : onJob P x w mk = some (x', ms, cs)) : FInv x' := by
  obtain ⟨hw, rfl⟩ := onJob_inv h
  exact finv_job inv hw (step_cases _ (jobShape_refl ..) (hmk _ _))

theorem own_deque (inv : FInv x) {w : Nat} (hrun : x.m.pcs[w]? = some Pc.running) {m' : MState}
    {l : List Tok} (hpcs : m'.pcs = x.m.pcs) (hbat : m'.batches = x.m.batches) (hlocs : m'.locs = x.m.locs.set w l) :
    (∀ u, (tokensIn m').count u + (locOf x.m w).count u = (tokensIn x.m).count u + l.count u) ∧ Idle m' := by
  refine ⟨fun u => ?_, Idle.set inv.idle hlocs (fun v _ hr => hpcs ▸ hr) (.inl (hpcs ▸ hrun))⟩
  rw [tokensIn, hbat, hlocs]
  exact count_tokens_set x.m w l (inv.mi.p.wf ▸ lt_length_of_getElem? hrun) u

theorem take_market (inv : FInv x) {m' : MState} {w : Nat} {l : List Tok} {t : Tok}
    (hs : mseq x.m [Step.rearrange w (l ++ [t]), Step.work w 1 []] = some m') :
    x.m.pcs[w]? = some Pc.running ∧ m'.pcs = x.m.pcs ∧ m'.isOpen = x.m.isOpen ∧ m'.created = x.m.created ∧
    (∀ u, (tokensIn m').count u + [t].count u = (tokensIn x.m).count u) ∧ Idle m' := by
  obtain ⟨m1, h1, h2⟩ := mseq_cons_some hs
  obtain ⟨hrun, hperm, rfl⟩ := step_rearrange_iff.1 h1
  obtain ⟨_, _, hm'⟩ := step_work_iff.1 ((mseq_single ..).symm.trans h2)
  have hwl : w < x.m.locs.length := inv.mi.p.wf ▸ lt_length_of_getElem? hrun
  -- `work w 1 []` takes the last job of the deque `l ++ [t]`
  have hlocs : m'.locs = x.m.locs.set w l := by
    rw [← hm']
    simp only [getD_set_self _ _ _ _ hwl, List.set_set, List.nil_append, List.length_append, List.length_singleton,
      Nat.add_sub_cancel, List.take_left' rfl]
  obtain ⟨hcnt, hidle⟩ := own_deque inv hrun (by rw [← hm']) (by rw [← hm']) hlocs
  refine ⟨hrun, by rw [← hm'], by rw [← hm'], by rw [← hm']; rfl, fun u => ?_, hidle⟩
  have a := hcnt u
  have b : (l ++ [t]).count u = (locOf x.m w).count u := hperm.count_eq u
  rw [List.count_append] at b
  omega

theorem expand_market (inv : FInv x) {m' : MState} {w : Nat} {tok : Tok} {back : Bool}
    (hs : mseq x.m (Step.work w 0 [tok] :: (if back then [Step.rearrange w (locOf x.m w ++ [tok])] else [])) = some m') :
    tok ∉ x.m.created ∧ m'.pcs = x.m.pcs ∧ m'.isOpen = x.m.isOpen ∧ m'.created = tok :: x.m.created ∧
    (∀ u, (tokensIn m').count u = (tokensIn x.m).count u + [tok].count u) ∧ Idle m' := by
  obtain ⟨m1, h1, h2⟩ := mseq_cons_some hs
  obtain ⟨hrun, hfresh, rfl⟩ := step_work_iff.1 h1
  have hnew : tok ∉ x.m.created := by simpa [freshOk, nodupB] using hfresh
  have hm : m'.pcs = x.m.pcs ∧ m'.isOpen = x.m.isOpen ∧ m'.batches = x.m.batches ∧ m'.created = tok :: x.m.created ∧
      ∃ l, (∀ u, l.count u = (locOf x.m w).count u + [tok].count u) ∧ m'.locs = x.m.locs.set w l := by
    cases back with
    | false =>
      cases Option.some.inj h2
      exact ⟨rfl, rfl, rfl, rfl, tok :: locOf x.m w, fun u => by rw [List.count_cons, ← List.count_singleton],
        by simp [locOf]⟩
    | true =>
      obtain ⟨_, _, rfl⟩ := step_rearrange_iff.1 ((mseq_single ..).symm.trans h2)
      exact ⟨rfl, rfl, rfl, rfl, locOf x.m w ++ [tok], fun u => List.count_append, by simp [List.set_set, locOf]⟩
  obtain ⟨hpcs, hopen, hbat, hcr, l, hl, hlocs⟩ := hm
  obtain ⟨hcnt, hidle⟩ := own_deque inv hrun hpcs hbat hlocs
  refine ⟨hnew, hpcs, hopen, hcr, fun u => ?_, hidle⟩
  have a := hcnt u
  have b := hl u
  omega

/-- the common end of every step that takes the tokens `gone` out of the market: `take`, and through `finv_drop` all that
    discard jobs.  `hclosed` speaks of the market BEFORE the step (`tokensIn x.m = []`): that is what the callers have from
    `inv.closed`; `hp` carries it over to `m'` -/
theorem finv_remove (inv : FInv x) (gone : List Tok) {m' : MState} {c' : St σ κ} {aw' : List Nat}
    (hm : MInv m' ∧ OInv m')
    (hp : x.ft.Perm (gone ++ tokensIn m')) (hcr : m'.created = x.m.created)
    (hlen : c'.frontier.length = (tokensIn m').length)
    (hawl : aw'.length = c'.active.length) (hawn : aw'.Nodup) (hawr : ∀ v ∈ aw', m'.pcs[v]? = some Pc.running)
    (hidle : Idle m')
    (hclosed : m'.isOpen = false → c'.stopped = true ∨ (tokensIn x.m = [] ∧ aw' = [])) :
    FInv { m := m', c := c', ft := (dropToks gone x.ft).2, aw := aw' } := by
  have hp' := dropToks_perm gone hp
  have hnd : (tokensIn m').Nodup := (List.nodup_append.1 (hp.nodup_iff.1 inv.nodup)).2.1
  refine ⟨hm.1, hm.2, fun t => hp'.count_eq t, hp'.length_eq.trans hlen.symm, hp'.nodup_iff.2 hnd, ?_, hawl, hawn, hawr,
    hidle, fun hc => (hclosed hc).imp_right fun h => ⟨?_, h.2⟩⟩
  · intro u hu
    exact hcr ▸ inv.created u (hp.mem_iff.2 (List.mem_append_right _ (hp'.mem_iff.1 hu)))
  · exact (List.append_eq_nil_iff.1 (inv.ft_nil h.1 ▸ hp).nil_eq.symm).2

theorem FInv.perm_gone (inv : FInv x) {gone : List Tok} {m' : MState}
    (hcnt : ∀ u, (tokensIn m').count u + gone.count u = (tokensIn x.m).count u) : x.ft.Perm (gone ++ tokensIn m') :=
  List.perm_iff_count.2 fun u => by rw [inv.cnt u, List.count_append, ← hcnt u, Nat.add_comm]

theorem finv_take {w p : Nat} (inv : FInv x)
    (h : fstep P x (.take w p) = some (x', ms, cs)) (hm : MInv x'.m ∧ OInv x'.m) : FInv x' := by
  dsimp only [fstep] at h
  split at h
  · cases h
  · rename_i t ht
    obtain ⟨hnaw, h⟩ := Option.ite_none_left_eq_some.1 h
    obtain ⟨m', hs, he⟩ := Option.map_eq_some_iff.1 h
    cases he
    obtain ⟨hrun, hpcs, hopen, hcr, hcnt, hidle⟩ := take_market inv hs
    have htft : t ∈ x.ft := inv.mem_ft (List.mem_of_getElem? ht)
    have hp := inv.perm_gone hcnt
    obtain ⟨s1, s2, s3⟩ := step_counts (P := P) (c := .take (x.ft.idxOf t))
      ⟨_, List.getElem?_eq_getElem (inv.len ▸ List.idxOf_lt_length_iff.2 htft)⟩
    have hlen : (Checker.step P (.take (x.ft.idxOf t)) x.c).frontier.length = (tokensIn m').length := by
      have := hp.length_eq
      rw [List.length_append, List.length_singleton, inv.len] at this
      omega
    have hst : m'.isOpen = false → (Checker.step P (.take (x.ft.idxOf t)) x.c).stopped = true := fun hc =>
      s3.trans (inv.stopped_of_closed (hopen ▸ hc) (.inl (List.ne_nil_of_mem htft)))
    -- the worker has a current job now, unless the depth limit dropped it
    rcases s2 with s2 | s2
    · rw [if_neg (by omega)]
      exact finv_remove inv [t] hm hp hcr hlen (inv.awlen.trans s2.symm) inv.awnd (hpcs ▸ inv.awrun) hidle
        fun hc => Or.inl (hst hc)
    · rw [if_pos s2]
      exact finv_remove inv [t] hm hp hcr hlen (by simp [s2, inv.awlen]) (nodup_snoc inv.awnd hnaw)
        (hpcs ▸ forall_mem_concat inv.awrun hrun) hidle fun hc => Or.inl (hst hc)

/-- `s` is the machine when the `dropJob`s start: `x.c`, or `x.c` after the `stop` / `abandon` the step runs first -/
theorem finv_drop (inv : FInv x) (s : St σ κ) (aw' : List Nat) {gone : List Tok} {m' : MState}
    (hf : s.frontier.length = x.c.frontier.length)
    (hawl : aw'.length = s.active.length) (hawn : aw'.Nodup) (hawr : ∀ v ∈ aw', m'.pcs[v]? = some Pc.running)
    (hm : MInv m' ∧ OInv m')
    (hcnt : ∀ u, (tokensIn m').count u + gone.count u = (tokensIn x.m).count u)
    (hcr : m'.created = x.m.created)
    (hidle : Idle m')
    (hen : gone = [] ∨ (s.stopped || allDiscovered P s) = true)
    (hclosed : m'.isOpen = false → s.stopped = true ∨ (tokensIn x.m = [] ∧ aw' = [])) :
    FInv { m := m', c := runFrom P s (dropToks gone x.ft).1, ft := (dropToks gone x.ft).2, aw := aw' } := by
  have hp := inv.perm_gone hcnt
  obtain ⟨d1, d3⟩ := runFrom_dropToks P gone s hp (inv.len.trans hf.symm) hen
  exact finv_remove inv gone hm hp hcr d1 (runFrom_dropList_active P _ s (dropToks_dropList gone x.ft) ▸ hawl) hawn hawr hidle
    (d3 ▸ hclosed)

theorem finv_discard {w p : Nat} (inv : FInv x)
    (h : fstep P x (.discard w p) = some (x', ms, cs)) (hm : MInv x'.m ∧ OInv x'.m) : FInv x' := by
  dsimp only [fstep] at h
  split at h
  · cases h
  · rename_i t ht
    obtain ⟨hen, m', hs, he⟩ := guard_map_some h
    cases he
    obtain ⟨_, hpcs, hopen, hcr, hcnt, hidle⟩ := take_market inv hs
    exact finv_drop inv x.c x.aw rfl inv.awlen inv.awnd (hpcs ▸ inv.awrun) hm hcnt hcr hidle (Or.inr hen) fun hc =>
      Or.inl (inv.stopped_of_closed (hopen ▸ hc) (.inl (List.ne_nil_of_mem (inv.mem_ft (List.mem_of_getElem? ht)))))

theorem finv_expand {w : Nat} {front back : Bool} {tok : Tok}
    (inv : FInv x) (h : fstep P x (.expand w front tok back) = some (x', ms, cs)) (hm : MInv x'.m ∧ OInv x'.m) :
    FInv x' := by
  obtain ⟨hw, h⟩ := Option.ite_none_right_eq_some.1 h
  rcases step_cases (Inv := Counts P (.expand (x.aw.idxOf w) front) x.c) _ (.inl (jobShape_refl ..))
    fun _ => move_counts with sh | ⟨hf, ha, hst⟩
  · rw [if_neg (by rw [sh.frontier]; omega)] at h
    cases h
    exact finv_job inv hw sh
  · -- a new state: a token is created
    have haw : ¬ (Checker.step P (.expand (x.aw.idxOf w) front) x.c).active.length < x.c.active.length := by omega
    rw [if_pos hf, if_neg haw] at h
    obtain ⟨m', hs, he⟩ := Option.map_eq_some_iff.1 h
    cases he
    obtain ⟨hnew, hpcs, hopen, hcr, hcnt, hidle⟩ := expand_market inv hs
    have hnft : tok ∉ x.ft := fun e => hnew (inv.created tok e)
    have hperm : (if front = true then tok :: x.ft else x.ft ++ [tok]).Perm (tok :: x.ft) := by
      cases front
      · exact List.perm_append_comm
      · exact List.Perm.refl _
    refine ⟨hm.1, hm.2, fun u => (hperm.count_eq u).trans ?_, hperm.length_eq.trans (by simp [hf, inv.len]),
      hperm.nodup_iff.2 (List.nodup_cons.2 ⟨hnft, inv.nodup⟩), fun u hu => ?_, inv.awlen.trans ha.symm, inv.awnd,
      hpcs ▸ inv.awrun, hidle, fun hc => ?_⟩
    · rw [hcnt u, ← inv.cnt u, List.count_cons, ← List.count_singleton]
    · rcases List.mem_cons.1 (hperm.mem_iff.1 hu) with e | e
      · exact hcr ▸ e ▸ List.mem_cons_self ..
      · exact hcr ▸ List.mem_cons_of_mem _ (inv.created u e)
    · exact Or.inl (hst.trans (inv.stopped_of_closed (hopen ▸ hc) (.inr (List.ne_nil_of_mem hw))))

theorem FInv.drop_enabled (inv : FInv x) (hc : x.m.isOpen = false) {gone : List Tok} {m' : MState}
    (hcnt : ∀ u, (tokensIn m').count u + gone.count u = (tokensIn x.m).count u) :
    gone = [] ∨ (x.c.stopped || allDiscovered P x.c) = true :=
  (inv.closed hc).elim (fun h => Or.inr (by rw [h]; rfl)) fun h => Or.inl <| eq_nil_of_count fun u => by
    have := hcnt u
    rw [h.1] at this
    exact Nat.eq_zero_of_add_eq_zero_left this

theorem finv_split {w : Nat} {picks : List Nat}
    (inv : FInv x) (h : fstep P x (.split w picks) = some (x', ms, cs)) (hm : MInv x'.m ∧ OInv x'.m) :
    FInv x' := by
  obtain ⟨hnaw, m', hs, he⟩ := guard_map_some h
  cases he
  cases step_eff hs with
  | splitClosed hrun hcl =>
    have hcnt : ∀ u, (tokensIn { x.m with locs := x.m.locs.set w [] }).count u + (locOf x.m w).count u
        = (tokensIn x.m).count u := fun u => count_tokens_set x.m w [] (inv.mi.p.wf ▸ lt_length_of_getElem? hrun) u
    rw [if_neg (by simp [hcl])]
    exact finv_drop inv x.c x.aw rfl inv.awlen inv.awnd inv.awrun hm hcnt rfl
      (Idle.set inv.idle rfl (fun _ _ hr => hr) (.inr rfl)) (inv.drop_enabled hcl hcnt) fun _ => inv.closed hcl
  | @split _ _ r hrun hop hr _ =>
    -- open market: jobs move from the deque (`r.1` is what stays) to the shared batches (`r.2`)
    rw [if_pos hop]
    refine ⟨hm.1, hm.2, fun u => ?_, inv.len, inv.nodup, inv.created, inv.awlen, inv.awnd,
      fun v hv => getElem?_notifyPicks_running picks (inv.awrun v hv),
      Idle.set inv.idle rfl (fun _ _ => getElem?_notifyPicks_running picks) (.inl (getElem?_notifyPicks_running picks hrun)),
      fun hc => nomatch hop.symm.trans hc⟩
    have a : r.2.flatten.count u + r.1.count u = x.m.batches.flatten.count u + (locOf x.m w).count u :=
      hr ▸ count_splitLoop u ..
    have b := count_tokens_set x.m w r.1 (inv.mi.p.wf ▸ lt_length_of_getElem? hrun) u
    have c := inv.cnt u
    simp only [dropToks, tokensIn, List.count_append] at b c ⊢
    omega

theorem drop_facts (inv : FInv x) {w : Nat} {m' : MState} (hs : Market.step x.m (.drop w) = some m') :
    m'.created = x.m.created ∧
    (∀ u, (tokensIn m').count u + (x.m.batches.flatten ++ locOf x.m w).count u = (tokensIn x.m).count u) ∧
    (∀ v, v ≠ w → x.m.pcs[v]? = some Pc.running → m'.pcs[v]? = some Pc.running) ∧ Idle m' := by
  cases step_eff hs with
  | drop hrun =>
    have hrunning : ∀ v, v ≠ w → x.m.pcs[v]? = some Pc.running →
        ((notifyAll x.m.pcs).set w Pc.exited)[v]? = some Pc.running := fun v hne hv =>
      (List.getElem?_set_ne (Ne.symm hne)).trans (getElem?_notifyAll_running hv)
    refine ⟨rfl, fun u => ?_, hrunning, Idle.set inv.idle rfl hrunning (.inr rfl)⟩
    have := count_tokens_set x.m w [] (inv.mi.p.wf ▸ lt_length_of_getElem? hrun) u
    simp only [tokensIn, dropMarket, List.count_append, List.count_nil, Nat.add_zero, List.flatten_nil,
      List.nil_append] at this ⊢
    omega

theorem finv_stop {w : Nat} {why : Why}
    (inv : FInv x) (h : fstep P x (.stop w why) = some (x', ms, cs)) (hm : MInv x'.m ∧ OInv x'.m) : FInv x' := by
  obtain ⟨hen, m', hs, he⟩ := guard_map_some h
  cases he
  obtain ⟨hcr, hcnt, hrunning, hidle⟩ := drop_facts inv hs
  have hi : w ∈ x.aw → x.aw.idxOf w < x.c.active.length := fun hw => inv.awlen ▸ List.idxOf_lt_length_iff.2 hw
  have hawr : ∀ v ∈ x.aw.erase w, m'.pcs[v]? = some Pc.running := fun v hv => by
    obtain ⟨hne, hv⟩ := (List.Nodup.mem_erase_iff inv.awnd).1 hv
    exact hrunning v hne (inv.awrun v hv)
  have hawl := inv.awlen
  rw [runFrom_append, runFrom_stop_abandon P hen _ hi]
  -- the worker's current job, if it has one, goes with it
  split
  · next hw =>
    have := length_eraseIdx_add_one (hi hw)
    exact finv_drop inv _ (x.aw.erase w) rfl (by simp only [List.length_erase, if_pos hw]; omega)
      (inv.awnd.erase w) hawr hm hcnt hcr hidle (Or.inr rfl) fun _ => Or.inl rfl
  · next hw =>
    exact finv_drop inv _ (x.aw.erase w) rfl (by rw [List.length_erase, if_neg hw]; exact hawl)
      (inv.awnd.erase w) hawr hm hcnt hcr hidle (Or.inr rfl) fun _ => Or.inl rfl

theorem finv_exit {w : Nat}
    (inv : FInv x) (h : fstep P x (.exit w) = some (x', ms, cs)) (hm : MInv x'.m ∧ OInv x'.m) : FInv x' := by
  obtain ⟨⟨hclosed, hnaw⟩, m', hs, he⟩ := guard_map_some h
  cases he
  obtain ⟨hcr, hcnt, hrunning, hidle⟩ := drop_facts inv hs
  exact finv_drop inv x.c x.aw rfl inv.awlen inv.awnd
    (fun v hv => hrunning v (fun e => hnaw (e ▸ hv)) (inv.awrun v hv)) hm hcnt hcr hidle
    (inv.drop_enabled hclosed hcnt) fun _ => inv.closed hclosed

theorem finv_timeout
    (inv : FInv x) (h : fstep P x .timeout = some (x', ms, cs)) (hm : MInv x'.m ∧ OInv x'.m) : FInv x' := by
  obtain ⟨hto, m', hs, he⟩ := guard_map_some h
  cases he
  cases step_eff hs
  obtain ⟨p1, p2, p3⟩ := stop_shape P .timeout x.c
  exact finv_drop (P := P) inv (Checker.step P (.stop .timeout) x.c) x.aw (gone := []) (congrArg List.length p1)
    (inv.awlen.trans (congrArg List.length p2.symm)) inv.awnd inv.awrun hm (fun _ => rfl) rfl inv.idle (Or.inl rfl)
    fun _ => Or.inl (p3 hto)

theorem finv_xdrop
    (inv : FInv x) (h : fstep P x .xdrop = some (x', ms, cs)) (hm : MInv x'.m ∧ OInv x'.m) : FInv x' := by
  dsimp only [fstep] at h
  obtain ⟨m', hs, he⟩ := Option.map_eq_some_iff.1 h
  cases he
  cases step_eff hs
  have hcnt : ∀ u, (tokensIn (dropMarket x.m)).count u + x.m.batches.flatten.count u = (tokensIn x.m).count u := by
    intro u
    simp only [tokensIn, dropMarket, List.count_append, List.flatten_nil, List.nil_append]
    omega
  have hawr : ∀ v ∈ x.aw, (dropMarket x.m).pcs[v]? = some Pc.running := fun v hv =>
    getElem?_notifyAll_running (inv.awrun v hv)
  have hidle : Idle (dropMarket x.m) := Idle.notify inv.idle rfl fun _ => getElem?_notifyAll_running
  rw [runFrom_append]
  cases hop : x.m.isOpen
  · exact finv_drop inv x.c x.aw rfl inv.awlen inv.awnd hawr hm hcnt rfl hidle (inv.drop_enabled hop hcnt)
      fun _ => inv.closed hop
  · -- the owner drops the checker while the market is open: this is a stop
    obtain ⟨p1, p2, p3⟩ := stop_shape P .panic x.c
    exact finv_drop inv (Checker.step P (.stop .panic) x.c) x.aw (congrArg List.length p1)
      (inv.awlen.trans (congrArg List.length p2.symm)) inv.awnd hawr hm hcnt rfl hidle (Or.inr (by rw [p3 rfl]; rfl))
      fun _ => Or.inl (p3 rfl)

theorem finv_step {x x' : FState σ κ} {f : FStep} {ms : List Step} {cs : List Choice}
    (inv : FInv x) (h : fstep P x f = some (x', ms, cs)) : FInv x' := by
  have hm : MInv x'.m ∧ OInv x'.m :=
    mseq_mrun ms (fstep_proj h).1 ▸ ⟨minv_mrun ms inv.mi, mrun_induct oinv_preserved ms inv.oi⟩
  cases f with
  | pop w => exact finv_pop inv h hm
  | wake w => exact finv_wake inv h hm
  | split w picks => exact finv_split inv h hm
  | take w p => exact finv_take inv h hm
  | discard w p => exact finv_discard inv h hm
  | evalProp w b => exact finv_onJob (mk := fun i => .evalProp i b) inv (fun _ _ _ => move_counts) h
  | finishProps w => exact finv_onJob (mk := fun i => .finishProps i) inv (fun _ _ _ => move_counts) h
  | record w => exact finv_onJob (mk := fun i => .record i) inv (fun _ _ _ => move_counts) h
  | expand w front tok back => exact finv_expand inv h hm
  | stop w why => exact finv_stop inv h hm
  | exit w => exact finv_exit inv h hm
  | timeout => exact finv_timeout inv h hm
  | xdrop => exact finv_xdrop inv h hm

end

end SR.Full
