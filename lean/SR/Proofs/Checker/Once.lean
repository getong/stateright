import SR.Proofs.Checker.Complete
/-!
"Once" invariant: generated keys are duplicate-free and, given initial states with distinct keys, no two
evaluated-or-pending jobs share one, so each state is evaluated at most once; `unique_state_count ≤ state_count`.
At the end `genReach_run`: every generated key is the key of a reachable state, whether the run is complete or not.
-/
namespace SR.Checker
open SR

section
variable {σ κ α : Type} [DecidableEq κ]
variable (P : Params σ κ α)

def visitedStates (s : St σ κ) : List σ := s.visits.filterMap List.getLast?

/-- `once` is conditional: the machine, like the code, enqueues every in-boundary initial state, also one whose key
    an earlier initial state has taken -/
structure NInv (s : St σ κ) : Prop where
  genNodup : s.gen.Nodup
  inGen : ∀ u ∈ visitedStates s ++ s.frontier.map (·.st), P.key u ∈ s.gen
  once : ((P.M.initB).map P.key).Nodup → ((visitedStates s ++ s.frontier.map (·.st)).map P.key).Nodup
  count : s.gen.length ≤ s.stateCount
  actVis : ∀ u ∈ s.active.map (·.job.st) ++ s.done, u ∈ visitedStates s

variable {P}

theorem ninv_init : NInv P (init P.M P.props P.key) := by
  obtain ⟨hg, hnd, hlen⟩ := genInit_spec P.key P.M.initB []
  refine ⟨hnd List.nodup_nil, ?_, ?_, ?_, List.forall_mem_nil _⟩
  · intro u hu
    have hu : u ∈ (init P.M P.props P.key).frontier.map (·.st) := hu
    rw [init_frontier_st] at hu
    exact (hg _).2 (.inr ⟨u, List.mem_reverse.1 hu, rfl⟩)
  · intro hnd
    show (((init P.M P.props P.key).frontier.map (·.st)).map P.key).Nodup
    rw [init_frontier_st, List.map_reverse]
    exact (List.reverse_perm _).nodup_iff.2 hnd
  · exact Nat.le_trans hlen (Nat.le_of_eq (Nat.zero_add _))

theorem ninv_frame {s s' : St σ κ} (h : NInv P s) (hg : s'.gen = s.gen) (hv : s'.visits = s.visits)
    (hf : s'.frontier.Sublist s.frontier) (hc : s.stateCount ≤ s'.stateCount)
    (had : s'.active.map (·.job.st) ++ s'.done ⊆ s.active.map (·.job.st) ++ s.done) : NInv P s' := by
  have hvs : visitedStates s' = visitedStates s := by simp [visitedStates, hv]
  have hsub : (visitedStates s' ++ s'.frontier.map (·.st)).Sublist (visitedStates s ++ s.frontier.map (·.st)) :=
    hvs ▸ (List.Sublist.refl _).append (hf.map _)
  exact ⟨hg ▸ h.genNodup, fun u hu => hg ▸ h.inGen u (hsub.subset hu), fun hnd => (h.once hnd).sublist (hsub.map _),
    Nat.le_trans (Nat.le_of_eq (congrArg List.length hg)) (Nat.le_trans h.count hc), fun u hu => hvs ▸ h.actVis u (had hu)⟩

theorem ninv_take_job {s : St σ κ} (h : NInv P s) {i : Nat} {j : Job σ} (hj : s.frontier[i]? = some j)
    (hlast : j.path.getLast? = some j.st) (n : Nat) :
    NInv P { s with frontier := s.frontier.eraseIdx i, maxDepth := n, visits := j.path :: s.visits,
                    active := s.active ++ [⟨j, .props 0 false⟩] } := by
  -- quantified over `s'` so that `rw [hvs _ rfl]` need not spell out the `{ s with … }` term of the statement
  have hvs : ∀ s' : St σ κ, s'.visits = j.path :: s.visits → visitedStates s' = j.st :: visitedStates s :=
    fun s' e => by simp [visitedStates, e, hlast]
  have hp : (j.st :: visitedStates s ++ (s.frontier.eraseIdx i).map (·.st)).Perm
      (visitedStates s ++ s.frontier.map (·.st)) :=
    List.perm_middle.symm.trans (((perm_eraseIdx hj).map (·.st)).symm.append_left _)
  have hpa : ((s.active ++ [(⟨j, .props 0 false⟩ : Active σ)]).map (·.job.st) ++ s.done).Perm
      (j.st :: (s.active.map (·.job.st) ++ s.done)) := by
    simp
  refine ⟨h.genNodup, ?_, ?_, h.count, ?_⟩
  · intro u hu
    rw [hvs _ rfl] at hu
    exact h.inGen u (hp.mem_iff.1 hu)
  · intro hnd
    rw [hvs _ rfl]
    exact (hp.map _).nodup_iff.2 (h.once hnd)
  · intro u hu
    rw [hvs _ rfl]
    exact (List.mem_cons.1 (hpa.mem_iff.1 hu)).elim (· ▸ List.mem_cons_self)
      fun hu => List.mem_cons_of_mem _ (h.actVis u hu)

theorem ninv_fresh {s : St σ κ} (h : NInv P s) {w : Nat} {j : Job σ} {t : σ} {rest : List σ}
    (ha : s.active[w]? = some ⟨j, .expanding (t :: rest)⟩) (hnin : P.key t ∉ s.gen) (c : Job σ) (hc : c.st = t)
    (front : Bool) :
    NInv P { s with stateCount := s.stateCount + 1, gen := s.gen ++ [P.key t],
                    frontier := if front then c :: s.frontier else s.frontier ++ [c],
                    active := s.active.set w ⟨j, .expanding rest⟩ } := by
  have hperm : (visitedStates s ++ (if front then c :: s.frontier else s.frontier ++ [c]).map (·.st)).Perm
      (t :: (visitedStates s ++ s.frontier.map (·.st))) := by
    cases front
    · simpa [hc] using List.perm_append_singleton t (visitedStates s ++ s.frontier.map (·.st))
    · simp [hc]
  have had := actDone_set (a' := ⟨j, .expanding rest⟩) ha rfl
  refine ⟨?_, ?_, ?_, ?_, fun u hu => h.actVis u (had.mem_iff.1 hu)⟩
  · exact nodup_snoc h.genNodup hnin
  · intro u hu
    rcases List.mem_cons.1 (hperm.mem_iff.1 hu) with rfl | hu'
    · exact List.mem_append_right _ (List.mem_singleton.2 rfl)
    · exact List.mem_append_left _ (h.inGen u hu')
  · intro hnd
    refine (hperm.map P.key).nodup_iff.2 (List.nodup_cons.2 ⟨fun hmem => ?_, h.once hnd⟩)
    obtain ⟨u, hu, hk⟩ := List.mem_map.1 hmem
    exact hnin (hk ▸ h.inGen u hu)
  · simpa using Nat.succ_le_succ h.count

theorem ninv_move {c : Choice} {s s' : St σ κ} (m : Move P s c s') (hs : SInv P s) (h : NInv P s) : NInv P s' := by
  cases m with
  | take hj => exact ninv_take_job h hj (hs.fr _ (List.mem_of_getElem? hj)).last _
  | tooDeep | dropJob => exact ninv_frame h rfl rfl (List.eraseIdx_sublist _ _) (Nat.le_refl _) fun _ h => h
  | work ha hw => exact ninv_frame h rfl rfl (.refl _) (Nat.le_refl _) (actDone_set ha hw.st_eq).subset
  | giveUp | abandon =>
    exact ninv_frame h rfl rfl (.refl _) (Nat.le_refl _)
      (List.append_subset.2 ⟨fun _ hu => List.mem_append_left _ (List.map_subset _ (List.eraseIdx_subset ..) hu),
        List.subset_append_right _ _⟩)
  | expanded ha | recorded ha => exact ninv_frame h rfl rfl (.refl _) (Nat.le_refl _) (actDone_retire ha).subset
  | seen ha => exact ninv_frame h rfl rfl (.refl _) (Nat.le_succ _) (actDone_set ha (by rfl)).subset
  | fresh front ha hg => exact ninv_fresh h ha hg _ rfl front
  | stop => exact ninv_frame h rfl rfl (.refl _) (Nat.le_refl _) fun _ h => h

theorem ninv_run (cs : List Choice) : NInv P (run P cs) :=
  run_cases ninv_init ninv_move cs

theorem genReach_run (cs : List Choice) : ∀ k ∈ (run P cs).gen, ∃ t, P.M.Reach t ∧ P.key t = k := by
  refine run_cases (Inv := fun s => ∀ k ∈ s.gen, ∃ t, P.M.Reach t ∧ P.key t = k) (fun k hk => ?_) (fun hm hs h => ?_) cs
  · rcases ((genInit_spec P.key P.M.initB []).1 k).1 hk with h | ⟨t, ht, rfl⟩
    · cases h
    · exact ⟨t, Sys.Reach.init ht, rfl⟩
  · cases hm with
    | @fresh w j t rest front ha hg =>
      intro k hk
      rcases List.mem_append.1 hk with hk | hk
      · exact h k hk
      · cases List.mem_singleton.1 hk
        have ham : (⟨j, .expanding (t :: rest)⟩ : Active σ) ∈ _ := List.mem_of_getElem? ha
        have hj := hs.ac _ ham
        have hr : P.M.Reach j.st := hj.reach
        exact ⟨t, Sys.Reach.step hr (hs.exp _ ham (t :: rest) rfl t List.mem_cons_self), rfl⟩
    | _ => exact h

end
end SR.Checker
