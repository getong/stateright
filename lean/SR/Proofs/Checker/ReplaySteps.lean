import SR.Drv.Full
import SR.Proofs.Checker.FullInv
import SR.Proofs.Checker.ReplaySync
/-!
One worker's job in the replay of `ReplayComplete.lean` and in the machine.  The validator's `advance` moves the job on to its
next logged step, by steps of the product (`advance_spec`).
-/

namespace SR.ReplayComplete.Full
open SR SR.Checker SR.Market SR.Full SR.Drv.Full

variable {P : Params Nat Nat Nat}

theorem activeOf_eq (x : FState Nat Nat) (w : Nat) : activeOf x w = look x.aw x.c.active w := rfl

abbrev X := FState Nat Nat

theorem activeOf_congr {x y : X} (h1 : x.aw = y.aw) (h2 : x.c.active = y.c.active) (w : Nat) :
    activeOf x w = activeOf y w := by
  unfold activeOf
  rw [h1, h2]

theorem activeOf_some {x : X} {w : Nat} {act : A} (h : activeOf x w = some act) :
    w ∈ x.aw ∧ x.c.active[x.aw.idxOf w]? = some act := by
  unfold activeOf at h
  split at h
  · rename_i hw
    exact ⟨hw, h⟩
  · cases h

theorem activeOf_none_iff {x : X} (inv : FInv x) (w : Nat) : activeOf x w = none ↔ w ∉ x.aw := by
  unfold activeOf
  constructor
  · intro h hw
    rw [if_pos hw] at h
    have : x.aw.idxOf w < x.c.active.length := inv.awlen ▸ List.idxOf_lt_length_of_mem hw
    rw [List.getElem?_eq_getElem this] at h
    cases h
  · intro h
    rw [if_neg h]

theorem activeOf_of_mem {x : X} (inv : FInv x) {w : Nat} (hw : w ∈ x.aw) : ∃ act, activeOf x w = some act := by
  cases h : activeOf x w with
  | none => exact ((activeOf_none_iff inv w).1 h hw).elim
  | some act => exact ⟨act, rfl⟩

structure Upd (x x' : X) (w : Nat) (r : Option A) : Prop where
  self : activeOf x' w = r
  other : ∀ v, v ≠ w → activeOf x' v = activeOf x v

theorem upd_of {x x' : X} {w : Nat} {r : Option A} (h : ∀ v, activeOf x' v = if v = w then r else activeOf x v) :
    Upd x x' w r :=
  ⟨(h w).trans (if_pos rfl), fun v hv => (h v).trans (if_neg hv)⟩

theorem job_upd {x x' : X} (inv : FInv x) {w : Nat} (hw : w ∈ x.aw) (r : Option A)
    (hact : x'.c.active = actAfter x.c.active (x.aw.idxOf w) r)
    (haw : x'.aw = if x'.c.active.length < x.c.active.length then x.aw.eraseIdx (x.aw.idxOf w) else x.aw) :
    Upd x x' w r := by
  have hi : x.aw.idxOf w < x.c.active.length := inv.awlen ▸ List.idxOf_lt_length_of_mem hw
  refine upd_of fun v => ?_
  rw [activeOf_eq, activeOf_eq, haw, hact]
  cases r with
  | none =>
    rw [actAfter, if_pos (by rw [List.length_eraseIdx, if_pos hi]; omega)]
    exact look_eraseIdx inv.awnd _ _ _
  | some a' =>
    rw [actAfter, if_neg (by rw [List.length_set]; omega)]
    exact look_set inv.awlen hw _ _

theorem take_upd {y y' : X} (inv : FInv y) {w : Nat} (hw : w ∉ y.aw) (r : Option A)
    (hact : y'.c.active = y.c.active ++ r.toList)
    (haw : y'.aw = if y'.c.active.length = y.c.active.length + 1 then y.aw ++ [w] else y.aw) : Upd y y' w r := by
  refine upd_of fun v => ?_
  rw [activeOf_eq, activeOf_eq, haw, hact]
  cases r with
  | some act =>
    rw [if_pos (by simp)]
    exact look_append inv.awlen hw _ _
  | none =>
    rw [Option.toList_none, List.append_nil, if_neg (by omega)]
    split
    · next e => exact e ▸ if_neg hw
    · rfl

theorem erase_upd {y y' : X} (inv : FInv y) (w : Nat)
    (hact : y'.c.active = if w ∈ y.aw then y.c.active.eraseIdx (y.aw.idxOf w) else y.c.active)
    (haw : y'.aw = y.aw.erase w) : Upd y y' w none := by
  refine upd_of fun v => ?_
  rw [activeOf_eq, activeOf_eq, haw, hact]
  split
  · rw [List.erase_eq_eraseIdx_of_idxOf rfl]
    exact look_eraseIdx inv.awnd _ _ _
  · next hw =>
    rw [List.erase_of_not_mem hw]
    split
    · next e => exact e ▸ if_neg hw
    · rfl

/-- `f` is the step of worker `w` that performs the step without log entry of the job `act` -/
def IsSilF (act : A) (w : Nat) (f : FStep) : Prop :=
  match act.phase with
  | .props _ _ => f = .finishProps w
  | .expanding _ => ∃ fr tok bk, f = .expand w fr tok bk
  | .recording _ => f = .record w

theorem stepE_of {x x' : X} {f : FStep} {ms : List Step} {cs : List Choice} (h : fstep P x f = some (x', ms, cs)) :
    stepE P x f = .ok x' := by
  unfold stepE
  rw [h]
  rfl

theorem finv_stepE {x x' : X} {f : FStep} (inv : FInv x) (h : stepE P x f = .ok x') : FInv x' := by
  unfold stepE at h
  split at h
  · next hf =>
      cases h
      exact finv_step inv hf
  · cases h

theorem fstep_expand_old {y : X} {w : Nat} {front back : Bool} {tok : Tok}
    (h : (Checker.step P (.expand (y.aw.idxOf w) front) y.c).frontier.length ≠ y.c.frontier.length + 1) :
    fstep P y (.expand w front tok back) = onJob P y w (fun i => .expand i front) := by
  simp only [fstep, onJob, if_neg h]

theorem fstep_sil {x : X} (inv : FInv x) {w : Nat} {act : A} {r : Option A} (hw : activeOf x w = some act)
    (hs : silA P act = some r) {f : FStep} (hf : IsSilF act w f) :
    ∃ x' cs, fstep P x f = some (x', [], cs) ∧ x'.m = x.m ∧ x'.ft = x.ft ∧ CEq x'.c x.c ∧ Upd x x' w r := by
  obtain ⟨hmem, hidx⟩ := activeOf_some hw
  have key : ∃ fr, fstep P x f = onJob P x w (silC act · fr) := by
    obtain ⟨jb, ph⟩ := act
    cases ph with
    | props n aw => exact ⟨true, by rw [show f = .finishProps w from hf]; rfl⟩
    | recording n => exact ⟨true, by rw [show f = .record w from hf]; rfl⟩
    | expanding rest =>
      obtain ⟨fr, tok, bk, rfl⟩ := hf
      refine ⟨fr, fstep_expand_old ?_⟩
      have : (Checker.step P (.expand (x.aw.idxOf w) fr) x.c).frontier = x.c.frontier := (sil_step hidx hs fr).1.fr
      rw [this]
      omega
  obtain ⟨fr, hfx⟩ := key
  obtain ⟨h1, h2⟩ := sil_step hidx hs fr
  rw [onJob_eq, if_pos hmem] at hfx
  exact ⟨_, _, hfx, rfl, rfl, h1, job_upd inv hmem r h2 rfl⟩

variable (P)

/-- a bound on the steps without log entry a job can take in a row (terminal-state loop at `n`: one per property left, one
    past the last, the retiring; end of the property loop: `finishProps`, then that loop from 0); `fuelOf P` of `Drv/Full.lean`,
    `2 * props.length + 6`, is above it (`muO_le_fuel`) -/
def muA (act : A) : Nat :=
  match act.phase with
  | .props _ _ => P.props.length + 3
  | .expanding _ => 1
  | .recording n => (P.props.length + 1 - n) + 1

def muO : Option A → Nat
  | none => 0
  | some act => muA P act

variable {P}

theorem mu_dec {act : A} {r : Option A} (h : silA P act = some r) : muO P r < muA P act := by
  revert h
  unfold muA
  fun_cases silA P act
  all_goals
    intro h
    cases h
  -- the three steps without entry, in the order of `silA`: end of the property loop, retiring, terminal-state loop
  next n aw hph hn =>
    rw [hph]
    cases aw with
    | false => simp [muO]
    | true =>
      simp only [Bool.not_true, Bool.false_eq_true, if_false]
      split <;> simp [muO, muA]
  next hph =>
    rw [hph]
    simp [muO]
  next n hph hn =>
    rw [hph]
    split
    · simp only [muO, muA]
      omega
    · simp [muO]

theorem advance_nf {x : X} {w : Nat} (h : NF P (activeOf x w)) (fuel : Nat) : advance P x w fuel = .ok x := by
  fun_cases advance P x w fuel
  -- the branches that take a step (4, 5, 8: `finishProps`, retiring, `record`): there the job is not at a logged step
  case case4 a hw i _ hph hn => simpa [silA, hph, hn] using h a hw
  case case5 a hw hph => simpa [silA, hph] using h a hw
  case case8 a hw i hph hn => simpa [silA, hph, hn] using h a hw
  all_goals rfl

theorem advance_sil {x : X} {w : Nat} {act : A} {r : Option A} (hw : activeOf x w = some act)
    (hs : silA P act = some r) (fuel : Nat) :
    ∃ f, IsSilF act w f ∧ ∀ x1, stepE P x f = .ok x1 → activeOf x1 w = r →
      advance P x w (fuel + 1) = advance P x1 w fuel := by
  rw [advance, hw]
  unfold IsSilF
  revert hs
  fun_cases silA P act
  all_goals
    intro hs
    cases hs
  -- `advance` makes the tests of `silA`; left are the three steps without entry, in the order of `silA`
  next n aw hph hn =>
    refine ⟨.finishProps w, by rw [hph], fun x1 h1 _ => ?_⟩
    simp only [hph, hn, if_false, h1]
    rfl
  next hph =>
    refine ⟨.expand w true 0 false, by rw [hph]; exact ⟨_, _, _, rfl⟩, fun x1 h1 h2 => ?_⟩
    rw [advance_nf (x := x1) (h2 ▸ nf_none)]
    simp only [hph]
    exact h1
  next n hph hn =>
    refine ⟨.record w, by rw [hph], fun x1 h1 _ => ?_⟩
    simp only [hph, hn, if_false, h1]
    rfl

variable (P) in
structure Advanced (w : Nat) (x x' : X) : Prop where
  m : x'.m = x.m
  ft : x'.ft = x.ft
  c : CEq x'.c x.c
  sil : Sil P (activeOf x w) (activeOf x' w)
  nf : NF P (activeOf x' w)
  other : ∀ v, v ≠ w → activeOf x' v = activeOf x v
  inv : FInv x'

theorem advance_spec (w : Nat) (fuel : Nat) : ∀ x : X, FInv x → muO P (activeOf x w) ≤ fuel →
    ∃ x', advance P x w fuel = .ok x' ∧ Advanced P w x x' := by
  induction fuel using Nat.strongRecOn with
  | _ fuel ih =>
    intro x inv hmu
    have stay : NF P (activeOf x w) → ∃ x', advance P x w fuel = .ok x' ∧ Advanced P w x x' := fun hnf =>
      ⟨x, advance_nf hnf _, rfl, rfl, CEq.refl _, .refl _, hnf, fun _ _ => rfl, inv⟩
    cases hw : activeOf x w with
    | none => exact stay (hw ▸ nf_none)
    | some act =>
      cases hs : silA P act with
      | none =>
        refine stay fun a ha => ?_
        rw [hw] at ha
        cases ha
        exact hs
      | some r =>
        -- a step without entry has positive measure (`mu_dec`), so there is fuel for it
        have hdec := mu_dec hs
        rw [hw] at hmu
        simp only [muO] at hmu
        obtain ⟨fuel, rfl⟩ : ∃ n, fuel = n + 1 := ⟨fuel - 1, by omega⟩
        obtain ⟨f, hf, hadv⟩ := advance_sil hw hs fuel
        obtain ⟨x1, cs, hfx, hm1, hft1, hc1, hu⟩ := fstep_sil inv hw hs hf
        obtain ⟨x', ha, h'⟩ := ih fuel (Nat.lt_succ_self _) x1 (finv_step inv hfx) (by rw [hu.self]; omega)
        exact ⟨x', (hadv x1 (stepE_of hfx) hu.self).trans ha, h'.m.trans hm1, h'.ft.trans hft1, h'.c.trans hc1,
          hw ▸ .step hs (hu.self ▸ h'.sil), h'.nf, fun v hv => (h'.other v hv).trans (hu.other v hv), h'.inv⟩

theorem muO_le_fuel (o : Option A) : muO P o ≤ fuelOf P := by
  cases o with
  | none => simp [muO]
  | some act =>
    simp only [muO, muA, fuelOf]
    split <;> omega

variable (P) in
/-- the state after a step that runs the choices `pre` and drops the tokens `gone`: one shape, so that `rel_xDrop` serves all the
    steps that leave `aw` alone (`timeout`, `xdrop`, `exit`, `split`; `pop`, `wake` with nothing run or dropped).  `stop` has the
    shape too, but erases `w` from `aw`: `complete_stop_core` unfolds it and goes through `rel_gone` -/
def xDrop (y : X) (m : MState) (pre : List Choice) (gone : List Tok) (aw : List Nat) : X :=
  { m := m, c := runFrom P y.c (pre ++ (dropToks gone y.ft).1), ft := (dropToks gone y.ft).2, aw := aw }

theorem stop_view {y : X} (inv : FInv y) (w : Nat) (why : Why) (hen : stopEnabled P why y.c = true)
    (drops : List Choice) (hdl : DropList drops) :
    CEq (runFrom P y.c ((Choice.stop why :: (if w ∈ y.aw then [Choice.abandon (y.aw.idxOf w)] else [])) ++ drops))
        (runFrom P y.c (.stop why :: drops)) ∧
    (runFrom P y.c ((Choice.stop why :: (if w ∈ y.aw then [Choice.abandon (y.aw.idxOf w)] else [])) ++ drops)).active =
      (if w ∈ y.aw then y.c.active.eraseIdx (y.aw.idxOf w) else y.c.active) := by
  rw [runFrom_append, runFrom_stop_abandon P hen _ fun hw => inv.awlen ▸ List.idxOf_lt_length_of_mem hw]
  have hce : CEq (if w ∈ y.aw then { y.c with stopped := true, active := y.c.active.eraseIdx (y.aw.idxOf w), early := true }
      else { y.c with stopped := true }) (stepStop P why y.c) := by
    rw [stepStop, if_pos hen]
    split <;> exact ⟨rfl, rfl, rfl, rfl, rfl, rfl, rfl⟩
  refine ⟨dropList_sync drops hce hdl, (runFrom_dropList_active P drops _ hdl).trans ?_⟩
  split <;> rfl

end SR.ReplayComplete.Full
