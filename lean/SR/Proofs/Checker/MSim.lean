import SR.Proofs.Checker.MSimStep
import SR.Proofs.Checker.Sim
/-!
Invariant of the multi-threaded simulation machine (`Checker/MSim.lean`), for EVERY step list: every entry of the shared
`discoveries` map is a genuine witness (`Sim.EntryOk`, the predicate of `C03_sim`).
The workers influence one another only through the READS of the shared map (`evalProp`), and a read can only make a
worker track less (drop a bit): the per-trace invariant `TrOk` never mentions the shared map.
-/
namespace SR.Checker.MSim
open SR SR.Checker

-- `DecidableEq σ`, `DecidableEq κ`, needed by `busyStep`, also reach the lemmas about traces
set_option linter.unusedSectionVars false
section
variable {σ κ α : Type} [DecidableEq σ] [DecidableEq κ] (P : Params σ κ α)

/-- the current state has been pushed to the path.  The tracked conditions are known to be false on the path BEFORE `cur`
    (`eb`, over `dropLast`); in `cur` itself only for the bits the property loop has passed (`CurUpTo`).  The two together
    give `EbOk` on the whole path once the loop is through (`ebOk_whole`). -/
structure Entered (t : Tr σ κ) : Prop where
  path : P.M.IsPath t.path
  last : t.path.getLast? = some t.cur
  seen : SeenOk P t.seen t.path
  eb : EbOk P t.ebits t.path.dropLast

def CurUpTo (k : Nat) (t : Tr σ κ) : Prop :=
  ∀ j ∈ t.ebits, j < k → ∀ pr, P.props[j]? = some pr → pr.cond t.cur = false

def TrOk (t : Tr σ κ) : Prop :=
  match t.ph with
  | .top => Sim.PathTo (P := P) t.path t.cur ∧ SeenOk P t.seen t.path ∧ EbOk P t.ebits t.path
  | .props i => Entered P t ∧ CurUpTo P i t
  | .decide i => Entered P t ∧ CurUpTo P i t
  | .choose => Entered P t ∧ CurUpTo P P.props.length t
  | .record _ => ∀ j ∈ t.ebits, j < P.props.length → Sim.EntryOk P (j, t.path)

structure Inv (s : St σ κ) : Prop where
  disc : Sim.DiscOk P s.disc
  ws : ∀ (w : Nat) (t : Tr σ κ), s.ws[w]? = some (WSt.busy t) → TrOk P t

def WStOk : WSt σ κ → Prop
  | .busy t => TrOk P t
  | _ => True

variable {P}

theorem ebOk_whole {t : Tr σ κ} (he : Entered P t) (hc : CurUpTo P P.props.length t) : EbOk P t.ebits t.path := by
  rw [eq_dropLast_concat he.last]
  exact Sim.ebOk_concat he.eb (fun _ h => h) hc

theorem Entered.fewer_bits {t : Tr σ κ} (h : Entered P t) {eb : List Nat} {aw : Bool} {ph : Ph} (he : ∀ i ∈ eb, i ∈ t.ebits) :
    Entered P { t with ebits := eb, awaiting := aw, ph := ph } :=
  ⟨h.path, h.last, h.seen, fun i hi => h.eb i (he i hi)⟩

theorem trOk_next_prop {t : Tr σ κ} {i : Nat} (hen : Entered P t) (hcur : CurUpTo P i t) {eb : List Nat} (aw : Bool)
    (he : ∀ k ∈ eb, k ∈ t.ebits) (hi : i ∈ eb → ∀ pr, P.props[i]? = some pr → pr.cond t.cur = false) :
    TrOk P { t with ebits := eb, awaiting := aw, ph := .props (i + 1) } :=
  ⟨hen.fewer_bits he, Sim.upTo_succ hcur he hi⟩

theorem not_mem_drop {eb : List Nat} {i : Nat} : i ∉ eb.filter (· != i) := fun h => by simpa using (List.mem_filter.1 h).2

/-- `d`, `sd`: whatever the shared map and the flag are at that moment; `hkc`: no fingerprint collision (under symmetry:
    the conditions are invariant) -/
theorem busyStep_ok
    (hkc : ∀ a b, P.M.Reach a → P.M.Reach b → P.key a = P.key b → ∀ pr ∈ P.props, pr.cond a = pr.cond b)
    {f : Step σ} {sd : Bool} {d : List (Nat × List σ)} {t : Tr σ κ} {e : Eff σ κ}
    (ht : TrOk P t) (h : busyStep P f sd d t = some e) :
    WStOk P e.w' ∧ ∀ x, e.ins = some x → Sim.EntryOk P x := by
  -- a property that is not an `eventually` one is not tracked
  have notTracked : ∀ {i p}, Entered P t → P.props[i]? = some p → p.exp ≠ .eventually → i ∈ t.ebits →
      ∀ pr, P.props[i]? = some pr → pr.cond t.cur = false :=
    fun hen hp hne hi pr hpr => absurd (hen.eb _ hi pr hpr).1 (Option.some.inj (hp.symm.trans hpr) ▸ hne)
  -- the cases are the alternatives of `busyStep` as they are written; those that yield `none` go with `cases h`
  revert h
  fun_cases busyStep P f sd d t
  all_goals intro h
  all_goals cases h
  -- `enter`: depth limit, outside the boundary; `finishProps`: nothing awaited; `endTrace`; `cut`
  case case1 | case2 | case16 | case25 | case26 => exact ⟨trivial, nofun⟩
  case case3 hph ho =>  -- `enter`, loop found
    simp only [TrOk, hph] at ht
    obtain ⟨hin, hk⟩ := enterOut_loop ho
    exact ⟨Sim.entryOk_cycle hkc (Sim.isPath_extend ht.1 hin) ht.2.1 hk ht.2.2, nofun⟩
  case case4 hph ho =>  -- `enter`, counted
    simp only [TrOk, hph] at ht
    exact ⟨⟨⟨Sim.isPath_extend ht.1 (enterOut_counted ho).2.1, List.getLast?_concat, Sim.seenOk_push _ ht.2.1,
      by simpa using ht.2.2⟩, fun j _ hj => absurd hj (Nat.not_lt_zero _)⟩, nofun⟩
  case case5 hph hij _ =>  -- `evalProp`, read as discovered: no longer tracked
    obtain ⟨rfl, _⟩ := hij
    simp only [TrOk, hph] at ht
    exact ⟨trOk_next_prop ht.1 ht.2 _ List.filter_sublist.subset fun hi => absurd hi not_mem_drop, nofun⟩
  case case6 hph hij _ =>  -- `evalProp`, read as undiscovered
    obtain ⟨rfl, _⟩ := hij
    simp only [TrOk, hph] at ht
    exact ⟨⟨ht.1.fewer_bits fun _ hk => hk, ht.2⟩, nofun⟩
  case case9 hph p hexp hc hp =>  -- `applyProp`, always, violated
    simp only [TrOk, hph] at ht
    exact ⟨trOk_next_prop ht.1 ht.2 _ (fun _ hk => hk) (notTracked ht.1 hp fun e => nomatch hexp.symm.trans e),
      fun x hx => Option.some.inj hx ▸ Sim.entryOk_witness ht.1.path ht.1.last hp (.inl ⟨hexp, by simpa using hc⟩)⟩
  case case11 hph p hexp hc hp =>  -- `applyProp`, sometimes, satisfied
    simp only [TrOk, hph] at ht
    exact ⟨trOk_next_prop ht.1 ht.2 _ (fun _ hk => hk) (notTracked ht.1 hp fun e => nomatch hexp.symm.trans e),
      fun x hx => Option.some.inj hx ▸ Sim.entryOk_witness ht.1.path ht.1.last hp (.inr ⟨hexp, hc⟩)⟩
  case case10 hph p hexp hc hp | case12 hph p hexp hc hp =>  -- `applyProp`, always / sometimes, no witness
    simp only [TrOk, hph] at ht
    exact ⟨trOk_next_prop ht.1 ht.2 _ (fun _ hk => hk) (notTracked ht.1 hp fun e => nomatch hexp.symm.trans e), nofun⟩
  case case13 hph p hexp hp =>  -- `applyProp`, eventually
    simp only [TrOk, hph] at ht
    refine ⟨trOk_next_prop ht.1 ht.2 _ (fun k hk => ?_) (fun hi pr hpr => ?_), nofun⟩
    · split at hk
      · exact List.filter_sublist.subset hk
      · exact hk
    · split at hi
      · exact absurd hi not_mem_drop
      · next hc => exact Option.some.inj (hp.symm.trans hpr) ▸ by simpa using hc
  case case17 hph hj _ =>  -- `finishProps`, something awaited
    simp only [TrOk, hph] at ht
    exact ⟨⟨ht.1.fewer_bits fun _ hk => hk, fun k hk _ => ht.2 k hk (by omega)⟩, nofun⟩
  case case18 hph hn =>  -- `advance (some n)`
    simp only [TrOk, hph] at ht
    exact ⟨⟨Or.inr ⟨ht.1.path, t.cur, ht.1.last, hn⟩, ht.1.seen, ebOk_whole (t := t) ht.1 ht.2⟩, nofun⟩
  case case20 hph hn =>  -- `advance none`
    simp only [TrOk, hph] at ht
    exact ⟨Sim.entryOk_of_eb ht.1.path (ebOk_whole (t := t) ht.1 ht.2) (Or.inl ⟨t.cur, ht.1.last, by simpa using hn⟩), nofun⟩
  case case22 hph hij =>  -- `recordOne`
    obtain ⟨rfl, hlt⟩ := hij
    simp only [TrOk, hph] at ht
    refine ⟨ht, fun x hx => ?_⟩
    split at hx
    · exact Option.some.inj hx ▸ ht _ ‹_› hlt
    · cases hx

/-- `effOf = none`: `busyStep` does not apply, `f` is a step of the worker loop, `timeout` or `panic` ("environment") -/
theorem step_env {f : Step σ} {s s' : St σ κ} (he : effOf P f s = none) (h : step P f s = some s') :
    s'.disc = s.disc ∧ s'.stateCount = s.stateCount ∧
    ∀ t : Tr σ κ, .busy t ∈ s'.ws → .busy t ∈ s.ws ∨ ∃ x ∈ P.M.init, t = newTrace P x := by
  unfold step at h
  simp only [he] at h
  repeat' split at h
  all_goals cases h
  all_goals refine ⟨rfl, rfl, fun t' hw' => ?_⟩
  · -- start
    rcases List.mem_or_eq_of_mem_set hw' with h1 | h1
    · exact .inl h1
    · cases h1
      exact .inr ⟨_, ‹_ ∈ P.M.init›, rfl⟩
  · -- cont
    exact .inl ((List.mem_or_eq_of_mem_set hw').resolve_right nofun)
  · -- leave finish
    exact .inl ((List.mem_or_eq_of_mem_set hw').resolve_right nofun)
  · -- leave target
    exact .inl ((List.mem_or_eq_of_mem_set hw').resolve_right nofun)
  · -- leave shutdown
    exact .inl ((List.mem_or_eq_of_mem_set hw').resolve_right nofun)
  · -- timeout
    exact .inl hw'
  · -- panic
    exact .inl ((List.mem_or_eq_of_mem_set hw').resolve_right nofun)

theorem trOk_new {x : σ} (hx : x ∈ P.M.init) : TrOk P (newTrace P x : Tr σ κ) :=
  ⟨Or.inl ⟨rfl, hx⟩, Sim.seenOk_nil, Sim.ebOk_init⟩

theorem inv_init (k : Nat) : Inv P (init k : St σ κ) := by
  refine ⟨nofun, fun w t h => ?_⟩
  simp only [init, List.getElem?_replicate] at h
  split at h
  · cases h
  · cases h

theorem step_inv
    (hkc : ∀ a b, P.M.Reach a → P.M.Reach b → P.key a = P.key b → ∀ pr ∈ P.props, pr.cond a = pr.cond b)
    {f : Step σ} {s s' : St σ κ} (hi : Inv P s) (h : step P f s = some s') : Inv P s' := by
  -- `Inv.ws` speaks of indices, `step_env` and `List.mem_or_eq_of_mem_set` of membership
  have old : ∀ {t : Tr σ κ}, .busy t ∈ s.ws → TrOk P t := fun h =>
    (List.mem_iff_getElem?.1 h).elim fun w hw => hi.ws w _ hw
  cases he : effOf P f s with
  | none =>
    obtain ⟨hd, _, hws⟩ := step_env he h
    refine ⟨hd ▸ hi.disc, fun w t hw => ?_⟩
    rcases hws t (List.mem_of_getElem? hw) with h1 | ⟨x, hx, rfl⟩
    · exact old h1
    · exact trOk_new hx
  | some e =>
    obtain ⟨t, hw, hb⟩ := effOf_some he
    obtain ⟨hw', hins⟩ := busyStep_ok hkc (hi.ws _ t hw) hb
    cases (step_of_eff he).symm.trans h
    refine ⟨?_, fun w' t' hw'' => ?_⟩
    · simp only [applyEff]
      split
      · next hins' => exact Sim.discOk_insert hi.disc (hins _ hins')
      · exact hi.disc
    · rcases List.mem_or_eq_of_mem_set (List.mem_of_getElem? hw'') with h1 | h1
      · exact old h1
      · rw [← h1] at hw'
        exact hw'

theorem runFrom_inv
    (hkc : ∀ a b, P.M.Reach a → P.M.Reach b → P.key a = P.key b → ∀ pr ∈ P.props, pr.cond a = pr.cond b)
    (fs : List (Step σ)) (s : St σ κ) (hs : Inv P s) : Inv P (runFrom P s fs) := by
  fun_induction runFrom P s fs
  case case1 => exact hs
  case case2 ih => exact ih hs  -- the step is not enabled
  case case3 hstep ih => exact ih (step_inv hkc hs hstep)

theorem counts_iff {f : Step σ} {s : St σ κ} :
    counts P f s = true ↔
      ∃ w t, f = .enter w ∧ s.ws[w]? = some (WSt.busy t) ∧ t.ph = .top ∧ enterOut P t = .counted := by
  constructor
  · intro h
    unfold counts at h
    split at h
    · next e he =>
      obtain ⟨t, hw, hb⟩ := effOf_some he
      -- of the alternatives of `busyStep` (numbered as in `busyStep_ok`) only `enter`, counted (4) sets `cnt`
      revert hb
      fun_cases busyStep P f s.shutdown s.disc t
      all_goals intro hb
      all_goals cases hb
      case case4 w hph ho => exact ⟨w, t, rfl, hw, hph, ho⟩
      all_goals cases h
    · cases h
  · rintro ⟨w, t, rfl, hw, hph, hout⟩
    simp only [counts, effOf, Step.worker, hw, busyStep_enter_counted hph hout]

theorem step_count {f : Step σ} {s s' : St σ κ} (h : step P f s = some s') :
    s'.stateCount = s.stateCount + (if counts P f s then 1 else 0) := by
  unfold counts
  cases he : effOf P f s with
  | none => exact (step_env he h).2.1
  | some e =>
    cases (step_of_eff he).symm.trans h
    simp only [applyEff]
    by_cases hc : e.cnt = true
    · rw [if_pos hc, if_pos hc]
    · rw [if_neg hc, if_neg hc]
      rfl

theorem runFrom_count (fs : List (Step σ)) (s : St σ κ) :
    (runFrom P s fs).stateCount = s.stateCount + counted P s fs := by
  fun_induction runFrom P s fs
  case case1 => rfl
  case case2 h ih => simpa only [counted, h] using ih  -- the step is not enabled
  case case3 h ih => rw [ih, step_count h, Nat.add_assoc, counted, h]

theorem step_disc {f : Step σ} {s s' : St σ κ} (h : step P f s = some s') :
    s'.disc = s.disc ∨
    ∃ w i t, (f = .applyProp w i ∨ f = .recordOne w i) ∧ s.ws[w]? = some (WSt.busy t) ∧
      s'.disc = discInsert s.disc i t.path := by
  cases he : effOf P f s
  · exact .inl (step_env he h).1
  next e =>
    obtain ⟨t, hw, hb⟩ := effOf_some he
    obtain rfl := Option.some.inj ((step_of_eff he).symm.trans h)
    -- of the alternatives of `busyStep` only `applyProp` with a witness (9, 11) and `recordOne` (22) set `ins`; in each
    -- case the effect is a literal and `applyEff` computes
    revert hb
    fun_cases busyStep P f s.shutdown s.disc t
    all_goals intro hb
    all_goals cases hb
    case case9 | case11 => exact .inr ⟨_, _, t, .inl rfl, hw, rfl⟩
    case case22 w i _ _ _ =>
      by_cases hm : i ∈ t.ebits
      · exact .inr ⟨w, i, t, .inr rfl, hw, by simp only [applyEff, hm, if_true]⟩
      · exact .inl (by simp only [applyEff, hm, if_false])
    all_goals exact .inl rfl

theorem step_hasDisc {f : Step σ} {s s' : St σ κ} (h : step P f s = some s') {i : Nat}
    (hd : hasDisc s.disc i = true) : hasDisc s'.disc i = true := by
  rcases step_disc h with h1 | ⟨_, _, _, _, _, h1⟩
  · rw [h1]
    exact hd
  · rw [h1]
    exact hasDisc_insert_mono hd

end
end SR.Checker.MSim
