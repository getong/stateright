import SR.Proofs.Checker.Sched
import SR.Proofs.Checker.Complete
/-!
# Single-threaded breadth-first order: the discipline and what it yields

`FifoOk`: the discipline of bfs.rs with one worker — a job is popped only from the pop end (index 0) and only when
the worker is idle and the market open, new jobs are pushed at the other end, there is a single worker (index 0)
whose reads of the discoveries are never stale, a stop happens only between jobs.  `BInv` is what it yields without a
depth limit and with a state identity injective on reachable states; it is only stated here, `binv_run` in `BfsDepth.lean`
proves it.  Proved here: the bfs and on-demand schedulers of `SR/Checker/Sched.lean` obey the discipline (`schedule_fifo`).
-/
namespace SR.Checker
open SR

section
variable {σ κ α : Type} [DecidableEq κ]
variable (P : Params σ κ α)

def FifoOk (s : St σ κ) : Choice → Prop
  | .take i => i = 0 ∧ s.active = [] ∧ s.stopped = false
  | .evalProp w b => w = 0 ∧ b = false
  | .finishProps w => w = 0
  | .expand w f => w = 0 ∧ f = false
  | .record w => w = 0
  | .stop _ => s.active = []
  | .dropJob _ => True
  | .abandon _ => True

def FifoRun (s : St σ κ) : List Choice → Prop
  | [] => True
  | c :: cs => FifoOk s c ∧ FifoRun (step P c s) cs

def jobsOf (s : St σ κ) : List (Job σ) := s.frontier ++ s.active.map (·.job)

/-- `sorted`, `actLe`, `spread`: the frontier is sorted by depth and spans at most two levels, the worker's job at the
    lower one.  `shortJob`, `shortVis`, `shortDisc`: depths are distances.  `lower`: while no job was dropped every state
    no deeper than the shallowest job is generated.  `awake`: a worker that awaits discoveries, or expands, met an
    undiscovered property, so `lower` applies where a new job gets its depth. -/
structure BInv (s : St σ κ) : Prop where
  single : s.active.length ≤ 1
  sorted : (s.frontier.map (·.depth)).Pairwise (· ≤ ·)
  actLe : ∀ a ∈ s.active, ∀ j ∈ s.frontier, a.job.depth ≤ j.depth ∧ j.depth ≤ a.job.depth + 1
  spread : s.active = [] → ∀ j ∈ s.frontier, ∀ j' ∈ s.frontier, j'.depth ≤ j.depth + 1
  visLe : ∀ p ∈ s.visits, ∀ j ∈ jobsOf s, p.length ≤ j.depth
  visSorted : (s.visits.map List.length).Pairwise (· ≥ ·)
  shortJob : ∀ j ∈ jobsOf s, ∀ q, P.M.IsPath q → q.getLast? = some j.st → j.depth ≤ q.length
  shortVis : ∀ p ∈ s.visits, ∀ q, P.M.IsPath q → q.getLast? = p.getLast? → p.length ≤ q.length
  lower : s.early = false → ∀ q t, P.M.IsPath q → q.getLast? = some t →
            (∀ j ∈ jobsOf s, q.length ≤ j.depth) → P.key t ∈ s.gen
  awake : ∀ a ∈ s.active,
            (∀ k, a.phase = .props k true → ∃ i, i < k ∧ i < P.props.length ∧ hasDisc s.disc i = false) ∧
            (∀ r, a.phase = .expanding r → ∃ i, i < P.props.length ∧ hasDisc s.disc i = false)
  noActStopped : s.stopped = true → s.active = []
  shortDisc : ∀ e ∈ s.disc, ∀ pr, P.props[e.1]? = some pr → pr.exp ≠ .eventually →
            ∀ q t, P.M.IsPath q → q.getLast? = some t → Wit pr t → e.2.length ≤ q.length

variable {P}

theorem mem_jobsOf {s : St σ κ} {j : Job σ} : j ∈ jobsOf s ↔ j ∈ s.frontier ∨ ∃ a ∈ s.active, a.job = j := by
  simp [jobsOf, List.mem_append, List.mem_map]

theorem jobStates_eq (s : St σ κ) : jobStates s = (jobsOf s).map (·.st) ++ s.done := by
  simp [jobStates, jobsOf, List.map_map]

theorem job_reach {s : St σ κ} (hs : SInv P s) {j : Job σ} (hj : j ∈ jobsOf s) : P.M.Reach j.st := by
  rw [mem_jobsOf] at hj
  rcases hj with hj | ⟨a, ha, rfl⟩
  · exact (hs.fr j hj).reach
  · exact (hs.ac a ha).reach

variable (P)

theorem fifoRun_append (s : St σ κ) (cs ds : List Choice) :
    FifoRun P s (cs ++ ds) ↔ FifoRun P s cs ∧ FifoRun P (runFrom P s cs) ds := by
  induction cs generalizing s with
  | nil => simp [FifoRun, runFrom]
  | cons c cs ih =>
    simp only [List.cons_append, FifoRun, ih, runFrom, List.foldl_cons, and_assoc]

theorem fifoRun_dropJobs (s : St σ κ) (n : Nat) : FifoRun P s (List.replicate n (.dropJob 0)) := by
  induction n generalizing s with
  | zero => trivial
  | succ n ih => exact ⟨trivial, ih _⟩

theorem schedNext_fifo {d : Discipline} (hd : d ≠ .dfs) {s : St σ κ} {bl bl' : Nat} {cs : List Choice}
    (h : schedNext P d s bl = some (cs, bl')) : FifoRun P s cs := by
  have he := schedNext_spec (P := P) d s bl
  rw [h] at he
  cases he with
  | @work a n _ ha0 =>
    refine ⟨?_, fifoRun_dropJobs P _ _⟩
    obtain ⟨j, ph⟩ := a
    cases ph with
    | props i aw =>
      unfold w0choice
      dsimp only
      split
      · exact ⟨rfl, rfl⟩
      · exact rfl
    | expanding r => exact ⟨rfl, beq_eq_false_iff_ne.2 hd⟩
    | recording i => exact rfl
  | stop _ hact => exact ⟨hact, fifoRun_dropJobs P _ _⟩
  | block => trivial
  | take _ hact hns => exact ⟨⟨rfl, hact, hns⟩, trivial⟩

theorem schedule_fifo {d : Discipline} (hd : d ≠ .dfs) (fuel : Nat) (s : St σ κ) (bl : Nat) :
    FifoRun P s (schedule P d fuel s bl) := by
  fun_induction schedule P d fuel s bl with
  | case1 | case2 => trivial
  | case3 fuel s bl cs bl' h ih => exact (fifoRun_append P s _ _).2 ⟨schedNext_fifo P hd h, ih⟩

end
end SR.Checker
