import SR.Basic
/-!
`IsPath` is defined from the head; `PathTo p s` is `IsPath p` with last state `s` as an inductive predicate that grows at
the end (`pathTo_iff`), so that taking a path apart at its end is `cases`.
-/
namespace SR.Sys
variable {σ α : Type} {M : Sys σ α}

theorem chain_append_one {p : List σ} {s t : σ} (hc : M.Chain p) (hl : p.getLast? = some s)
    (ht : t ∈ M.succB s) : M.Chain (p ++ [t]) := by
  fun_induction Chain M p with
  | case1 => cases hl
  | case2 =>
    cases hl
    exact ⟨ht, trivial⟩
  | case3 _ _ _ ih => exact ⟨hc.1, ih hc.2 (List.getLast?_cons_cons.symm.trans hl)⟩

theorem isPath_singleton {s : σ} (h : s ∈ M.initB) : M.IsPath [s] := ⟨s, [], rfl, h, trivial⟩

theorem isPath_append_one {p : List σ} {s t : σ} (hp : M.IsPath p) (hl : p.getLast? = some s)
    (ht : t ∈ M.succB s) : M.IsPath (p ++ [t]) := by
  obtain ⟨x, rest, rfl, hx, hc⟩ := hp
  exact ⟨x, rest ++ [t], rfl, hx, chain_append_one hc hl ht⟩

theorem isPath_ne_nil {p : List σ} (hp : M.IsPath p) : p ≠ [] := by
  obtain ⟨x, rest, rfl, _, _⟩ := hp
  simp

theorem chain_mem_inB {p : List σ} (hc : M.Chain p) (h0 : ∀ s, p.head? = some s → M.inB s = true) :
    ∀ s ∈ p, M.inB s = true := by
  fun_induction Chain M p with
  | case1 => nofun
  | case2 => exact fun s hs => h0 s (List.mem_singleton.1 hs ▸ rfl)
  | case3 _ _ _ ih =>
    exact List.forall_mem_cons.2 ⟨h0 _ rfl, ih hc.2 fun s' hs' => Option.some.inj hs' ▸ (mem_succB.1 hc.1).2⟩

theorem mem_initB {s : σ} : s ∈ M.initB ↔ s ∈ M.init ∧ M.inB s = true := by
  simp [initB, List.mem_filter]

inductive PathTo (M : Sys σ α) : List σ → σ → Prop
  | single {s} : s ∈ M.initB → PathTo M [s] s
  | snoc {p u t} : PathTo M p u → t ∈ M.succB u → PathTo M (p ++ [t]) t

theorem PathTo.isPath {p : List σ} {s : σ} (h : M.PathTo p s) : M.IsPath p ∧ p.getLast? = some s := by
  induction h with
  | single hs => exact ⟨isPath_singleton hs, rfl⟩
  | snoc _ ht ih => exact ⟨isPath_append_one ih.1 ih.2 ht, List.getLast?_concat⟩

theorem PathTo.append_chain : ∀ (rest : List σ) {q : List σ} {u s : σ}, M.PathTo q u → M.Chain (u :: rest) →
    (u :: rest).getLast? = some s → M.PathTo (q ++ rest) s
  | [], q, _, _, hq, _, hl => by
    cases hl
    rwa [List.append_nil]
  | t :: rest, q, _, _, hq, hc, hl => by
    rw [List.append_cons]
    exact append_chain rest (hq.snoc hc.1) hc.2 (List.getLast?_cons_cons.symm.trans hl)

theorem pathTo_iff {p : List σ} {s : σ} : M.PathTo p s ↔ M.IsPath p ∧ p.getLast? = some s :=
  ⟨PathTo.isPath, fun ⟨⟨_, rest, e, hx, hc⟩, hl⟩ => by
    subst e
    exact (PathTo.single hx).append_chain rest hc hl⟩

theorem PathTo.reach {p : List σ} {s : σ} (h : M.PathTo p s) : M.Reach s := by
  induction h with
  | single hs => exact .init hs
  | snoc _ ht ih => exact .step ih ht

theorem PathTo.prefix {p : List σ} {s : σ} (h : M.PathTo p s) : ∀ x ∈ p, ∃ q, M.PathTo q x ∧ q <+: p := by
  induction h with
  | single hs =>
    intro x hx
    cases List.mem_singleton.1 hx
    exact ⟨_, .single hs, List.prefix_rfl⟩
  | snoc hp ht ih =>
    intro x hx
    rcases List.mem_append.1 hx with h | h
    · obtain ⟨q, hq, hpre⟩ := ih x h
      exact ⟨q, hq, List.prefix_append_of_prefix hpre⟩
    · cases List.mem_singleton.1 h
      exact ⟨_, .snoc hp ht, List.prefix_rfl⟩

theorem PathTo.length_pos {p : List σ} {s : σ} (h : M.PathTo p s) : 0 < p.length :=
  List.length_pos_iff.2 (isPath_ne_nil h.isPath.1)

theorem PathTo.mem_dropLast_or_eq {p : List σ} {s y : σ} (h : M.PathTo p s) (hy : y ∈ p) : y ∈ p.dropLast ∨ y = s := by
  cases h with
  | single _ => exact Or.inr (List.mem_singleton.1 hy)
  | snoc _ _ =>
    rw [List.dropLast_concat]
    exact (List.mem_append.1 hy).imp_right List.mem_singleton.1

theorem PathTo.succ_mem {p : List σ} {s : σ} (h : M.PathTo p s) : ∀ y ∈ p.dropLast, ∃ t ∈ M.succB y, t ∈ p := by
  induction h with
  | single _ => exact fun y hy => nomatch hy
  | snoc hq ht ih =>
    rw [List.dropLast_concat]
    intro y hy
    rcases hq.mem_dropLast_or_eq hy with h | rfl
    · obtain ⟨t', ht', hm⟩ := ih y h
      exact ⟨t', ht', List.mem_append_left _ hm⟩
    · exact ⟨_, ht, List.mem_append_right _ List.mem_cons_self⟩

theorem reach_of_isPath {p : List σ} (hp : M.IsPath p) : ∀ s ∈ p, M.Reach s := fun s hs =>
  let ⟨_, hq, _⟩ := (pathTo_iff.2 ⟨hp, List.getLast?_eq_some_getLast (isPath_ne_nil hp)⟩).prefix s hs
  hq.reach

theorem reach_last_of_isPath {p : List σ} {s : σ} (hp : M.IsPath p) (hl : p.getLast? = some s) : M.Reach s :=
  (pathTo_iff.2 ⟨hp, hl⟩).reach

theorem exists_pathTo_of_reach {s : σ} (h : M.Reach s) : ∃ p, M.PathTo p s := by
  induction h with
  | init h => exact ⟨_, .single h⟩
  | step _ ht ih => exact ih.elim fun _ hp => ⟨_, hp.snoc ht⟩

end SR.Sys
