import SR.Proofs.Checker.Stages
/-!
Eventually-bits invariant: a set bit `i` of a job means that no state on the job's path evaluated so far
satisfies condition `i`; hence every recorded eventually-discovery is a path on which the condition never
holds and whose last state has no in-boundary successor.
(`stepEvalProp`, like the checkers, clears the bit of a property it skips for having a discovery: DESIGN.md, F4.)
-/
namespace SR.Checker
open SR

section
variable {σ κ α : Type} [DecidableEq κ]
variable (P : Params σ κ α)

def Avoids (pr : Prop' σ) (p : List σ) : Prop := ∀ t ∈ p, pr.cond t = false

/-- what a job inherits: the bits speak of the ancestors, its own state is not evaluated yet -/
def EbAnc (j : Job σ) : Prop :=
  ∀ i ∈ j.ebits, ∀ pr, P.props[i]? = some pr → Avoids pr j.path.dropLast

/-- the bits below `k`, the properties the job's own state has been evaluated for, speak of the whole path -/
def EbUpTo (k : Nat) (j : Job σ) : Prop :=
  ∀ i ∈ j.ebits, i < k → ∀ pr, P.props[i]? = some pr → Avoids pr j.path

def PhaseOk (a : Active σ) : Prop :=
  match a.phase with
  | .props k _ => EbAnc P a.job ∧ EbUpTo P k a.job
  | .expanding _ => EbUpTo P P.props.length a.job
  | .recording _ => EbUpTo P P.props.length a.job

def EvDisc (e : Nat × List σ) : Prop :=
  ∀ pr, P.props[e.1]? = some pr → pr.exp = .eventually → Avoids pr e.2 ∧ ∃ t, e.2.getLast? = some t ∧ P.M.succB t = []

/-- `Nodup`: `erase` removes one occurrence, so a cleared bit is gone only if it occurred once -/
abbrev EInv : St σ κ → Prop :=
  Stages (fun _ j => j.ebits.Nodup ∧ EbAnc P j) (fun _ a => a.job.ebits.Nodup ∧ PhaseOk P a) (fun _ _ => True) (EvDisc P)

variable {P}

theorem initEbits_nodup (props : List (Prop' σ)) : (initEbits props).Nodup := by
  unfold initEbits
  exact List.nodup_range.sublist List.filter_sublist

theorem einv_init : EInv P (init P.M P.props P.key) := by
  refine ⟨fun j hj => ?_, List.forall_mem_nil _, List.forall_mem_nil _, List.forall_mem_nil _⟩
  obtain ⟨s, _, rfl⟩ := mem_init_frontier hj
  exact ⟨initEbits_nodup _, fun _ _ _ _ _ ht => nomatch ht⟩

theorem avoids_of_dropLast {pr : Prop' σ} {p : List σ} {s : σ} (hl : p.getLast? = some s)
    (h1 : Avoids pr p.dropLast) (h2 : pr.cond s = false) : Avoids pr p := by
  intro t ht
  have hne : p ≠ [] := fun e => by simp [e] at hl
  rw [← List.dropLast_concat_getLast hne, List.mem_append, List.mem_singleton] at ht
  rcases ht with ht | rfl
  · exact h1 t ht
  · exact (Option.some.inj ((List.getLast?_eq_some_getLast hne).symm.trans hl)) ▸ h2

theorem avoids_dropLast {pr : Prop' σ} {p : List σ} (h : Avoids pr p) : Avoids pr p.dropLast :=
  fun t ht => h t (List.dropLast_subset _ ht)

theorem phaseOk_erase {j : Job σ} {i : Nat} (hN : j.ebits.Nodup) (hanc : EbAnc P j) (hupto : EbUpTo P i j)
    (aw : Bool) : PhaseOk P ⟨{ j with ebits := j.ebits.erase i }, .props (i+1) aw⟩ := by
  refine ⟨fun k hk => hanc k (List.mem_of_mem_erase hk), fun k hk hlt => ?_⟩
  have hk' := (List.Nodup.mem_erase_iff hN).1 hk
  exact hupto k hk'.2 (Nat.lt_of_le_of_ne (Nat.le_of_lt_succ hlt) hk'.1)

theorem phaseOk_next {j : Job σ} {i : Nat} (hanc : EbAnc P j) (hupto : EbUpTo P i j)
    (hi : i ∈ j.ebits → ∀ pr, P.props[i]? = some pr → Avoids pr j.path) (aw : Bool) :
    PhaseOk P ⟨j, .props (i+1) aw⟩ := by
  refine ⟨hanc, fun k hk hlt => ?_⟩
  by_cases hki : k = i
  · exact hki ▸ hi (hki ▸ hk)
  · exact hupto k hk (Nat.lt_of_le_of_ne (Nat.le_of_lt_succ hlt) hki)

theorem einv_laws :
    Stages.Laws P (fun _ j => j.ebits.Nodup ∧ EbAnc P j) (fun _ a => a.job.ebits.Nodup ∧ PhaseOk P a) (fun _ _ => True)
      (EvDisc P) where
  mono _ _ _ := ⟨fun _ h => h, fun _ h => h, fun _ h => h⟩
  take _ _ h := ⟨h.1, h.2, fun _ _ hi => absurd hi (Nat.not_lt_zero _)⟩
  work {s _ _ j _ _ _} hs ham h hE hw := by
    obtain ⟨hN, hok⟩ := h
    have hjo : JobOk P j := hs.ac _ ham
    -- a property that is not an eventually-property has no bit
    have nobit : ∀ {i p}, P.props[i]? = some p → p.exp ≠ .eventually →
        i ∈ j.ebits → ∀ pr, P.props[i]? = some pr → Avoids pr j.path :=
      fun hp hne hi pr hpr => absurd (hjo.eb _ hi pr hpr) (Option.some.inj (hp.symm.trans hpr) ▸ hne)
    cases hw with
    | skip | evHolds => exact ⟨⟨hN.erase _, phaseOk_erase hN hok.1 hok.2 _⟩, hE⟩
    | found hp hw =>
      have hne := ne_eventually_of_witness hw
      refine ⟨⟨hN, phaseOk_next hok.1 hok.2 (nobit hp hne) _⟩, fun e he pr hpr hev => ?_⟩
      rcases mem_discInsert he with rfl | he
      · exact absurd hev (Option.some.inj (hp.symm.trans hpr) ▸ hne)
      · exact hE e he pr hpr hev
    | pass hp hne => exact ⟨⟨hN, phaseOk_next hok.1 hok.2 (nobit hp hne) _⟩, hE⟩
    | evFails hp _ hc =>
      refine ⟨⟨hN, phaseOk_next hok.1 hok.2 (fun hi pr hpr => ?_) _⟩, hE⟩
      cases hp.symm.trans hpr
      exact avoids_of_dropLast hjo.last (hok.1 _ hi _ hp) hc
    | terminal hi | expand hi => exact ⟨⟨hN, fun k hk hlt => hok.2 k hk (Nat.lt_of_lt_of_le hlt hi)⟩, hE⟩
    | record hi hm =>
      refine ⟨⟨hN, hok⟩, fun e he pr hpr hev => ?_⟩
      rcases mem_discInsert he with rfl | he
      · exact ⟨hok _ hm hi pr hpr, j.st, hjo.last, hs.recTerm _ ham _ rfl⟩
      · exact hE e he pr hpr hev
    | noRecord => exact ⟨⟨hN, hok⟩, hE⟩
  next _ j _ _ h := ⟨h, h.1, fun k hk pr hpr => by
    simp only [List.dropLast_concat]
    exact (show EbUpTo P P.props.length j from h.2) k hk (lt_length_of_getElem? hpr) pr hpr⟩
  retire _ _ _ _ := trivial

theorem einv_run (cs : List Choice) : EInv P (run P cs) :=
  einv_laws.run einv_init cs

end
end SR.Checker
