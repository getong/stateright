import SR.Proofs.Checker.Spec
import SR.Proofs.Checker.Forest
import SR.Proofs.ListAux
/-!
Adequacy of the executable graph oracles of `SR/Checker/Spec.lean` on well-formed graphs.  The oracles extend paths at their
end, hence `Sys.PathTo` (`Paths.lean`) throughout.
-/
namespace SR.Sys
variable {σ α : Type} {M : Sys σ α}

def ReachIn (M : Sys σ α) (k : Nat) (s : σ) : Prop := ∃ p, M.PathTo p s ∧ p.length = k + 1

theorem reachIn_zero {s : σ} : M.ReachIn 0 s ↔ s ∈ M.initB := by
  constructor
  · rintro ⟨p, hp, hlen⟩
    cases hp with
    | single h => exact h
    | snoc hq _ =>
      have := hq.length_pos
      rw [List.length_append, List.length_singleton] at hlen
      omega
  · exact fun h => ⟨[s], .single h, rfl⟩

theorem reachIn_succ {k : Nat} {t : σ} : M.ReachIn (k + 1) t ↔ ∃ s, M.ReachIn k s ∧ t ∈ M.succB s := by
  constructor
  · rintro ⟨p, hp, hlen⟩
    cases hp with
    | single _ => cases hlen
    | snoc hq ht => exact ⟨_, ⟨_, hq, by simpa using hlen⟩, ht⟩
  · rintro ⟨s, ⟨q, hq, hlen⟩, ht⟩
    exact ⟨q ++ [t], .snoc hq ht, by simp [hlen]⟩

def FirstAt (M : Sys σ α) (d : Nat) (s : σ) : Prop := M.ReachIn d s ∧ ∀ j, M.ReachIn j s → d ≤ j

theorem FirstAt.reach {d : Nat} {s : σ} (h : M.FirstAt d s) : M.Reach s :=
  let ⟨_, hp, _⟩ := h.1
  hp.reach

theorem firstAt_zero {s : σ} : M.FirstAt 0 s ↔ s ∈ M.initB :=
  ⟨fun h => reachIn_zero.1 h.1, fun h => ⟨reachIn_zero.2 h, fun _ _ => Nat.zero_le _⟩⟩

theorem FirstAt.unique {d d' : Nat} {s : σ} (h : M.FirstAt d s) (h' : M.FirstAt d' s) : d = d' :=
  Nat.le_antisymm (h.2 d' h'.1) (h'.2 d h.1)

theorem exists_firstAt {s : σ} (h : M.Reach s) : ∃ d, M.FirstAt d s := by
  have least : ∀ k, M.ReachIn k s → ∃ d, M.FirstAt d s := by
    intro k
    induction k using Nat.strongRecOn with
    | _ k ih =>
      intro hk
      by_cases h : ∃ j, j < k ∧ M.ReachIn j s
      · obtain ⟨j, hj, hjs⟩ := h
        exact ih j hj hjs
      · exact ⟨k, hk, fun j hjs => Nat.le_of_not_lt fun hj => h ⟨j, hj, hjs⟩⟩
  obtain ⟨p, hp⟩ := exists_pathTo_of_reach h
  have := hp.length_pos
  exact least (p.length - 1) ⟨p, hp, by omega⟩

theorem firstAt_succ {d : Nat} {t : σ} :
    M.FirstAt (d + 1) t ↔ (∃ s, M.FirstAt d s ∧ t ∈ M.succB s) ∧ ∀ j, j ≤ d → ¬ M.ReachIn j t := by
  constructor
  · rintro ⟨h1, h2⟩
    obtain ⟨s, hs, hts⟩ := reachIn_succ.1 h1
    refine ⟨⟨s, ⟨hs, fun j hjs => Nat.le_of_succ_le_succ (h2 _ (reachIn_succ.2 ⟨s, hjs, hts⟩))⟩, hts⟩, ?_⟩
    exact fun j hj hjt => Nat.not_succ_le_self d (Nat.le_trans (h2 j hjt) hj)
  · rintro ⟨⟨s, hs, hts⟩, h2⟩
    exact ⟨reachIn_succ.2 ⟨s, hs.1, hts⟩, fun j hjt => Nat.lt_of_not_le fun hle => h2 j hle hjt⟩

theorem not_firstAt_of_le {d m : Nat} (hempty : ∀ x, ¬ M.FirstAt d x) (hm : d ≤ m) : ∀ x, ¬ M.FirstAt m x := by
  induction hm with
  | refl => exact hempty
  | step _ ih =>
    intro x hx
    obtain ⟨⟨y, hy, _⟩, _⟩ := firstAt_succ.1 hx
    exact ih y hy

/-- a state first reached after `d` steps comes with `d + 1` distinct reachable states, one from each layer up to its own -/
theorem firstAt_lt {M : Sys Nat α} {n : Nat} (hb : ∀ x, M.Reach x → x < n) : ∀ {d s}, M.FirstAt d s → d < n := by
  have key : ∀ d s, M.FirstAt d s → ∃ l : List Nat, l.Nodup ∧ l.length = d + 1 ∧ ∀ x ∈ l, ∃ j, j ≤ d ∧ M.ReachIn j x := by
    intro d
    induction d with
    | zero => exact fun s h => ⟨[s], by simp, rfl, fun x hx => ⟨0, Nat.le_refl _, List.mem_singleton.1 hx ▸ h.1⟩⟩
    | succ d ih =>
      intro t h
      obtain ⟨⟨s, hs, _⟩, hnew⟩ := firstAt_succ.1 h
      obtain ⟨l, hnd, hlen, hl⟩ := ih s hs
      refine ⟨t :: l, List.nodup_cons.2 ⟨fun ht => ?_, hnd⟩, by simp [hlen], fun x hx => ?_⟩
      · obtain ⟨j, hj, hjt⟩ := hl t ht
        exact hnew j hj hjt
      · rcases List.mem_cons.1 hx with rfl | hx
        · exact ⟨d + 1, Nat.le_refl _, h.1⟩
        · exact (hl x hx).imp fun j hj => ⟨Nat.le_succ_of_le hj.1, hj.2⟩
  intro d s h
  obtain ⟨l, hnd, hlen, hl⟩ := key d s h
  have := nodup_lt_length_le hnd fun x hx => let ⟨_, _, _, hp, _⟩ := hl x hx; hb x hp.reach
  omega

theorem firstAt_iff_path {d : Nat} {s : σ} :
    M.FirstAt d s ↔ (∃ p, M.IsPath p ∧ p.getLast? = some s ∧ p.length = d + 1) ∧
      ∀ q, M.IsPath q → q.getLast? = some s → d + 1 ≤ q.length := by
  unfold FirstAt ReachIn
  simp only [pathTo_iff, and_assoc]
  refine and_congr_right fun _ => ⟨fun h q hq hl => ?_, fun h j ⟨q, hq, hl, hlen⟩ => ?_⟩
  · have := (pathTo_iff.2 ⟨hq, hl⟩).length_pos
    have := h (q.length - 1) ⟨q, hq, hl, by omega⟩
    omega
  · have := h q hq hl
    omega

end SR.Sys

namespace SR.Checker
open SR

namespace Graph
variable (g : Graph)

theorem nodup_closeStep (k : List Nat) (h : k.Nodup) : (g.closeStep k).Nodup := by
  rw [closeStep_eq]
  exact nodup_foldl_insertNew _ _ h

theorem nodup_closeN (n : Nat) (k : List Nat) (h : k.Nodup) : (g.closeN n k).Nodup := by
  induction n generalizing k with
  | zero => exact h
  | succ n ih => exact ih _ (nodup_closeStep g k h)

theorem nodup_reachList : g.reachList.Nodup := nodup_closeN g _ _ (nodup_eraseDups _)

theorem closeN_succ (n : Nat) (k : List Nat) : g.closeN (n + 1) k = g.closeStep (g.closeN n k) := by
  induction n generalizing k with
  | zero => rfl
  | succ n ih => exact ih _

theorem mem_closeN_of_reachIn : ∀ {i x}, g.toSys.ReachIn i x → ∀ k, i ≤ k → x ∈ g.closeN k g.initB.eraseDups := by
  intro i
  induction i with
  | zero => exact fun h k _ => closeN_mono g k _ _ (List.mem_eraseDups.2 (Sys.reachIn_zero.1 h))
  | succ i ih =>
    intro x h k hk
    obtain ⟨s, hs, hxs⟩ := Sys.reachIn_succ.1 h
    obtain ⟨k, rfl⟩ := Nat.exists_eq_add_one_of_ne_zero (Nat.ne_of_gt (Nat.lt_of_lt_of_le (Nat.succ_pos i) hk))
    rw [closeN_succ, mem_closeStep]
    exact Or.inr ⟨s, ih hs k (Nat.le_of_succ_le_succ hk), hxs⟩

/-- `g.n` rounds suffice: a reachable state is first reached after fewer than `g.n` steps (`firstAt_lt`) -/
theorem reachList_iff_wf (hwf : g.WF) (x : Nat) : x ∈ g.reachList ↔ g.toSys.Reach x := by
  refine ⟨reachList_sound g x, fun hr => ?_⟩
  obtain ⟨d, hd⟩ := Sys.exists_firstAt hr
  exact mem_closeN_of_reachIn g hd.1 g.n (Nat.le_of_lt (Sys.firstAt_lt (fun x => Graph.reach_lt hwf) hd))

theorem reachList_any {g : Graph} (hwf : g.WF) (f : Nat → Bool) :
    g.reachList.any f = true ↔ ∃ t, g.toSys.Reach t ∧ f t = true := by
  rw [List.any_eq_true]
  exact ⟨fun ⟨t, ht, h⟩ => ⟨t, (reachList_iff_wf g hwf t).1 ht, h⟩, fun ⟨t, ht, h⟩ => ⟨t, (reachList_iff_wf g hwf t).2 ht, h⟩⟩

structure BfsInv (d : Nat) (seen layer : List Nat) : Prop where
  lay : ∀ x, x ∈ layer ↔ g.toSys.FirstAt d x
  sn : ∀ x, x ∈ seen ↔ ∃ j, j ≤ d ∧ g.toSys.ReachIn j x

theorem bfsInv_init : g.BfsInv 0 g.initB.eraseDups g.initB.eraseDups := by
  refine ⟨fun x => by rw [List.mem_eraseDups, Sys.firstAt_zero, initB], fun x => ?_⟩
  rw [List.mem_eraseDups, initB, ← Sys.reachIn_zero]
  exact ⟨fun h => ⟨0, Nat.le_refl _, h⟩, fun ⟨j, hj, h⟩ => Nat.le_zero.1 hj ▸ h⟩

/-- the `next` of `distOf.go`; `distOf_go_iff` relies on the loop body being this very expression -/
def nextLayer (seen layer : List Nat) : List Nat := (layer.flatMap g.succB).eraseDups.filter (fun t => !seen.contains t)

theorem mem_nextLayer (seen layer : List Nat) (x : Nat) :
    x ∈ g.nextLayer seen layer ↔ (∃ y ∈ layer, x ∈ g.toSys.succB y) ∧ x ∉ seen := by
  simp [nextLayer, List.mem_filter, List.mem_eraseDups, List.mem_flatMap, succB]

theorem bfsInv_step {d : Nat} {seen layer : List Nat} (inv : g.BfsInv d seen layer) :
    g.BfsInv (d + 1) (seen ++ g.nextLayer seen layer) (g.nextLayer seen layer) := by
  have hlayer : ∀ x, x ∈ g.nextLayer seen layer ↔ g.toSys.FirstAt (d + 1) x := fun x => by
    simp only [mem_nextLayer, Sys.firstAt_succ, inv.lay, inv.sn, not_exists, not_and]
  refine ⟨hlayer, fun x => ?_⟩
  rw [List.mem_append, inv.sn, hlayer]
  constructor
  · rintro (⟨j, hj, hjx⟩ | h)
    · exact ⟨j, Nat.le_succ_of_le hj, hjx⟩
    · exact ⟨d + 1, Nat.le_refl _, h.1⟩
  · rintro ⟨j, hj, hjx⟩
    by_cases h : ∃ j, j ≤ d ∧ g.toSys.ReachIn j x
    · exact Or.inl h
    · refine Or.inr ⟨Nat.le_antisymm hj (Nat.lt_of_not_le fun hle => h ⟨j, hle, hjx⟩) ▸ hjx, fun j' hj' => ?_⟩
      exact Nat.lt_of_not_le fun hle => h ⟨j', hle, hj'⟩

/-- `g.n + 2` is the fuel `distOf` starts its loop with: no state is first reached that late (`firstAt_lt`) -/
theorem distOf_go_iff (hwf : g.WF) (s : Nat) : ∀ (fuel d : Nat) (seen layer : List Nat), g.BfsInv d seen layer →
    g.n ≤ fuel + d → ∀ d', (distOf.go g s fuel d seen layer = some d' ↔ d ≤ d' ∧ g.toSys.FirstAt d' s) := by
  intro fuel
  induction fuel with
  | zero =>
    intro d seen layer _ hf d'
    refine ⟨nofun, fun h => ?_⟩
    have := Sys.firstAt_lt (fun x => Graph.reach_lt hwf) h.2
    omega
  | succ fuel ih =>
    intro d seen layer inv hf d'
    unfold distOf.go
    by_cases hin : layer.contains s = true
    · have hl := (inv.lay s).1 (by simpa using hin)
      rw [if_pos hin, Option.some.injEq]
      exact ⟨fun e => e ▸ ⟨Nat.le_refl _, hl⟩, fun h => hl.unique h.2⟩
    · have hns : ¬ g.toSys.FirstAt d s := fun h => hin (by simpa using (inv.lay s).2 h)
      rw [if_neg hin]
      by_cases hem : layer.isEmpty = true
      · have hnil : layer = [] := by simpa using hem
        have hempty : ∀ x, ¬ g.toSys.FirstAt d x := fun x hx => by simpa [hnil] using (inv.lay x).2 hx
        rw [if_pos hem]
        exact ⟨nofun, fun h => absurd h.2 (Sys.not_firstAt_of_le hempty h.1 s)⟩
      · rw [if_neg hem]
        refine (ih _ _ _ (bfsInv_step g inv) (by omega) d').trans ?_
        exact and_congr_left fun h => ⟨Nat.le_of_succ_le, fun hle => Nat.lt_of_le_of_ne hle fun e => hns (e ▸ h)⟩

theorem distOf_some_iff_firstAt (hwf : g.WF) (s d : Nat) : g.distOf s = some d ↔ g.toSys.FirstAt d s :=
  (distOf_go_iff g hwf s _ 0 _ _ (bfsInv_init g) (by omega) d).trans (and_iff_right (Nat.zero_le d))

theorem preds_zero_iff (hwf : g.WF) (t : Nat) :
    (g.reachList.filter fun s => (g.succB s).contains t).length = 0 ↔ ∀ s, g.toSys.Reach s → t ∉ g.toSys.succB s := by
  simp [reachList_iff_wf g hwf, succB]

theorem preds_one_iff (hwf : g.WF) (t : Nat) :
    (g.reachList.filter fun s => (g.succB s).contains t).length = 1 ↔
      ∃ u, g.toSys.Reach u ∧ t ∈ g.toSys.succB u ∧ ∀ s, g.toSys.Reach s → t ∈ g.toSys.succB s → s = u := by
  simp [filter_length_one_iff (nodup_reachList g), reachList_iff_wf g hwf, succB]

theorem isForest_iff_predOK (hwf : g.WF) : g.isForest = true ↔ g.initB.Nodup ∧ PredOK g.toSys := by
  -- after the two `simp only`: the initial states are listed once, and a reachable state has no reachable predecessor if
  -- it is initial, exactly one otherwise
  unfold isForest
  simp only [Bool.and_eq_true, beq_iff_eq, eraseDups_length_eq_iff, List.all_eq_true, reachList_iff_wf g hwf,
    apply_ite (· = true), preds_zero_iff g hwf, preds_one_iff g hwf]
  simp only [List.contains_eq_mem, decide_eq_true_eq]
  refine and_congr_right fun _ => ⟨fun h => ⟨fun s t hs hts hti => ?_, fun s s' t hs hs' hts hts' => ?_⟩, fun h t ht => ?_⟩
  · have := h t (.init hti)
    rw [if_pos (show t ∈ g.initB from hti)] at this
    exact this s hs hts
  · have := h t (.step hs hts)
    by_cases hti : t ∈ g.initB
    · rw [if_pos hti] at this
      exact absurd hts (this s hs)
    · rw [if_neg hti] at this
      obtain ⟨u, _, _, huniq⟩ := this
      rw [huniq s hs hts, huniq s' hs' hts']
  · by_cases hti : t ∈ g.initB
    · rw [if_pos hti]
      exact fun s hs hts => h.root s t hs hts hti
    · rw [if_neg hti]
      cases ht with
      | init hi => exact absurd hi hti
      | step hu htu => exact ⟨_, hu, htu, fun s hs hts => h.uniq _ _ _ hs hu hts htu⟩

/-- the subgraph `avoidReach` explores (`g.avoidReach c` unfolds to `(g.sub c).reachList`): states satisfying `c` are
    pushed outside the boundary -/
def sub (c : Nat → Bool) : Graph :=
  { g with bnd := (List.range g.n).map fun s => g.bnd.getD s false && !c s }

/-- `WF` reads `n`, `init` and `adj`, which `sub` leaves as they are -/
theorem sub_wf {c : Nat → Bool} (hwf : g.WF) : (g.sub c).WF := hwf

theorem sub_inB (c : Nat → Bool) (s : Nat) :
    (g.sub c).toSys.inB s = true ↔ s < g.n ∧ g.toSys.inB s = true ∧ c s = false := by
  simp only [sub, toSys, List.getD_eq_getElem?_getD, List.getElem?_map]
  by_cases hs : s < g.n <;> simp [hs]

theorem mem_sub_succB {c : Nat → Bool} (hwf : g.WF) {s t : Nat} (h : t ∈ g.toSys.succB s) (hc : c t = false) :
    t ∈ (g.sub c).toSys.succB s :=
  Sys.mem_succB.2 ⟨(Sys.mem_succB.1 h).1, (sub_inB g c t).2 ⟨Graph.target_lt hwf h, (Sys.mem_succB.1 h).2, hc⟩⟩

theorem mem_sub_initB {c : Nat → Bool} (hwf : g.WF) {s : Nat} (h : s ∈ g.toSys.initB) (hc : c s = false) :
    s ∈ (g.sub c).toSys.initB :=
  Sys.mem_initB.2 ⟨(Sys.mem_initB.1 h).1, (sub_inB g c s).2 ⟨hwf.1 s (Sys.mem_initB.1 h).1, (Sys.mem_initB.1 h).2, hc⟩⟩

theorem sub_reach {c : Nat → Bool} (hwf : g.WF) {p : List Nat} {s : Nat} (hp : g.toSys.PathTo p s)
    (hav : ∀ t ∈ p, c t = false) : (g.sub c).toSys.Reach s := by
  induction hp with
  | single hs => exact .init (mem_sub_initB g hwf hs (hav _ List.mem_cons_self))
  | snoc _ ht ih =>
    exact .step (ih fun t ht => hav t (List.mem_append_left _ ht))
      (mem_sub_succB g hwf ht (hav _ (List.mem_append_right _ List.mem_cons_self)))

/-- what a round of the greatest fixpoint of `canAvoidForever` demands of `s`, with `S` the states kept so far -/
def AvoidStep (c : Nat → Bool) (S : Nat → Prop) (s : Nat) : Prop :=
  g.toSys.succB s = [] ∨ ∃ t ∈ g.toSys.succB s, c t = false ∧ S t

theorem AvoidStep.mono {c : Nat → Bool} {S S' : Nat → Prop} {s : Nat} (hS : ∀ t, S t → S' t)
    (h : g.AvoidStep c S s) : g.AvoidStep c S' s :=
  h.imp_right fun ⟨t, ht, hct, hSt⟩ => ⟨t, ht, hct, hS t hSt⟩

theorem gfp_test_iff (c : Nat → Bool) (keep : List Nat) (s : Nat) :
    ((g.succB s).isEmpty || (g.succB s).any fun t => !c t && keep.contains t) = true ↔
      g.AvoidStep c (· ∈ keep) s := by
  simp [AvoidStep, succB, List.isEmpty_iff]

theorem gfp_spec (c : Nat → Bool) : ∀ (fuel : Nat) (keep : List Nat), keep.length < fuel →
    (∀ s ∈ canAvoidForever.gfp g c fuel keep, g.AvoidStep c (· ∈ canAvoidForever.gfp g c fuel keep) s) ∧
    (∀ S : Nat → Prop, (∀ s, S s → s ∈ keep) → (∀ s, S s → g.AvoidStep c S s) →
      ∀ s, S s → s ∈ canAvoidForever.gfp g c fuel keep) := by
  intro fuel
  induction fuel with
  | zero => exact fun keep h => absurd h (Nat.not_lt_zero _)
  | succ fuel ih =>
    intro keep hlen
    rw [canAvoidForever.gfp]
    split
    · rename_i he
      have hall := List.length_filter_eq_length_iff.1 (beq_iff_eq.1 he)
      exact ⟨fun s hs => (gfp_test_iff g c keep s).1 (hall s hs), fun S h1 _ => h1⟩
    · rename_i he
      have hlt := Nat.lt_of_le_of_ne (List.length_filter_le _ _) fun e => he (beq_iff_eq.2 e)
      obtain ⟨h2, h3⟩ := ih _ (Nat.lt_of_lt_of_le hlt (Nat.le_of_lt_succ hlen))
      -- a set inside `keep` whose states pass the test with respect to itself survives the round
      exact ⟨h2, fun S hS1 hS2 => h3 S (fun x hx =>
        List.mem_filter.2 ⟨hS1 x hx, (gfp_test_iff g c keep x).2 ((hS2 x hx).mono g hS1)⟩) hS2⟩

theorem canAvoidForever_eq (c : Nat → Bool) :
    g.canAvoidForever c = true ↔
      ∃ s ∈ g.toSys.initB, c s = false ∧ s ∈ canAvoidForever.gfp g c (g.n + 1) (g.avoidReach c) := by
  unfold canAvoidForever
  simp [initB, List.any_eq_true]

/-- the fuel `g.n + 1` of the greatest-fixpoint loop suffices (the hypothesis `keep.length < fuel` of `gfp_spec`): every round
    but the last removes a state -/
theorem avoidReach_length (hwf : g.WF) (c : Nat → Bool) : (g.avoidReach c).length < g.n + 1 := by
  -- `sub` changes `bnd` only: `(g.sub c).n` is `g.n`
  have : (g.avoidReach c).length ≤ (g.sub c).n :=
    nodup_lt_length_le (nodup_reachList (g.sub c))
      (fun x hx => Graph.reach_lt (sub_wf g hwf) (reachList_sound (g.sub c) x hx))
  exact Nat.lt_succ_of_le this

/-- from a state of a set all of whose states pass the test, an avoiding path runs on inside the set until it ends or
    meets itself; it stops, because a duplicate-free path has at most `g.n` states -/
theorem extend_avoid (hwf : g.WF) {c : Nat → Bool} {S : Nat → Prop} (hS : ∀ s, S s → g.AvoidStep c S s) :
    ∀ (k : Nat) (p : List Nat) (s : Nat), g.toSys.PathTo p s → (∀ t ∈ p, c t = false) → S s → p.Nodup →
    g.n + 1 ≤ p.length + k →
    ∃ p' s', g.toSys.PathTo p' s' ∧ (∀ t ∈ p', c t = false) ∧ (g.toSys.succB s' = [] ∨ s' ∈ p'.dropLast) := by
  intro k
  induction k with
  | zero =>
    intro p s hp _ _ hnd hlen
    have := nodup_lt_length_le hnd fun x hx => Graph.reach_lt hwf (Sys.reach_of_isPath hp.isPath.1 x hx)
    omega
  | succ k ih =>
    intro p s hp hav hs hnd hlen
    rcases hS s hs with hterm | ⟨t, ht, hct, hts⟩
    · exact ⟨p, s, hp, hav, Or.inl hterm⟩
    · have hav' : ∀ x ∈ p ++ [t], c x = false := fun x hx =>
        (List.mem_append.1 hx).elim (hav x) fun h => List.mem_singleton.1 h ▸ hct
      by_cases htp : t ∈ p
      · exact ⟨p ++ [t], t, .snoc hp ht, hav', Or.inr (by simpa using htp)⟩
      · refine ih _ t (.snoc hp ht) hav' hts (nodup_snoc hnd htp) ?_
        rw [List.length_append, List.length_singleton]
        omega

/-- `s ∈ p.dropLast`: the path ends in a state it has passed before (a lasso: it loops forever) -/
theorem canAvoidForever_iff (hwf : g.WF) (c : Nat → Bool) :
    g.canAvoidForever c = true ↔ ∃ p s, g.toSys.PathTo p s ∧ (∀ t ∈ p, c t = false) ∧
      (g.toSys.succB s = [] ∨ s ∈ p.dropLast) := by
  obtain ⟨hpost, hgreatest⟩ := gfp_spec g c (g.n + 1) (g.avoidReach c) (avoidReach_length g hwf c)
  rw [canAvoidForever_eq]
  constructor
  · rintro ⟨s, hsi, hcs, hsg⟩
    exact extend_avoid g hwf hpost (g.n + 1) [s] s (.single hsi) (fun t ht => List.mem_singleton.1 ht ▸ hcs) hsg
      (by simp) (by omega)
  · rintro ⟨p, s, hpt, hav, hend⟩
    obtain ⟨x, rest, rfl, hx, _⟩ := hpt.isPath.1
    -- the states of the path are reachable in the avoiding subgraph, and each is terminal or followed by one of them
    refine ⟨x, hx, hav x List.mem_cons_self, hgreatest (· ∈ x :: rest) ?_ ?_ x List.mem_cons_self⟩
    · intro y hy
      obtain ⟨q, hq, hpre⟩ := hpt.prefix y hy
      exact (reachList_iff_wf (g.sub c) (sub_wf g hwf) y).2 (sub_reach g hwf hq fun t ht => hav t (hpre.subset ht))
    · have hstep : ∀ y ∈ (x :: rest).dropLast, g.AvoidStep c (· ∈ x :: rest) y := fun y hy =>
        let ⟨t, ht, htm⟩ := hpt.succ_mem y hy
        Or.inr ⟨t, ht, hav t htm, htm⟩
      intro y hy
      rcases hpt.mem_dropLast_or_eq hy with h | rfl
      · exact hstep y h
      · exact hend.elim Or.inl (hstep y)

end Graph
end SR.Checker
