import SR.Proofs.Checker.Eventually
/-!
Exactness on forests: if every state has at most one in-boundary path from an initial state, a job's bit `i` stays
set as long as its path avoids condition `i` (or `i` is discovered), so a terminal state at the end of an avoiding
path leaves a discovery.
-/
namespace SR.Checker
open SR

section
variable {σ κ α : Type} [DecidableEq κ]
variable (P : Params σ κ α)

/-- paths are state sequences (`IsPath`: in-boundary, from an initial state): a parallel edge or an initial state listed twice
    does not break it -/
def Forest (M : Sys σ α) : Prop :=
  ∀ q q', M.IsPath q → M.IsPath q' → q.getLast? = q'.getLast? → q = q'

section
variable {M : Sys σ α}

/-- the condition on predecessors that `isForest` tests, beside `initB.Nodup` (`isForest_iff_predOK` in
    `SpecAdequacy.lean`) -/
structure PredOK (M : Sys σ α) : Prop where
  root : ∀ s t, M.Reach s → t ∈ M.succB s → t ∉ M.initB
  uniq : ∀ s s' t, M.Reach s → M.Reach s' → t ∈ M.succB s → t ∈ M.succB s' → s = s'

theorem PredOK.pathTo_unique (h : PredOK M) {q : List σ} {t : σ} (hq : M.PathTo q t) :
    ∀ {q'}, M.PathTo q' t → q = q' := by
  induction hq with
  | single hs =>
    intro q' hq'
    cases hq' with
    | single _ => rfl
    | snoc hp' ht' => exact absurd hs (h.root _ _ hp'.reach ht')
  | snoc hp ht ih =>
    intro q' hq'
    cases hq' with
    | single hs' => exact absurd hs' (h.root _ _ hp.reach ht)
    | snoc hp' ht' =>
      cases h.uniq _ _ _ hp.reach hp'.reach ht ht'
      rw [ih hp']

theorem forest_iff_predOK : Forest M ↔ PredOK M := by
  constructor
  · intro hF
    constructor
    · intro s t hs hts hti
      obtain ⟨p, hp⟩ := Sys.exists_pathTo_of_reach hs
      have e : p ++ [t] = [] ++ [t] := hF _ _ (hp.snoc hts).isPath.1 (Sys.isPath_singleton hti) (by simp)
      exact Sys.isPath_ne_nil hp.isPath.1 (List.append_cancel_right e)
    · intro s s' t hs hs' hts hts'
      obtain ⟨p, hp⟩ := Sys.exists_pathTo_of_reach hs
      obtain ⟨p', hp'⟩ := Sys.exists_pathTo_of_reach hs'
      have e := hF _ _ (hp.snoc hts).isPath.1 (hp'.snoc hts').isPath.1 (by simp)
      have hl := hp.isPath.2
      rw [List.append_cancel_right e, hp'.isPath.2] at hl
      exact (Option.some.inj hl).symm
  · intro h q q' hq hq' hl
    have hs := List.getLast?_eq_some_getLast (Sys.isPath_ne_nil hq)
    exact h.pathTo_unique (Sys.pathTo_iff.2 ⟨hq, hs⟩) (Sys.pathTo_iff.2 ⟨hq', hl ▸ hs⟩)

theorem forest_no_cycle (hF : Forest M) {p : List σ} {s : σ} (hp : M.PathTo p s) : s ∉ p.dropLast := by
  intro hmem
  cases hp with
  | single _ => cases hmem
  | snoc hq ht =>
    -- the prefix that ends at the earlier occurrence is a second, shorter path to `s`
    rw [List.dropLast_concat] at hmem
    obtain ⟨q', hq', hpre⟩ := hq.prefix s hmem
    have hp := (hq.snoc ht).isPath
    have hlen := congrArg List.length (hF _ _ hq'.isPath.1 hp.1 (hq'.isPath.2.trans hp.2.symm))
    rw [List.length_append, List.length_singleton] at hlen
    have := hpre.length_le
    omega

end

/-- `k ≤ i`: property `i` is still ahead and the bit speaks of the ancestors; `i < k`: of the whole path.
    Recording: `r ≤ i` says that bit `i` has not been looked at yet.  An expanding state has successors (`SInv.expNe`), so
    when it retires into `done` the clause about terminal done states asks nothing of it. -/
def FPhase (i : Nat) (pr : Prop' σ) (a : Active σ) : Prop :=
  match a.phase with
  | .props k _ =>
      (Avoids pr a.job.path.dropLast → k ≤ i → i ∈ a.job.ebits) ∧ (Avoids pr a.job.path → i < k → i ∈ a.job.ebits)
  | .expanding _ => Avoids pr a.job.path → i ∈ a.job.ebits
  | .recording r => Avoids pr a.job.path → i ∈ a.job.ebits ∧ r ≤ i

def FDone (i : Nat) (pr : Prop' σ) (d : Disc σ) (u : σ) : Prop :=
  ∀ q, P.M.IsPath q → q.getLast? = some u → Avoids pr q → P.M.succB u = [] → hasDisc d i = true

/-- for one eventually-property, `pr`, the `i`-th: once it has a discovery nothing more is asked of the jobs -/
abbrev ForestInv (i : Nat) (pr : Prop' σ) : St σ κ → Prop :=
  Stages (fun d j => hasDisc d i = true ∨ (Avoids pr j.path.dropLast → i ∈ j.ebits))
    (fun d a => hasDisc d i = true ∨ FPhase i pr a) (FDone P i pr) (fun _ => True)

variable {P}

theorem forestInv_init (i : Nat) (pr : Prop' σ) (hpr : P.props[i]? = some pr) (hev : pr.exp = .eventually) :
    ForestInv P i pr (init P.M P.props P.key) := by
  refine ⟨?_, List.forall_mem_nil _, List.forall_mem_nil _, List.forall_mem_nil _⟩
  intro j hj
  obtain ⟨s, _, rfl⟩ := mem_init_frontier hj
  right
  intro _
  simp only [initEbits, List.mem_filter, List.mem_range]
  refine ⟨lt_length_of_getElem? hpr, ?_⟩
  rw [hpr]
  simp [hev]

theorem fphase_next {i k : Nat} {pr : Prop' σ} {d' : Disc σ} {j : Job σ} {aw aw' : Bool}
    {eb' : List Nat} (h : FPhase i pr ⟨j, .props k aw⟩) (hkeep : ∀ x ∈ j.ebits, x ≠ k → x ∈ eb')
    (hk : k = i → hasDisc d' i = true ∨ (Avoids pr j.path → i ∈ eb')) :
    hasDisc d' i = true ∨ FPhase i pr ⟨{ j with ebits := eb' }, .props (k+1) aw'⟩ := by
  by_cases hki : k = i
  · exact (hk hki).imp_right fun hb =>
      ⟨fun _ hle => absurd (hki ▸ hle) (Nat.not_succ_le_self _), fun hav _ => hb hav⟩
  · exact .inr ⟨fun hav hle => hkeep i (h.1 hav (Nat.le_of_succ_le hle)) (Nat.ne_of_gt hle), fun hav hlt =>
      hkeep i (h.2 hav (Nat.lt_of_le_of_ne (Nat.le_of_lt_succ hlt) (Ne.symm hki))) (Ne.symm hki)⟩

theorem forestInv_laws {i : Nat} {pr : Prop' σ} (hpr : P.props[i]? = some pr) (hev : pr.exp = .eventually) (hF : Forest P.M) :
    Stages.Laws P (fun d j => hasDisc d i = true ∨ (Avoids pr j.path.dropLast → i ∈ j.ebits))
      (fun d a => hasDisc d i = true ∨ FPhase i pr a) (FDone P i pr) (fun _ => True) where
  mono _ _ _ := ⟨fun _ h => h.imp_left hasDisc_insert_mono, fun _ h => h.imp_left hasDisc_insert_mono,
    fun _ h q hq hl hav ht => hasDisc_insert_mono (h q hq hl hav ht)⟩
  take _ _ h := h.imp_right fun h => ⟨fun hav _ => h hav, fun _ hlt => absurd hlt (Nat.not_lt_zero _)⟩
  work {s _ _ j _ _ _} hs ham hph _ hw := by
    refine ⟨?_, fun _ _ => trivial⟩
    rcases hph with hd | hph
    · rcases hw.disc_eq with rfl | ⟨_, rfl⟩
      · exact .inl hd
      · exact .inl (hasDisc_insert_mono hd)
    have hi : i < P.props.length := lt_length_of_getElem? hpr
    have hjo : JobOk P j := hs.ac _ ham
    have same : ∀ {k p}, P.props[k]? = some p → k = i → p = pr :=
      fun hp e => Option.some.inj ((e ▸ hp).symm.trans hpr)
    cases hw with
    | skip _ hd => exact fphase_next hph (fun _ hx hne => (List.mem_erase_of_ne hne).2 hx) fun e => .inl (e ▸ hd)
    | found hp hw =>
      exact fphase_next hph (fun _ hx _ => hx) fun e => absurd (same hp e ▸ hev) (ne_eventually_of_witness hw)
    | pass hp hne => exact fphase_next hph (fun _ hx _ => hx) fun e => absurd (same hp e ▸ hev) hne
    | evHolds hp _ hc =>
      refine fphase_next hph (fun _ hx hne => (List.mem_erase_of_ne hne).2 hx) fun e => .inr fun hav => ?_
      have hst := hav j.st (List.mem_of_getLast? hjo.last)
      rw [← same hp e, hc] at hst
      cases hst
    | evFails =>
      exact fphase_next hph (fun _ hx _ => hx) fun e => .inr fun hav => hph.1 (avoids_dropLast hav) (Nat.le_of_eq e)
    | terminal hk => exact .inr fun hav => ⟨hph.2 hav (Nat.lt_of_lt_of_le hi hk), Nat.zero_le _⟩
    | expand hk => exact .inr fun hav => hph.2 hav (Nat.lt_of_lt_of_le hi hk)
    | @record r _ hm =>
      by_cases hri : r = i
      · exact .inl (hri ▸ hasDisc_insert_self _ _ _)
      · exact .inr fun hav => ⟨(hph hav).1, Nat.lt_of_le_of_ne (hph hav).2 hri⟩
    | @noRecord r _ hm =>
      exact .inr fun hav => ⟨(hph hav).1, Nat.lt_of_le_of_ne (hph hav).2 fun hri => hm (hri ▸ (hph hav).1)⟩
  next _ _ _ _ hph := ⟨hph, hph.imp_right fun h hav => h (by simpa only [List.dropLast_concat] using hav)⟩
  retire {s j _} hs ham hph hr q hq hl hav ht := by
    rcases hr with rfl | ⟨r, rfl, hr⟩
    · exact absurd ht (hs.expNe _ ham _ rfl)
    · -- on a forest `q` is the path of the job, whose bit would have been recorded
      have hjo := hs.ac _ ham
      have hqj : q = j.path := hF q j.path hq hjo.path (hl.trans hjo.last.symm)
      exact hph.elim id fun h =>
        absurd (Nat.lt_of_lt_of_le (lt_length_of_getElem? hpr) hr) (Nat.not_lt.2 (h (hqj ▸ hav)).2)

theorem forestInv_run {i : Nat} {pr : Prop' σ} (hpr : P.props[i]? = some pr) (hev : pr.exp = .eventually)
    (hF : Forest P.M) (cs : List Choice) : ForestInv P i pr (run P cs) :=
  (forestInv_laws hpr hev hF).run (forestInv_init i pr hpr hev) cs

end
end SR.Checker
