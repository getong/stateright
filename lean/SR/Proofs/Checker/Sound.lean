import SR.Proofs.Checker.Moves
import SR.Proofs.Checker.Paths
/-!
Soundness invariant, for every choice list: the path of every job, every visited path and every discovery is a real
in-boundary path; an always/sometimes discovery ends in a witness.
-/
namespace SR.Checker
open SR

section
variable {σ κ α : Type} [DecidableEq κ]
variable (P : Params σ κ α)

structure JobOk (j : Job σ) : Prop where
  path : P.M.IsPath j.path
  last : j.path.getLast? = some j.st
  depth : j.depth = j.path.length
  eb : ∀ k ∈ j.ebits, ∀ pr, P.props[k]? = some pr → pr.exp = .eventually

def WitnessAS (i : Nat) (p : List σ) : Prop :=
  ∀ pr, P.props[i]? = some pr →
    (pr.exp = .always → ∃ s, p.getLast? = some s ∧ pr.cond s = false) ∧
    (pr.exp = .sometimes → ∃ s, p.getLast? = some s ∧ pr.cond s = true)

structure SInv (s : St σ κ) : Prop where
  fr : ∀ j ∈ s.frontier, JobOk P j
  ac : ∀ a ∈ s.active, JobOk P a.job
  vis : ∀ p ∈ s.visits, P.M.IsPath p
  disc : ∀ e ∈ s.disc, P.M.IsPath e.2 ∧ e.1 < P.props.length ∧ WitnessAS P e.1 e.2
  exp : ∀ a ∈ s.active, ∀ rest, a.phase = .expanding rest → ∀ t ∈ rest, t ∈ P.M.succB a.job.st
  /-- `finishProps` sends a state with in-boundary successors to expanding, one without to recording -/
  expNe : ∀ a ∈ s.active, ∀ rest, a.phase = .expanding rest → P.M.succB a.job.st ≠ []
  recTerm : ∀ a ∈ s.active, ∀ i, a.phase = .recording i → P.M.succB a.job.st = []

variable {P}

omit [DecidableEq κ] in
theorem witnessAS_iff {i : Nat} {p : List σ} : WitnessAS P i p ↔
    ∀ pr, P.props[i]? = some pr → pr.exp ≠ .eventually → ∃ s, p.getLast? = some s ∧ Wit pr s := by
  refine forall₂_congr fun pr _ => ?_
  cases h : pr.exp
  all_goals simp [Wit, h]

omit [DecidableEq κ] in
theorem JobOk.reach {j : Job σ} (h : JobOk P j) : P.M.Reach j.st :=
  Sys.reach_last_of_isPath h.path h.last

theorem init_frontier_st (M : Sys σ α) (props : List (Prop' σ)) (key : σ → κ) :
    (init M props key).frontier.map (·.st) = M.initB.reverse := by
  simp [init, Function.comp_def]

theorem mem_init_frontier {M : Sys σ α} {props : List (Prop' σ)} {key : σ → κ} {j : Job σ}
    (h : j ∈ (init M props key).frontier) : ∃ s ∈ M.initB, j = ⟨s, [s], initEbits props, 1⟩ := by
  simp only [init, List.mem_map, List.mem_reverse] at h
  obtain ⟨s, hs, rfl⟩ := h
  exact ⟨s, hs, rfl⟩

theorem sinv_init : SInv P (init P.M P.props P.key) := by
  refine ⟨?_, List.forall_mem_nil _, List.forall_mem_nil _, List.forall_mem_nil _, List.forall_mem_nil _,
    List.forall_mem_nil _, List.forall_mem_nil _⟩
  intro j hj
  obtain ⟨s, hs, rfl⟩ := mem_init_frontier hj
  refine ⟨Sys.isPath_singleton hs, rfl, rfl, ?_⟩
  intro k hk pr hpr
  simp only [initEbits, List.mem_filter] at hk
  rw [hpr] at hk
  simpa using hk.2

theorem JobOk.erase {j : Job σ} (h : JobOk P j) (i : Nat) : JobOk P { j with ebits := j.ebits.erase i } :=
  ⟨h.path, h.last, h.depth, fun k hk => h.eb k (List.mem_of_mem_erase hk)⟩

/-- The invariant does not read `stateCount`, so the conclusion leaves its new value `n` free: `s.stateCount` for `Move.work`
    (the records are equal by eta), `s.stateCount + 1` for `Move.seen`. -/
theorem SInv.set {s : St σ κ} (h : SInv P s) (w : Nat) {a' : Active σ} {n : Nat} (hj : JobOk P a'.job)
    (hexp : ∀ rest, a'.phase = .expanding rest → (∀ t ∈ rest, t ∈ P.M.succB a'.job.st) ∧ P.M.succB a'.job.st ≠ [])
    (hrec : ∀ i, a'.phase = .recording i → P.M.succB a'.job.st = [])
    {d' : Disc σ} (hd : ∀ e ∈ d', P.M.IsPath e.2 ∧ e.1 < P.props.length ∧ WitnessAS P e.1 e.2) :
    SInv P { s with active := s.active.set w a', disc := d', stateCount := n } :=
  ⟨h.fr, forall_mem_set w h.ac hj, h.vis, hd, forall_mem_set w h.exp fun r hr => (hexp r hr).1,
    forall_mem_set w h.expNe fun r hr => (hexp r hr).2, forall_mem_set w h.recTerm hrec⟩

theorem disc_insert_ok {s : St σ κ} (h : SInv P s) {j : Job σ} (hjo : JobOk P j) {i : Nat}
    (hi : i < P.props.length) (hw : WitnessAS P i j.path) :
    ∀ e ∈ discInsert s.disc i j.path, P.M.IsPath e.2 ∧ e.1 < P.props.length ∧ WitnessAS P e.1 e.2 := by
  intro e he
  rcases mem_discInsert he with rfl | he
  · exact ⟨hjo.path, hi, hw⟩
  · exact h.disc e he

theorem sinv_move {c : Choice} {s s' : St σ κ} (m : Move P s c s') (h : SInv P s) : SInv P s' := by
  cases m with
  | take hj _ =>
    have hjo := h.fr _ (List.mem_of_getElem? hj)
    exact ⟨forall_mem_eraseIdx _ h.fr, forall_mem_concat h.ac hjo, List.forall_mem_cons.2 ⟨hjo.path, h.vis⟩,
      h.disc, forall_mem_concat h.exp nofun, forall_mem_concat h.expNe nofun, forall_mem_concat h.recTerm nofun⟩
  | tooDeep | dropJob => exact ⟨forall_mem_eraseIdx _ h.fr, h.ac, h.vis, h.disc, h.exp, h.expNe, h.recTerm⟩
  | @work _ w j ph d' a' ha hw =>
    have ham := List.mem_of_getElem? ha
    have hjo : JobOk P j := h.ac _ ham
    have hexp : ∀ rest, a'.phase = .expanding rest →
        (∀ t ∈ rest, t ∈ P.M.succB a'.job.st) ∧ P.M.succB a'.job.st ≠ [] :=
      fun _ hr => hw.st_eq ▸ ⟨fun t ht => (hw.expanding hr).1 ▸ ht, (hw.expanding hr).2⟩
    have hrec : ∀ i, a'.phase = .recording i → P.M.succB a'.job.st = [] :=
      fun _ hr => hw.st_eq ▸ (hw.recording hr).elim id fun ⟨_, e⟩ => h.recTerm _ ham _ e
    cases hw with
    | skip | evHolds => exact h.set w (hjo.erase _) hexp hrec h.disc
    | found hp hw =>
      refine h.set w hjo hexp hrec
        (disc_insert_ok h hjo (lt_length_of_getElem? hp) (witnessAS_iff.2 fun pr hpr _ => ?_))
      cases hp.symm.trans hpr
      exact ⟨j.st, hjo.last, hw⟩
    | pass | evFails | terminal | expand | noRecord => exact h.set w hjo hexp hrec h.disc
    | record hi hm =>
      -- `ebits` holds eventually-properties only, for which `WitnessAS` asks nothing
      exact h.set w hjo hexp hrec
        (disc_insert_ok h hjo hi (witnessAS_iff.2 fun pr hpr hne => absurd (hjo.eb _ hm pr hpr) hne))
  | giveUp | expanded | recorded | abandon =>
    exact ⟨h.fr, forall_mem_eraseIdx _ h.ac, h.vis, h.disc, forall_mem_eraseIdx _ h.exp, forall_mem_eraseIdx _ h.expNe,
      forall_mem_eraseIdx _ h.recTerm⟩
  | @seen w _ j t rest ha _ =>
    have ham := List.mem_of_getElem? ha
    have hjo : JobOk P j := h.ac _ ham
    exact h.set w (a' := ⟨j, .expanding rest⟩) hjo
      (fun _ hr => by
        cases hr
        exact ⟨fun x hx => h.exp _ ham _ rfl x (List.mem_cons_of_mem _ hx), (h.expNe _ ham _ rfl :)⟩) nofun h.disc
  | @fresh w j t rest front ha _ =>
    have ham := List.mem_of_getElem? ha
    have hjo : JobOk P j := h.ac _ ham
    have hsub := h.exp _ ham _ rfl
    have hchild : JobOk P ⟨t, j.path ++ [t], j.ebits, j.depth + 1⟩ :=
      ⟨Sys.isPath_append_one hjo.path hjo.last (hsub t List.mem_cons_self), by simp,
       by simp [hjo.depth], hjo.eb⟩
    exact ⟨forall_mem_enqueue front h.fr hchild, forall_mem_set w h.ac hjo, h.vis, h.disc,
      forall_mem_set w h.exp fun _ hr x hx => by
        cases hr
        exact hsub x (List.mem_cons_of_mem _ hx),
      forall_mem_set w h.expNe fun _ _ => (h.expNe _ ham _ rfl :), forall_mem_set w h.recTerm nofun⟩
  | stop => exact ⟨h.fr, h.ac, h.vis, h.disc, h.exp, h.expNe, h.recTerm⟩

theorem sinv_step (c : Choice) {s : St σ κ} (h : SInv P s) : SInv P (step P c s) :=
  step_cases c h fun _ m => sinv_move m h

theorem sinv_runFrom {s : St σ κ} (h : SInv P s) (cs : List Choice) : SInv P (runFrom P s cs) :=
  runFrom_induction (SInv P) (fun c _ => sinv_step c) s h cs

theorem sinv_run (cs : List Choice) : SInv P (run P cs) :=
  sinv_runFrom sinv_init cs

/-- A `Move` may use `SInv` of the state it leaves. -/
theorem run_cases {Inv : St σ κ → Prop} (h0 : Inv (init P.M P.props P.key))
    (hm : ∀ {c s s'}, Move P s c s' → SInv P s → Inv s → Inv s') (cs : List Choice) : Inv (run P cs) :=
  (runFrom_induction (fun s => SInv P s ∧ Inv s)
    (fun c _ h => ⟨sinv_step c h.1, step_cases c h.2 fun _ m => hm m h.1 h.2⟩) _ ⟨sinv_init, h0⟩ cs).2

theorem discNames_lt_run (cs : List Choice) : ∀ n ∈ discNames (run P cs).disc, n < P.props.length := by
  intro n hn
  obtain ⟨e, he, rfl⟩ := List.mem_map.1 hn
  exact ((sinv_run (P := P) cs).disc e he).2.1

end
end SR.Checker
