import SR.Proofs.Checker.Once
import SR.Proofs.Checker.Control
import SR.Proofs.Checker.SpecAdequacy
import SR.Drv.Chk
/-!
The guard `completeRun` of the checker-group oracles (`Drv/Chk.lean`) is evaluated on the FINAL discoveries of a run; every
stop / early-exit condition of the checker machine is monotone in the discoveries, so a guard that is false at the end was
false all along (`no_early_of_final`, for any `Params` whose finish condition is `FinishMono`).

One condition needs care: `Finish.matches .all` compares two LENGTHS, so it is monotone only among lists of property
indices — which the discoveries of the machine are — and not in general (`C12_finish_all_not_mono_foreign`: a foreign name
un-matches it).

Second part (namespace `SR.CCompleteRun`): the guard as a proposition (`Guard`), what an observation in the format of `showSt`
shows of the machine state (`Observes`: the guard and the visited states can be read off it), and when `oracleC02` is silent.
-/
namespace SR.Checker
open SR

open Drv.Chk in
/-- `any` asks for a member, the others whether some or all names of a list that does not depend on the discoveries are
    among them -/
theorem Finish.matches_mono_of_ne_all (f : Finish) (props : List GProp) {d d' : List Nat} (hs : d ⊆ d')
    (hf : f ≠ .all) (h : f.matches props d = true) : f.matches props d' = true := by
  cases f with
  | all => exact absurd rfl hf
  | any =>
    cases d with
    | nil => cases h
    | cons a t =>
      obtain ⟨b, u, rfl⟩ := List.exists_cons_of_ne_nil (List.ne_nil_of_mem (hs List.mem_cons_self))
      rfl
  | anyF => exact any_contains_mono hs h
  | allF => exact all_contains_mono hs h
  | allOf s => exact all_contains_mono hs h
  | anyOf s => exact any_contains_mono hs h

open Drv.Chk in
theorem Finish.matches_mono (f : Finish) (props : List GProp) {d d' : List Nat} (hs : d ⊆ d')
    (hb : ∀ x ∈ d', x < props.length) (h : f.matches props d = true) : f.matches props d' = true := by
  by_cases hf : f = .all
  · subst hf
    simp only [Finish.matches, beq_iff_eq] at h ⊢
    rw [eraseDups_length_eq_iff_range hb]
    rw [eraseDups_length_eq_iff_range (fun x hx => hb x (hs hx))] at h
    exact fun x hx => hs (h hx)
  · exact Finish.matches_mono_of_ne_all f props hs hf h

open Drv.Chk in
/-- `Finish.matches` reads the discovered names as a set: `all` counts the distinct ones, and a test that is monotone in both
    directions is invariant -/
theorem Finish.matches_congr (f : Finish) (props : List GProp) {d d' : List Nat} (h : ∀ x, x ∈ d ↔ x ∈ d') :
    f.matches props d = f.matches props d' := by
  by_cases hf : f = .all
  · subst hf
    simp only [Finish.matches, eraseDups_length_congr h]
  · exact Bool.eq_iff_iff.2 ⟨Finish.matches_mono_of_ne_all f props (fun x => (h x).1) hf,
      Finish.matches_mono_of_ne_all f props (fun x => (h x).2) hf⟩

section
variable {σ κ α : Type} [DecidableEq κ] {P : Params σ κ α}

omit [DecidableEq κ] in
theorem allDiscovered_iff_range (s : St σ κ) :
    allDiscovered P s = true ↔ List.range P.props.length ⊆ discNames s.disc := by
  simp only [allDiscovered, List.all_eq_true]
  exact ⟨fun h x hx => (mem_discNames_iff _ x).2 (h x hx), fun h x hx => (mem_discNames_iff _ x).1 (h hx)⟩

theorem allDiscovered_iff_length (cs : List Choice) :
    allDiscovered P (run P cs) = true ↔ (discNames (run P cs).disc).eraseDups.length = P.props.length := by
  rw [allDiscovered_iff_range, eraseDups_length_eq_iff_range (discNames_lt_run cs)]

def FinishMono (P : Params σ κ α) : Prop :=
  ∀ d d' : List Nat, d ⊆ d' → (∀ n ∈ d', n < P.props.length) → P.finishMatches d = true → P.finishMatches d' = true

omit [DecidableEq κ] in
open Drv.Chk in
theorem finishMono_of_matches (f : Finish) (props : List GProp) (hf : P.finishMatches = f.matches props)
    (hl : P.props.length = props.length) : FinishMono P := by
  intro d d' hs hb h
  rw [hf] at h ⊢
  exact Finish.matches_mono f props hs (hl ▸ hb) h

theorem discNames_subset_run_append (pre post : List Choice) :
    discNames (run P pre).disc ⊆ discNames (run P (pre ++ post)).disc := by
  rw [run_append]
  exact discNames_subset_of_mono (mono_runFrom (P := P) _ post)

theorem finishMatches_false_of_final (hmono : FinishMono P) (pre post : List Choice)
    (hfin : P.finishMatches (discNames (run P (pre ++ post)).disc) = false) :
    P.finishMatches (discNames (run P pre).disc) = false :=
  Bool.eq_false_iff.2 fun hm => Bool.false_ne_true
    (hfin.symm.trans (hmono _ _ (discNames_subset_run_append pre post) (discNames_lt_run _) hm))

theorem allDiscovered_run_append (pre post : List Choice) (h : allDiscovered P (run P pre) = true) :
    allDiscovered P (run P (pre ++ post)) = true := by
  rw [run_append]
  exact allDiscovered_mono (mono_runFrom (P := P) _ post).disc h

theorem allDiscovered_false_of_final (pre post : List Choice)
    (hall : (discNames (run P (pre ++ post)).disc).eraseDups.length ≠ P.props.length) :
    allDiscovered P (run P pre) = false :=
  Bool.eq_false_iff.2 fun ha => hall ((allDiscovered_iff_length _).1 (allDiscovered_run_append pre post ha))

/-- the stop flag: a worker can only have left its loop because model code panicked -/
theorem stopped_is_panic_of_final (hmono : FinishMono P) (ht : P.cfg.target = none) (hto : P.cfg.timeout = false)
    (pre post : List Choice) (hfin : P.finishMatches (discNames (run P (pre ++ post)).disc) = false)
    (hs : (run P pre).stopped = true) :
    ∃ a b, pre = a ++ Choice.stop .panic :: b := by
  obtain ⟨a, why, b, hpre, hen⟩ := stopped_only_if (P := P) _ (by simp [init]) pre hs
  cases why with
  | panic => exact ⟨a, b, hpre⟩
  | timeout => simp [stopEnabled, hto] at hen
  | target => simp [stopEnabled, ht] at hen
  | finish =>
    rw [hpre, List.append_assoc] at hfin
    exact absurd hen (Bool.eq_false_iff.1 (finishMatches_false_of_final hmono a _ hfin))

/-- `early`: a job can only have been dropped unexpanded after a worker left its loop -/
theorem early_only_stopped_of_final (hd : P.cfg.maxDepth = none)
    (pre post : List Choice)
    (hall : (discNames (run P (pre ++ post)).disc).eraseDups.length ≠ P.props.length)
    (he : (run P pre).early = true) : (run P pre).stopped = true := by
  rcases earlyReason_run (P := P) pre he with h | h | h
  · simp [hd] at h
  · exact h
  · exact absurd h (Bool.eq_false_iff.1 (allDiscovered_false_of_final pre post hall))

/-- `pre ++ post` is the whole run, `hfin` and `hall` the two tests of the guard on its FINAL discoveries: after every prefix
    `pre` without a panic nothing that ends a run early had happened or was enabled -/
theorem no_early_of_final (hmono : FinishMono P) (hd : P.cfg.maxDepth = none) (ht : P.cfg.target = none)
    (hto : P.cfg.timeout = false) (pre post : List Choice) (hnp : ∀ ch ∈ pre, ch ≠ Choice.stop .panic)
    (hfin : P.finishMatches (discNames (run P (pre ++ post)).disc) = false)
    (hall : (discNames (run P (pre ++ post)).disc).eraseDups.length ≠ P.props.length) :
    (run P pre).early = false ∧ (run P pre).stopped = false ∧ allDiscovered P (run P pre) = false ∧
    P.finishMatches (discNames (run P pre).disc) = false ∧
    ∀ why, why ≠ Why.panic → stopEnabled P why (run P pre) = false := by
  have hst : (run P pre).stopped = false := Bool.eq_false_iff.2 fun hs => by
    obtain ⟨a, b, hab⟩ := stopped_is_panic_of_final hmono ht hto pre post hfin hs
    exact hnp _ (hab ▸ List.mem_append_right a List.mem_cons_self) rfl
  have hea : (run P pre).early = false := Bool.eq_false_iff.2 fun he =>
    Bool.false_ne_true (hst.symm.trans (early_only_stopped_of_final hd pre post hall he))
  have hnfin := finishMatches_false_of_final hmono pre post hfin
  refine ⟨hea, hst, allDiscovered_false_of_final pre post hall, hnfin, fun why hw => ?_⟩
  cases why with
  | panic => exact absurd rfl hw
  | timeout => exact hto
  | target => simp [stopEnabled, ht]
  | finish => exact hnfin

end

end SR.Checker

namespace SR.CCompleteRun
open SR SR.Checker SR.Drv.Chk

def Guard (c : Case) (names : List Nat) : Prop :=
  c.cfg.maxDepth = none ∧ c.cfg.target = none ∧ c.finish.matches c.props names = false ∧
  names.eraseDups.length ≠ c.props.length

theorem completeRun_iff_guard (c : Case) (o : Obs) : completeRun c o = true ↔ Guard c (o.disc.map (·.1)) := by
  simp [completeRun, Guard, Option.isNone_iff_eq_none, and_assoc]

/-- `o` shows the machine state `s` the way `showSt` prints it (the format in which the harness reports the implementation's
    final state): visited paths oldest first, `unique_state_count`, and the discoveries in any order (`showSt` sorts them by
    property index) -/
structure Observes (o : Obs) (s : St Nat Nat) : Prop where
  visits : o.visits = s.visits.reverse
  uniq : o.uniq = s.gen.length
  disc : (o.disc.map (·.1)).Perm (discNames s.disc)

section
variable {P : Params Nat Nat Nat} {cs : List Choice} {o : Obs} {s : St Nat Nat}

theorem contains_names_eq (ho : Observes o s) (i : Nat) : (o.disc.map (·.1)).contains i = hasDisc s.disc i := by
  rw [Bool.eq_iff_iff, ← mem_discNames_iff]
  simp only [List.contains_eq_mem, decide_eq_true_eq]
  exact ho.disc.mem_iff

theorem matches_of_observes (ho : Observes o s) (f : Finish) (props : List GProp) :
    f.matches props (o.disc.map (·.1)) = f.matches props (discNames s.disc) :=
  Finish.matches_congr f props fun _ => ho.disc.mem_iff

theorem eraseDups_length_of_observes (ho : Observes o s) :
    (o.disc.map (·.1)).eraseDups.length = (discNames s.disc).eraseDups.length :=
  eraseDups_length_congr fun _ => ho.disc.mem_iff

theorem mem_visits_of_observes (ho : Observes o s) (p : List Nat) : p ∈ o.visits ↔ p ∈ s.visits := by
  rw [ho.visits, List.mem_reverse]

theorem guard_of_observes (c : Case) (ho : Observes o s) (hc : completeRun c o = true) : Guard c (discNames s.disc) := by
  obtain ⟨hd, ht, hfin, hall⟩ := (completeRun_iff_guard c o).1 hc
  rw [matches_of_observes ho] at hfin
  rw [eraseDups_length_of_observes ho] at hall
  exact ⟨hd, ht, hfin, hall⟩

theorem getLast?_lastOf {p : List Nat} (hne : p ≠ []) : p.getLast? = some (lastOf p) := by
  unfold lastOf
  rw [List.getLast?_eq_some_getLast hne]
  rfl

theorem lasts_eq_visited (ho : Observes o (run P cs)) : o.visits.map lastOf = (visitedStates (run P cs)).reverse := by
  rw [ho.visits, List.map_reverse, visitedStates, ← List.filterMap_eq_map']
  exact congrArg _ (filterMap_congr_mem fun p hp =>
    (getLast?_lastOf (Sys.isPath_ne_nil ((sinv_run (P := P) cs).vis p hp))).symm)

theorem lasts_iff_visited (ho : Observes o (run P cs)) (v : Nat) :
    v ∈ o.visits.map lastOf ↔ v ∈ visitedStates (run P cs) := by
  rw [lasts_eq_visited ho, List.mem_reverse]
end

theorem oracleC02_nil_iff (c : Case) (hwf : c.g.WF) (o : Obs) (hc : completeRun c o = true) :
    oracleC02 c o = [] ↔ ∀ i pr, c.props[i]? = some pr → pr.exp ≠ .eventually →
      ((o.disc.map (·.1)).contains i = true ↔ ∃ t, c.g.toSys.Reach t ∧ Wit pr.toProp t) := by
  simp only [oracleC02, hc, Bool.not_true, Bool.false_eq_true, if_false, List.flatMap_eq_nil_iff, List.mem_range]
  refine forall_congr' fun i => ?_
  cases hpr : c.props[i]? with
  | none => simp
  | some pr =>
    have hi := lt_length_of_getElem? hpr
    cases h : pr.exp with
    | eventually => simp [h]
    | _ =>
      -- a verdict line is silent iff its two Booleans agree; the second says that a reachable state is a witness
      simp only [h, hi, forall_const, ite_singleton_eq_nil, beq_iff_eq]
      rw [Bool.eq_iff_iff, Graph.reachList_any hwf]
      simp [h, Wit, GProp.toProp]

end SR.CCompleteRun
