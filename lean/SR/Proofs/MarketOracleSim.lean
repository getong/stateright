import SR.Proofs.MarketOracle
import SR.Proofs.MarketInv
/-! The oracle `o-mk` raises no false alarm on disciplined runs of the market machine: `Sim` relates `MState` to the oracle's
`Obs` along `mkRun`, the model side as the driver's `replay` computes it. -/
namespace SR.C05Oracle
open SR SR.Market SR.Drv.C05

inductive Ans where
  | pop (r : PopRes)
  | toks (l : List Nat)
  | dash
  | bool (b : Bool)
deriving DecidableEq, Repr

def Ans.str : Ans → String
  | .pop r => popResStr (some r)
  | .toks l => toksStr l
  | .dash => "-"
  | .bool b => Drv.bstr b

/-- `r` is a result S-expression that the oracle reads as the answer `a` (the oracle never looks at the results of
    `xpush`, `push`, `work`, `drop`, `xdrop`, `clone`, `tfire`) -/
def Renders : Ans → SExp → Prop
  | .pop .park, r => r = .atom "park"
  | .pop .empty, r => resToks? r = some []
  | .pop (.got b), r => resToks? r = some b
  | .toks l, r => resToks? r = some l
  | .dash, _ => True
  | .bool b, r => r.bool? = some b

def isWakeEv : Ev → Bool
  | .wake _ => true
  | _ => false

/-- the model side of one event, as `replay` computes it; `none` where `replay` answers `!disabled`, `!unwoken` or
    `!spurious` -/
def evStep (s : MState) (e : Ev) (picks : List Nat) : Option (MState × Ans) :=
  if !isWakeEv e && pendingWake s then none else
  match e with
  | .xpush toks => (stepR s (.xpush toks (if s.isOpen then picks else []))).map fun x => (x.1, .dash)
  | .pop w =>
    match stepR s (.popBegin w) with
    | some (s', some r) => some (s', .pop r)
    | _ => none
  | .wake w =>
    if s.pcs[w]? == some (.parked true) then
      match stepR s (.wake w) with
      | some (s', some r) => some (s', .pop r)
      | _ => none
    else none
  | .push w n => (stepR s (.push w n (if s.isOpen then picks else []))).map fun x => (x.1, .dash)
  | .split w => (stepR s (.split w (if s.isOpen then picks else []))).map fun x => (x.1, .toks (x.1.locs.getD w []))
  | .work w c fresh => (stepR s (.work w c fresh)).map fun x => (x.1, .dash)
  | .drop w => (stepR s (.drop w)).map fun x => (x.1, .dash)
  | .xdrop => (stepR s .xdrop).map fun x => (x.1, .dash)
  | .tfire => (stepR s .timeoutFire).map fun x => (x.1, .dash)
  | .clone => some (s, .dash)
  | .closed => some (s, .bool (isClosed s))
  | .shut => some (s, .bool (isShutDown s))

def mkRun : MState → List Ev → Option (List Ans × MState)
  | s, [] => some ([], s)
  | s, e :: rest =>
    match evStep s e (followingWakes rest) with
    | none => none
    | some (s', a) =>
      match mkRun s' rest with
      | none => none
      | some (as, sf) => some (a :: as, sf)

theorem mkRun_cons {s : MState} {e : Ev} {rest : List Ev} {as : List Ans} {sf : MState}
    (h : mkRun s (e :: rest) = some (as, sf)) :
    ∃ s' a as', evStep s e (followingWakes rest) = some (s', a) ∧ mkRun s' rest = some (as', sf) ∧ as = a :: as' := by
  unfold mkRun at h
  split at h
  · cases h
  rename_i s' a hs
  split at h
  · cases h
  rename_i as' sf' hr
  cases h
  exact ⟨s', a, as', hs, hr, rfl⟩

def pushLike : Ev → Bool
  | .xpush _ | .push _ _ | .split _ => true
  | _ => false

/-- the event tells the oracle of the stop, read off the model's state (`closes` of `MarketOracleLed.lean`: off the observed result) -/
def tells (s : MState) : Ev → Bool
  | .tfire | .xdrop | .drop _ => true
  | .shut => !s.isOpen
  | .closed => isClosed s
  | _ => false

theorem eraseAll?_of_perm {b m rest : List Nat} (h : m.Perm (b ++ rest)) :
    ∃ m', eraseAll? m b = some m' ∧ m'.Perm rest := by
  fun_induction eraseAll? m b with
  | case1 m => exact ⟨m, rfl, h⟩
  | case2 m t ts ht ih => exact ih (by simpa using h.erase t)
  -- `t` is missing
  | case3 m t ts ht => exact absurd (h.mem_iff.2 List.mem_cons_self) (by simpa using ht)

/-- `P`, `X`, `M` are the oracle's `parked`, `exited`, `mustWake`.  `P` and `X` are exact; `M` lists only notified sleepers
    (`m`), not all of them: a `notify_one` is invisible to the oracle. -/
structure PcSim (k : Nat) (pcs : List Pc) (P X M : List Nat) : Prop where
  len : pcs.length = k
  pn : P.Nodup
  p : ∀ w, w ∈ P ↔ ∃ b, pcs[w]? = some (.parked b)
  x : ∀ w, w ∈ X ↔ pcs[w]? = some .exited
  mn : M.Nodup
  m : ∀ w, w ∈ M → pcs[w]? = some (.parked true)

theorem PcSim.notify {k pcs P X M} (h : PcSim k pcs P X M) {v : Nat} (hv : pcs[v]? = some (.parked false)) :
    PcSim k (pcs.set v (.parked true)) P X M := by
  obtain ⟨hvl, hget⟩ := List.getElem?_eq_some_iff.1 hv
  refine ⟨by simpa using h.len, h.pn, ?_, ?_, h.mn, ?_⟩
  · intro w
    rw [h.p, List.getElem?_set]
    by_cases e : v = w
    · subst e
      simp [hvl, hget]
    · simp [e]
  · intro w
    rw [h.x, List.getElem?_set]
    by_cases e : v = w
    · subst e
      simp [hvl, hget]
    · simp [e]
  · intro w hw
    rw [List.getElem?_set]
    by_cases e : v = w
    · subst e
      simp [hvl]
    · simp [e, h.m w hw]

theorem PcSim.notifyPicks {k pcs P X M} (h : PcSim k pcs P X M) (picks : List Nat) :
    PcSim k (notifyPicks pcs picks) P X M :=
  notifyPicks_induct (PcSim k · P X M) picks h fun _ _ hl hv => hl.notify hv

theorem PcSim.notifyAll_keep {k pcs P X M} (h : PcSim k pcs P X M) : PcSim k (notifyAll pcs) P X M := by
  refine ⟨by rw [length_notifyAll]; exact h.len, h.pn, ?_, ?_, h.mn, ?_⟩
  · intro w
    rw [h.p, getElem?_notifyAll]
    cases pcs[w]? with
    | none => simp
    | some p => cases p <;> simp
  · intro w
    rw [h.x, getElem?_notifyAll]
    cases pcs[w]? with
    | none => simp
    | some p => cases p <;> simp
  · intro w hw
    rw [getElem?_notifyAll, h.m w hw]
    rfl

/-- The lists have the shape `opop` gives them: it strikes `w` from `parked` and `mustWake` before it books the answer. -/
theorem PcSim.set {k pcs P X M} (h : PcSim k pcs P X M) {w : Nat} {p : Pc} (hw : pcs[w]? = some p) (hp : p ≠ .exited)
    (q : Pc) : PcSim k (pcs.set w q) ((match q with | .parked _ => [w] | _ => []) ++ P.erase w)
      ((match q with | .exited => [w] | _ => []) ++ X) (M.erase w) := by
  obtain ⟨hwl, hget⟩ := List.getElem?_eq_some_iff.1 hw
  have hwP : w ∉ P.erase w := fun hm => (h.pn.mem_erase_iff.1 hm).1 rfl
  refine ⟨by simpa using h.len, ?_, ?_, ?_, h.mn.erase w, ?_⟩
  · cases q <;> simp [hwP, h.pn.erase w]
  · intro v
    rw [List.mem_append, h.pn.mem_erase_iff, h.p, List.getElem?_set]
    by_cases e : w = v
    · subst e
      cases q <;> simp [hwl]
    · cases q <;> simp [e, Ne.symm e]
  · intro v
    rw [List.mem_append, h.x, List.getElem?_set]
    by_cases e : w = v
    · subst e
      cases q <;> simp [hwl, hget, hp]
    · cases q <;> simp [e, Ne.symm e]
  · intro v hv
    rw [h.mn.mem_erase_iff] at hv
    rw [List.getElem?_set]
    simp [Ne.symm hv.1, h.m v hv.2]

theorem PcSim.exit {k pcs P X M} (h : PcSim k pcs P X M) {w : Nat} (hw : pcs[w]? = some .running) :
    PcSim k (pcs.set w .exited) P (w :: X) M := by
  have := h.set hw nofun .exited
  rwa [List.erase_of_not_mem fun hm => by simpa [hw] using (h.p w).1 hm,
    List.erase_of_not_mem fun hm => by simpa [hw] using h.m w hm] at this

theorem PcSim.active {k pcs P X M} (h : PcSim k pcs P X M) {w : Nat} (hw : pcs[w]? = some .running) :
    (decide (w < k) && !P.contains w && !X.contains w) = true := by
  obtain ⟨hwl, hget⟩ := List.getElem?_eq_some_iff.1 hw
  simp [← h.len, hwl, h.p, h.x, hget]

theorem PcSim.must_nil {k pcs P X M} (h : PcSim k pcs P X M) (hp : Pc.parked true ∉ pcs) : M = [] := by
  cases M with
  | nil => rfl
  | cons v vs => exact absurd (List.mem_of_getElem? (h.m v List.mem_cons_self)) hp

theorem PcSim.mustAll {k pcs P X M} (h : PcSim k pcs P X M) (hnp : Pc.parked false ∉ pcs) : PcSim k pcs P X P := by
  refine ⟨h.len, h.pn, h.p, h.x, h.pn, ?_⟩
  intro v hv
  obtain ⟨b, hb⟩ := (h.p v).1 hv
  cases b with
  | true => exact hb
  | false => exact absurd (List.mem_of_getElem? hb) hnp

theorem PcSim.notifyAll {k pcs P X M} (h : PcSim k pcs P X M) : PcSim k (notifyAll pcs) P X P :=
  h.notifyAll_keep.mustAll (not_parkedFalse_mem_notifyAll pcs)

theorem exists_running_ne {pcs : List Pc} {w : Nat} (h : 0 < (pcs.set w (.parked false)).count .running) :
    ∃ v, v ≠ w ∧ pcs[v]? = some .running := by
  obtain ⟨v, hv⟩ := List.getElem?_of_mem (List.count_pos_iff.1 h)
  rw [List.getElem?_set] at hv
  by_cases e : w = v
  · subst e
    simp at hv
  · simp [e] at hv
    exact ⟨v, Ne.symm e, hv⟩

/-- `eb` is `≤`: a `pop` on a closed market answers `()`, which the oracle books as an empty batch taken.  `lw` is where
    `disciplined` enters: a market closed without the oracle having been told was closed by the last active worker. -/
structure Sim (k : Nat) (s : MState) (o : Obs) : Prop where
  pinv : PInv s
  pc : PcSim k s.pcs o.parked o.exited o.mustWake
  locs : o.locs = s.locs
  created : o.created = s.created
  kn : known o = true → s.isOpen = false
  dropS : o.dropSeen = true → s.dropped = true
  market : o.market.Perm s.batches.flatten
  eb : o.emptyBatches ≤ s.batches.count []
  lw : s.isOpen = false → known o = false → s.openCount = 0 ∧ s.batches = [] ∧ Pc.parked false ∉ s.pcs

theorem not_any_created {s : MState} {toks : List Nat} (h : freshOk s toks = true) :
    (toks.any fun x => s.created.contains x) = false := by
  simp [freshOk] at h
  simpa using h.2

theorem opre_other {k o e} (he : actor e = none) (hw : isWakeEv e = false) (hM : o.mustWake = []) :
    opre k o e = none := by
  cases e
  case wake => cases hw
  case pop | push | split | work | drop => cases he
  all_goals
    unfold opre
    rw [hM]
    rfl

theorem Sim.pre_worker {k s o e w} (h : Sim k s o) (he : actor e = some w) (hw : s.pcs[w]? = some .running)
    (hM : o.mustWake = []) : opre k o e = none :=
  (opre_worker he).2 ⟨active_iff.1 (h.pc.active hw), hM⟩

theorem Sim.known_false {k s o} (h : Sim k s o) (ho : s.isOpen = true) : known o = false := by
  cases hko : known o with
  | false => rfl
  | true =>
    have := h.kn hko
    simp [ho] at this

theorem Sim.empty {k s o} (h : Sim k s o) (hb : s.batches = []) : o.market = [] ∧ o.emptyBatches = 0 := by
  have hm := h.market
  have he := h.eb
  rw [hb] at hm he
  exact ⟨hm.eq_nil, Nat.le_zero.1 he⟩

/-- the oracle's books after a batch is handed to an open market -/
def addBatch (o : Obs) (b : List Nat) : Obs :=
  if b.isEmpty then { o with emptyBatches := o.emptyBatches + 1 } else { o with market := b ++ o.market }

theorem known_addBatch (o : Obs) (b : List Nat) : known (addBatch o b) = known o := by
  cases b <;> rfl

theorem Sim.addBatch {k s o} (h : Sim k s o) (ho : s.isOpen = true) (b picks : List Nat) {L C L' C'}
    (hp : PInv { s with batches := b :: s.batches, locs := L, created := C, pcs := notifyPicks s.pcs picks })
    (hL : L' = L) (hC : C' = C) :
    Sim k { s with batches := b :: s.batches, locs := L, created := C, pcs := notifyPicks s.pcs picks }
      (addBatch { o with locs := L', created := C' } b) := by
  have hk : known o = true → s.isOpen = false := fun hk => Bool.noConfusion ((h.known_false ho).symm.trans hk)
  -- ex falso, for the field `lw`
  have hlw : ∀ {P : Prop}, s.isOpen = false → P := fun hc => Bool.noConfusion (ho.symm.trans hc)
  cases b with
  | nil =>
    refine ⟨hp, h.pc.notifyPicks _, hL, hC, hk, h.dropS, h.market, ?_, hlw⟩
    show o.emptyBatches + 1 ≤ List.count [] ([] :: s.batches)
    simpa using h.eb
  | cons t ts =>
    refine ⟨hp, h.pc.notifyPicks _, hL, hC, hk, h.dropS, h.market.append_left (t :: ts), ?_, hlw⟩
    show o.emptyBatches ≤ List.count [] ((t :: ts) :: s.batches)
    simpa using h.eb

/-- the event a step of the machine is logged as; `rearrange` is not logged, `popBegin` and `wake` have `sim_pop`, `sim_wake` -/
def evOf : Step → Option Ev
  | .xpush toks _ => some (.xpush toks)
  | .push w n _ => some (.push w n)
  | .split w _ => some (.split w)
  | .work w c fresh => some (.work w c fresh)
  | .drop w => some (.drop w)
  | .xdrop => some .xdrop
  | .timeoutFire => some .tfire
  | _ => none

/-- `sim_step` for the events that are a step of the machine other than `popBegin`, `wake` (`evOf`) -/
theorem sim_eff {k s o m s' e r} (h : Sim k s o) (hM : o.mustWake = [])
    (hd : pushLike e = true → s.isOpen = false → known o = true)
    (hef : Eff s m s') (hpinv : PInv s') (he : evOf m = some e)
    (hr : ∀ w, e = .split w → resToks? r = some (s'.locs.getD w [])) :
    ∃ o', Sim k s' o' ∧ known o' = (tells s e || known o) ∧ ∀ cont, obody k o e r cont = cont o' := by
  cases hef with
  | popClosed | popBegin | wake | rearrange => cases he
  | @xpushClosed toks hf ho =>
    cases he
    have hfr := not_any_created hf
    rw [← h.created] at hfr
    have hk := hd rfl ho
    refine ⟨{ o with created := toks ++ o.created },
      ⟨hpinv, h.pc, h.locs, by simp [h.created], h.kn, h.dropS, h.market, h.eb, h.lw⟩, rfl, fun cont => ?_⟩
    rw [obody_of_pre (opre_other rfl rfl hM)]
    unfold oact
    simp only [hfr, hk, Bool.false_eq_true, if_false, if_true]
  | @xpush toks _ hf ho _ =>
    cases he
    have hfr := not_any_created hf
    rw [← h.created] at hfr
    have hk := h.known_false ho
    refine ⟨addBatch { o with created := toks ++ o.created } toks,
      h.addBatch ho toks _ hpinv h.locs (by rw [h.created]), known_addBatch _ _, fun cont => ?_⟩
    rw [obody_of_pre (opre_other rfl rfl hM)]
    unfold oact
    simp only [hfr, hk, Bool.false_eq_true, if_false]
    exact (apply_ite cont _ _ _).symm
  | @pushClosed w n hw ho =>
    cases he
    have hk := hd rfl ho
    refine ⟨{ o with locs := o.locs.set w ((o.locs.getD w []).drop n) },
      ⟨hpinv, h.pc, by simp [h.locs], h.created, h.kn, h.dropS, h.market, h.eb, h.lw⟩, rfl, fun cont => ?_⟩
    rw [obody_of_pre (h.pre_worker rfl hw hM)]
    unfold oact
    simp only [hk, if_true]
  | @push w n _ hw ho _ =>
    cases he
    have hk := h.known_false ho
    refine ⟨addBatch { o with locs := o.locs.set w ((o.locs.getD w []).drop n) } ((o.locs.getD w []).take n),
      ?_, known_addBatch _ _, fun cont => ?_⟩
    · rw [h.locs]
      exact h.addBatch ho _ _ hpinv rfl h.created
    · rw [obody_of_pre (h.pre_worker rfl hw hM)]
      unfold oact
      simp only [hk, Bool.false_eq_true, if_false]
      exact (apply_ite cont _ _ _).symm
  | @work w c fresh hw hf =>
    cases he
    have hfr := not_any_created hf
    rw [← h.created] at hfr
    refine ⟨{ o with locs := o.locs.set w (fresh ++ (o.locs.getD w []).take ((o.locs.getD w []).length - c)),
                     created := fresh ++ o.created },
      ⟨hpinv, h.pc, by simp [h.locs], by simp [h.created], h.kn, h.dropS, h.market, h.eb, h.lw⟩, rfl, fun cont => ?_⟩
    rw [obody_of_pre (h.pre_worker rfl hw hM)]
    unfold oact
    simp only [hfr, Bool.false_eq_true, if_false]
  | @splitClosed w hw ho =>
    cases he
    have hr := hr w rfl
    have hk := hd rfl ho
    rw [getD_set_self _ _ _ _ (h.pinv.wf ▸ lt_length_of_getElem? hw)] at hr
    refine ⟨{ o with locs := o.locs.set w [] },
      ⟨hpinv, h.pc, by simp [h.locs], h.created, h.kn, h.dropS, h.market, h.eb, h.lw⟩, rfl, fun cont => ?_⟩
    rw [obody_of_pre (h.pre_worker rfl hw hM)]
    unfold oact
    simp only [hk, hr, List.isEmpty_nil, if_true]
  | @split w _ sl hw ho hsl _ =>
    cases he
    have hr := hr w rfl
    have hk := h.known_false ho
    rw [getD_set_self _ _ _ _ (h.pinv.wf ▸ lt_length_of_getElem? hw)] at hr
    -- the caller keeps a prefix of its deque, `rest` goes to the market in non-empty batches
    obtain ⟨rest, h1, h2, h3⟩ := splitLoop_spec (splitPieces s (s.locs.getD w []).length - 1)
      (splitSize s (s.locs.getD w []).length) (s.locs.getD w []) s.batches
    rw [← hsl] at h1 h2 h3
    have hperm : (o.locs.getD w []).Perm (sl.1 ++ rest) := by
      rw [h.locs]
      exact List.Perm.of_eq h1
    obtain ⟨rest', hre, hrp⟩ := eraseAll?_of_perm hperm
    refine ⟨{ o with locs := o.locs.set w sl.1, market := rest' ++ o.market },
      ⟨hpinv, h.pc.notifyPicks _, by simp [h.locs], h.created, ?_, h.dropS, ?_, ?_, ?_⟩, rfl, fun cont => ?_⟩
    · exact fun hk2 => Bool.noConfusion (hk.symm.trans hk2)
    · show (rest' ++ o.market).Perm sl.2.flatten
      rw [h2]
      exact hrp.append h.market
    · show o.emptyBatches ≤ List.count [] sl.2
      rw [h3]
      exact h.eb
    · intro hc
      rw [ho] at hc
      cases hc
    · rw [obody_of_pre (h.pre_worker rfl hw hM)]
      unfold oact
      simp only [hk, hr, hre, Bool.false_eq_true, if_false]
  | @drop w hw =>
    cases he
    refine ⟨{ o with exited := w :: o.exited, locs := o.locs.set w [], dropSeen := true, market := [],
                     emptyBatches := 0, mustWake := o.parked },
      ⟨hpinv, h.pc.notifyAll.exit (getElem?_notifyAll_running hw), by simp [h.locs], h.created,
        fun _ => rfl, fun _ => rfl, List.Perm.refl _, Nat.zero_le _, fun _ hk => by simp [known] at hk⟩,
      by simp [known, tells], fun cont => ?_⟩
    rw [obody_of_pre (h.pre_worker rfl hw hM)]
    rfl
  | xdrop =>
    cases he
    refine ⟨{ o with dropSeen := true, market := [], emptyBatches := 0, mustWake := o.parked },
      ⟨hpinv, h.pc.notifyAll, h.locs, h.created, fun _ => rfl, fun _ => rfl, List.Perm.refl _, Nat.zero_le _,
        fun _ hk => by simp [known] at hk⟩, by simp [known, tells], fun cont => ?_⟩
    rw [obody_of_pre (opre_other rfl rfl hM)]
    rfl
  | timeout =>
    cases he
    refine ⟨{ o with shutSeen := true },
      ⟨hpinv, h.pc, h.locs, h.created, fun _ => rfl, h.dropS, h.market, h.eb, fun _ hk => by simp [known] at hk⟩,
      by simp [known, tells], fun cont => ?_⟩
    rw [obody_of_pre (opre_other rfl rfl hM)]
    rfl

theorem sim_closed {k s o r} (h : Sim k s o) (hM : o.mustWake = []) (hr : r.bool? = some (isClosed s)) :
    ∃ o', Sim k s o' ∧ known o' = (isClosed s || known o) ∧ ∀ cont, obody k o .closed r cont = cont o' := by
  cases hc : isClosed s
  · rw [hc] at hr
    refine ⟨o, h, by simp, ?_⟩
    intro cont
    rw [obody_of_pre (opre_other rfl rfl hM)]
    unfold oact
    simp only [hr, Bool.false_eq_true, if_false, Bool.false_and]
  · rw [hc] at hr
    simp only [isClosed, Bool.and_eq_true, Bool.not_eq_true', List.isEmpty_iff, beq_iff_eq] at hc
    obtain ⟨⟨ho, hb⟩, -⟩ := hc
    obtain ⟨hm, he⟩ := h.empty hb
    refine ⟨{ o with shutSeen := true }, ?_, by simp [known], ?_⟩
    · exact ⟨h.pinv, h.pc, h.locs, h.created, fun _ => ho, h.dropS, h.market, h.eb, fun _ hk => by simp [known] at hk⟩
    · intro cont
      rw [obody_of_pre (opre_other rfl rfl hM)]
      unfold oact
      simp only [hr, hm, he, List.isEmpty_nil, Bool.not_true, Bool.false_eq_true, if_false, if_true, Bool.true_and, beq_self_eq_true, Bool.and_self]

theorem sim_shut {k s o r} (h : Sim k s o) (hM : o.mustWake = []) (hr : r.bool? = some (!s.isOpen)) :
    ∃ o', Sim k s o' ∧ known o' = (!s.isOpen || known o) ∧ ∀ cont, obody k o .shut r cont = cont o' := by
  by_cases ho : s.isOpen = true
  · rw [ho] at hr
    have hk := h.known_false ho
    refine ⟨o, h, by simp [ho], ?_⟩
    intro cont
    rw [obody_of_pre (opre_other rfl rfl hM)]
    unfold oact
    simp only [hr, hk, Bool.not_true, Bool.false_eq_true, if_false, Bool.false_and, Bool.not_false, Bool.and_false]
  · have ho : s.isOpen = false := by simpa using ho
    rw [ho] at hr
    cases hk : known o
    · -- the last active worker has closed the market
      obtain ⟨-, hb, hnp⟩ := h.lw ho hk
      have hm := (h.empty hb).1
      refine ⟨{ o with shutSeen := true, mustWake := o.parked }, ?_, by simp [known, ho], ?_⟩
      · exact ⟨h.pinv, h.pc.mustAll hnp, h.locs, h.created, fun _ => ho, h.dropS, h.market, h.eb,
          fun _ hk => by simp [known] at hk⟩
      · intro cont
        rw [obody_of_pre (opre_other rfl rfl hM)]
        unfold oact
        simp only [hr, hk, hm, List.isEmpty_nil, Bool.not_true, Bool.false_eq_true, if_false, if_true, Bool.not_false, Bool.and_self]
    · refine ⟨o, h, by simp [hk], ?_⟩
      intro cont
      rw [obody_of_pre (opre_other rfl rfl hM)]
      unfold oact
      simp only [hr, hk, Bool.not_true, Bool.false_eq_true, if_false, Bool.not_false, Bool.false_and, Bool.and_false]

/-- the loop body of `pop`: entered by a `pop` with `c = open_count`, by a wake-up with `c = open_count + 1` -/
theorem sim_popLoop {k s o w p r e} (isWake : Bool) (c : Nat) (h : Sim k s o)
    (hw : s.pcs[w]? = some p) (hp : p ≠ .exited)
    (hpi : PInv (popLoop { s with openCount := c } w).1)
    (hpop : isWake = false → s.isOpen = true)
    (hlw : s.isOpen = false → known o = false → c - 1 = 0)
    (hr : Renders (.pop (popLoop { s with openCount := c } w).2) r)
    (hob : ∀ cont, obody k o e r cont = opop k o w isWake r cont) :
    ∃ o', Sim k (popLoop { s with openCount := c } w).1 o' ∧ known o' = known o ∧
      ∀ cont, obody k o e r cont = cont o' := by
  -- a `pop` gets here on an open market only, where the oracle knows of no stop
  have hnw : (!isWake && known o) = false := by
    cases isWake
    · simp [h.known_false (hpop rfl)]
    · rfl
  have hnw2 : (!isWake && o.shutSeen) = false := by
    cases hs : o.shutSeen
    · simp
    · rw [known, hs] at hnw
      simpa using hnw
  unfold popLoop at hpi hr ⊢
  cases hb : s.batches with
  | cons b rest =>
    simp only [hb] at hpi hr ⊢
    have hr : resToks? r = some b := hr
    obtain ⟨xs, rfl⟩ := resToks?_list hr
    have hmk : o.market.Perm (b ++ rest.flatten) := by
      have := h.market
      rwa [hb] at this
    have heb := h.eb
    rw [hb] at heb
    -- ex falso (`Sim.lw`): a batch is on the market
    have hlw' : ∀ {P : Prop}, s.isOpen = false → known o = false → P := fun h1 h2 => by
      have := (h.lw h1 h2).2.1
      rw [hb] at this
      cases this
    cases b with
    | nil =>
      refine ⟨{ o with parked := o.parked.erase w, mustWake := o.mustWake.erase w, emptyBatches := o.emptyBatches - 1 },
        ⟨hpi, h.pc.set hw hp .running, ?_, h.created, h.kn, h.dropS, hmk, ?_, hlw'⟩, rfl, ?_⟩
      · show o.locs = s.locs.set w (s.locs.getD w [] ++ [])
        rw [List.append_nil, set_getD_self]
        exact h.locs
      · show o.emptyBatches - 1 ≤ List.count [] rest
        rw [List.count_cons_self] at heb
        omega
      · intro cont
        rw [hob]
        unfold opop
        simp only [hr]
    | cons t ts =>
      obtain ⟨m', hm1, hm2⟩ := eraseAll?_of_perm hmk
      have hds : o.dropSeen = false := by
        cases hd : o.dropSeen with
        | false => rfl
        | true =>
          have := (h.pinv.dropped (h.dropS hd)).2
          rw [hb] at this
          cases this
      refine ⟨{ o with parked := o.parked.erase w, mustWake := o.mustWake.erase w, market := m',
                       locs := o.locs.set w (o.locs.getD w [] ++ (t :: ts)) },
        ⟨hpi, h.pc.set hw hp .running, by rw [h.locs], h.created, h.kn, h.dropS, hm2, ?_, hlw'⟩, rfl, ?_⟩
      · rwa [List.count_cons_of_ne (List.cons_ne_nil t ts)] at heb
      · intro cont
        rw [hob]
        unfold opop
        simp only [hr, hds, hnw2, hm1, Bool.false_eq_true, if_false]
  | nil =>
    simp only [hb] at hpi hr ⊢
    obtain ⟨hmk, heb⟩ := h.empty hb
    by_cases hoc : (c - 1 == 0) = true
    · -- the last running worker: the market closes
      simp only [hoc, if_true] at hpi hr ⊢
      have hr : resToks? r = some [] := hr
      obtain ⟨xs, rfl⟩ := resToks?_list hr
      refine ⟨{ o with parked := o.parked.erase w, mustWake := o.mustWake.erase w, emptyBatches := o.emptyBatches - 1 },
        ⟨hpi, (h.pc.set hw hp .running).notifyAll_keep, h.locs, h.created, fun _ => rfl, h.dropS, .of_eq hmk,
          Nat.le_trans (Nat.sub_le _ _) (Nat.le_of_eq heb), fun _ _ => ⟨rfl, rfl, not_parkedFalse_mem_notifyAll _⟩⟩,
        rfl, ?_⟩
      intro cont
      rw [hob]
      unfold opop
      simp only [hr]
    · simp only [hoc, Bool.false_eq_true, if_false] at hpi hr ⊢
      have hr : r = .atom "park" := hr
      subst hr
      have hoc' : c - 1 ≠ 0 := by simpa using hoc
      obtain ⟨v, hvw, hv⟩ := exists_running_ne (w := w) (pcs := s.pcs) (Nat.lt_of_lt_of_le (Nat.pos_of_ne_zero hoc') hpi.oc)
      obtain ⟨hv1, hv2, hv3⟩ := active_iff.1 (h.pc.active hv)
      have haw : (awake { o with parked := o.parked.erase w, mustWake := o.mustWake.erase w } k).all (· == w) = false :=
        awake_all.2 ⟨v, hvw, hv1, fun hm => hv2 (List.mem_of_mem_erase hm), hv3⟩
      refine ⟨{ o with parked := w :: o.parked.erase w, mustWake := o.mustWake.erase w },
        ⟨hpi, h.pc.set hw hp (.parked false), h.locs, h.created, h.kn, h.dropS, .of_eq hmk, Nat.le_of_eq heb,
          fun h1 h2 => absurd (hlw h1 h2) hoc'⟩, rfl, ?_⟩
      intro cont
      rw [hob]
      unfold opop
      have hmk' : o.market.isEmpty = true := by rw [hmk]; rfl
      have heb' : ¬ (o.emptyBatches > 0) := Nat.not_lt.2 (Nat.le_of_eq heb)
      simp only [hmk', heb', haw, hnw, Bool.not_true, Bool.false_eq_true, if_false]

theorem sim_pop {k s o s' res r w} (h : Sim k s o) (hM : o.mustWake = [])
    (hs : stepR s (.popBegin w) = some (s', some res)) (hr : Renders (.pop res) r) :
    ∃ o', Sim k s' o' ∧ known o' = known o ∧ ∀ cont, obody k o (.pop w) r cont = cont o' := by
  by_cases hw : s.pcs[w]? = some .running
  case neg => simp [stepR, hw] at hs
  by_cases ho : s.isOpen = true
  case neg =>
    have ho : s.isOpen = false := by simpa using ho
    simp only [stepR, hw, ho, if_true, Bool.not_false, Option.some.injEq, Prod.mk.injEq] at hs
    obtain ⟨rfl, rfl⟩ := hs
    have hr : resToks? r = some [] := hr
    obtain ⟨xs, rfl⟩ := resToks?_list hr
    have hpc := h.pc.set hw (by simp) .running
    rw [set_self_of_getElem? hw] at hpc
    refine ⟨{ o with parked := o.parked.erase w, mustWake := o.mustWake.erase w, emptyBatches := o.emptyBatches - 1 },
      ⟨h.pinv, hpc, h.locs, h.created, h.kn, h.dropS, h.market, Nat.le_trans (Nat.sub_le _ _) h.eb, h.lw⟩, rfl, ?_⟩
    intro cont
    rw [obody_of_pre (h.pre_worker rfl hw hM)]
    unfold oact opop
    simp only [hr]
  · have hst : stepR s (.popBegin w) = some ((popLoop s w).1, some (popLoop s w).2) := by
      simp [stepR, hw, ho]
    rw [hst] at hs
    cases hs
    exact sim_popLoop (s := s) (p := .running) false s.openCount h hw (by simp)
      (pinv_step h.pinv (step_of_stepR hst)) (fun _ => ho) (fun hc => by simp [ho] at hc) hr
      (fun _ => obody_of_pre (h.pre_worker rfl hw hM))

theorem sim_wake {k s o s' res r w} (h : Sim k s o) (hw : s.pcs[w]? = some (.parked true))
    (hs : stepR s (.wake w) = some (s', some res)) (hr : Renders (.pop res) r) :
    ∃ o', Sim k s' o' ∧ known o' = known o ∧ ∀ cont, obody k o (.wake w) r cont = cont o' := by
  have hst : stepR s (.wake w) = some ((popLoop { s with openCount := s.openCount + 1 } w).1,
      some (popLoop { s with openCount := s.openCount + 1 } w).2) := by
    simp [stepR, hw]
  rw [hst] at hs
  cases hs
  exact sim_popLoop (s := s) (p := .parked true) true (s.openCount + 1) h hw (by simp)
    (pinv_step h.pinv (step_of_stepR hst)) (fun hc => by cases hc)
    (fun hc hk => by have := (h.lw hc hk).1; omega) hr (fun _ => obody_of_pre (opre_wake.2 ((h.pc.p w).2 ⟨true, hw⟩)))

/-- `hd` is the event's share of `disciplined`; `cont` is the rest of the run -/
theorem sim_step {k s o e picks s' a r} (h : Sim k s o)
    (hd : pushLike e = true → s.isOpen = false → known o = true)
    (hs : evStep s e picks = some (s', a)) (hr : Renders a r) :
    ∃ o', Sim k s' o' ∧ known o' = (tells s e || known o) ∧ ∀ cont, obody k o e r cont = cont o' := by
  unfold evStep at hs
  obtain ⟨hg, hs⟩ := guard_some hs
  -- only a `wake` is enabled while a notified worker has not woken
  have hM : isWakeEv e = false → o.mustWake = [] := fun hw =>
    h.pc.must_nil (by simpa [hw, pendingWake] using hg)
  cases e with
  | pop w =>
    simp only at hs
    split at hs
    · rename_i hst
      cases hs
      exact sim_pop h (hM rfl) hst hr
    · cases hs
  | wake w =>
    simp only at hs
    split at hs
    · rename_i hw
      split at hs
      · rename_i hst
        cases hs
        exact sim_wake h (eq_of_beq hw) hst hr
      · cases hs
    · cases hs
  | clone =>
    cases hs
    exact ⟨o, h, rfl, fun cont => by
      rw [obody_of_pre (opre_other rfl rfl (hM rfl))]
      rfl⟩
  | closed =>
    cases hs
    exact sim_closed h (hM rfl) hr
  | shut =>
    cases hs
    exact sim_shut h (hM rfl) hr
  | xpush toks | push w n | split w | work w c fresh | drop w | xdrop | tfire =>
    obtain ⟨⟨s1, r0⟩, hst, hx⟩ := Option.map_eq_some_iff.1 hs
    cases hx
    exact sim_eff h (hM rfl) hd (stepR_eff hst) (pinv_step h.pinv (step_of_stepR hst)) rfl
      fun w he => by cases he <;> exact hr

/-- no `xpush` / `push` / `split` on a closed market before the oracle has been told of the stop: `run_op` of
    harness/src/market_h.rs logs `(shut)` right after the operation (and its wake-ups) that changed the answer -/
def disciplined : MState → Bool → List Ev → Bool
  | _, _, [] => true
  | s, told, e :: rest =>
    (!pushLike e || s.isOpen || told) &&
    match evStep s e (followingWakes rest) with
    | none => true
    | some (s', _) => disciplined s' (told || tells s e) rest

def RendersAll : List Ans → List SExp → Prop
  | [], [] => True
  | a :: as, r :: rs => Renders a r ∧ RendersAll as rs
  | _, _ => False

theorem sim_run {k : Nat} (evs : List Ev) : ∀ (s : MState) (o : Obs) (as : List Ans) (sf : MState) (rs : List SExp),
    Sim k s o → mkRun s evs = some (as, sf) → disciplined s (known o) evs = true → RendersAll as rs →
    ∃ of, oracleR k o evs rs = .ok of ∧ Sim k sf of := by
  induction evs with
  | nil =>
    intro s o as sf rs h hm _ hr
    unfold mkRun at hm
    cases hm
    cases rs with
    | nil => exact ⟨o, rfl, h⟩
    | cons _ _ => exact hr.elim
  | cons e rest ih =>
    intro s o as sf rs h hm hd hr
    obtain ⟨s', a, as', hs, hm', rfl⟩ := mkRun_cons hm
    cases rs with
    | nil => exact hr.elim
    | cons r rs =>
      unfold disciplined at hd
      simp only [hs, Bool.and_eq_true, Bool.or_eq_true, Bool.not_eq_true'] at hd
      obtain ⟨o', ho1, ho2, ho3⟩ := sim_step h (fun hp ho => by simpa [hp, ho] using hd.1) hs hr.1
      rw [Bool.or_comm, ← ho2] at hd
      obtain ⟨of, hof1, hof2⟩ := ih s' o' as' sf rs ho1 hm' hd.2 hr.2
      exact ⟨of, by rw [oracle_cons, ho3]; exact hof1, hof2⟩

theorem sim_init (k tc : Nat) (h : tc ≤ k) : Sim k (init k tc) { locs := List.replicate k [] } := by
  refine ⟨(minv_init k tc h).p, ⟨by simp [init], List.nodup_nil, ?_, ?_, List.nodup_nil, ?_⟩, rfl, rfl, ?_, ?_,
    List.Perm.refl _, Nat.le_refl _, ?_⟩
  · intro w
    simp [init, List.getElem?_replicate]
  · intro w
    simp [init, List.getElem?_replicate]
  · intro w hw
    cases hw
  · intro hk
    simp [known] at hk
  · intro hd
    cases hd
  · intro ho
    simp [init] at ho

/-- `oracleEnd` has no complaint here: nobody is still to wake, and an open market has been drained by the harness -/
def mayEnd (s : MState) : Bool := !pendingWake s && (!s.isOpen || s.batches.flatten.isEmpty)

theorem sim_end {k s o} (h : Sim k s o) (he : mayEnd s = true) : oracleEnd o = none := by
  simp only [mayEnd, Bool.and_eq_true, Bool.not_eq_true', Bool.or_eq_true, List.isEmpty_iff] at he
  refine (oracleEnd_none_iff o).2 ⟨h.pc.must_nil (by simpa [pendingWake] using he.1), fun hk => ?_⟩
  rcases he.2 with h2 | h2
  · exact (h.empty (h.lw h2 hk).2.1).1
  · exact (h2 ▸ h.market).eq_nil

end SR.C05Oracle
