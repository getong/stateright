import SR.Proofs.HashEquivB
/-! Byte-level lemmas for C04 below the type codes: `le` is fixed-width and injective, `flat` of each token group, and `Core`,
"self-delimiting + injective", with its combinators. -/
namespace SR.Hash
open List

theorem le_length (w n : Nat) : (le w n).length = w := by
  induction w generalizing n with
  | zero => rfl
  | succ w ih => simp [le, ih]

theorem le_inj (w : Nat) : ∀ n m, n < 256 ^ w → m < 256 ^ w → le w n = le w m → n = m := by
  induction w with
  | zero =>
    intro n m hn hm _
    simp at hn hm
    omega
  | succ w ih =>
    intro n m hn hm h
    simp only [le, List.cons.injEq] at h
    rw [Nat.pow_succ, Nat.mul_comm] at hn hm
    have := ih (n / 256) (m / 256) (Nat.div_lt_of_lt_mul hn) (Nat.div_lt_of_lt_mul hm) h.2
    -- `n = 256 * (n / 256) + n % 256`, likewise `m`
    omega

theorem flat_nil : flat [] = [] := rfl
theorem flat_cons (t : Tok) (ts : List Tok) : flat (t :: ts) = t.flat ++ flat ts := by
  simp [flat]
theorem flat_append (a b : List Tok) : flat (a ++ b) = flat a ++ flat b := by
  simp [flat]
theorem flat_flatten (ss : List (List Tok)) : flat ss.flatten = ss.flatMap flat := by
  induction ss with
  | nil => rfl
  | cons s ss ih => simp [flat_append, ih]

theorem flat_seqToks (blk : Bool) (ss : List (List Tok)) :
    flat (seqToks blk ss) = le 8 ss.length ++ ss.flatMap flat := by
  cases blk <;> simp [seqToks, flat_cons, Tok.flat, flat_flatten, flat_nil]

theorem flat_strToks (s : List Nat) : flat (strToks s) = s ++ [255] := by
  simp [strToks, flat_cons, Tok.flat, flat_nil, le]

theorem flat_map_u64 (l : List Nat) : flat (l.map Tok.u64) = l.flatMap (le 8) :=
  List.flatMap_map ..

theorem flat_setToks (h : List Tok → UInt64) (ss : List (List Tok)) :
    flat (setToks h ss) =
      le 8 ss.length ++ ((ss.map fun s => (h s).toNat).mergeSort leB).flatMap (le 8) := by
  simp [setToks, flat_cons, Tok.flat, flat_map_u64]

theorem flat_discToks (d : Nat) (p : List Tok) : flat (discToks d p) = le 8 d ++ flat p := by
  simp [discToks, flat_cons, Tok.flat]

/-- `s`, `t`: the byte codes of two values, `R`: what equal codes say of them.  The continuations `x y` make it
compose: the rest `x = y` is what the next field's `Core` is applied to. -/
def Core (s t : List Nat) (R : Prop) : Prop := ∀ x y, s ++ x = t ++ y → R ∧ x = y

theorem Core.of_eq {s t R} (c : Core s t R) (e : s = t) : R :=
  (c [] [] (by rw [e])).1

theorem Core.imp {s t R R'} (c : Core s t R) (i : R → R') : Core s t R' :=
  fun x y e => (c x y e).imp i id

/-- a field after a field; the second may be read knowing the first (a length, a discriminant) -/
theorem Core.append {s1 t1 s2 t2 R1 R2} (c1 : Core s1 t1 R1) (c2 : R1 → Core s2 t2 R2) :
    Core (s1 ++ s2) (t1 ++ t2) (R1 ∧ R2) := by
  intro x y h
  simp only [List.append_assoc] at h
  obtain ⟨r1, h'⟩ := c1 _ _ h
  obtain ⟨r2, h''⟩ := c2 r1 _ _ h'
  exact ⟨⟨r1, r2⟩, h''⟩

theorem core_le {w : Nat} {n m : Nat} (hn : n < 2 ^ (8 * w)) (hm : m < 2 ^ (8 * w)) :
    Core (le w n) (le w m) (n = m) := by
  rw [Nat.pow_mul] at hn hm
  intro x y h
  obtain ⟨h1, h2⟩ := List.append_inj h (by simp [le_length])
  exact ⟨le_inj w n m hn hm h1, h2⟩

theorem core_seq {α} {g : α → List Nat} {R : α → α → Prop} :
    ∀ (l1 l2 : List α), l1.length = l2.length → (∀ a ∈ l1, ∀ b ∈ l2, Core (g a) (g b) (R a b)) →
      Core (l1.flatMap g) (l2.flatMap g) (All2 R l1 l2)
  | [], [], _, _ => fun x y h => ⟨trivial, by simpa using h⟩
  | [], _ :: _, hl, _ => by simp at hl
  | _ :: _, [], hl, _ => by simp at hl
  | a :: l1, b :: l2, hl, H => by
    simp only [List.flatMap_cons]
    exact (H a (by simp) b (by simp)).append fun _ => core_seq l1 l2 (by simpa using hl)
      (fun a' ha b' hb => H a' (by simp [ha]) b' (by simp [hb]))

/-- `str`: UTF-8 never contains 0xff, so the string is what stands before the first 0xff -/
theorem core_str (s1 s2 : List Nat) (h1 : StrOk s1) (h2 : StrOk s2) : Core (s1 ++ [255]) (s2 ++ [255]) (s1 = s2) := by
  intro x y h
  have tw : ∀ s z, StrOk s → (s ++ [255] ++ z).takeWhile (· < 255) = s := fun s z hs => by
    simp [List.takeWhile_append_of_pos (p := (· < 255)) (fun a ha => decide_eq_true (hs a ha))]
  have e : s1 = s2 := by rw [← tw s1 x h1, h, tw s2 y h2]
  subst e
  exact ⟨rfl, List.append_cancel_left h⟩

theorem core_set {α} (h : List Tok → UInt64) (f : α → List Tok) (R : α → α → Prop) (l1 l2 : List α)
    (h1 : LenOk l1) (h2 : LenOk l2) (H : ∀ a ∈ l1, ∀ b ∈ l2, h (f a) = h (f b) → R a b) :
    Core (flat (setToks h (l1.map f))) (flat (setToks h (l2.map f))) (PermBy R l1 l2) := by
  simp only [flat_setToks, List.length_map, List.map_map]
  have lt : ∀ (l : List α), ∀ n ∈ (l.map ((fun s => (h s).toNat) ∘ f)).mergeSort leB, n < 2 ^ (8 * 8) := by
    intro l n hn
    obtain ⟨_, _, rfl⟩ := List.mem_map.1 (List.mem_mergeSort.1 hn)
    exact UInt64.toNat_lt _
  refine ((core_le (w := 8) h1 h2).append fun hl => core_seq (g := le 8) (R := Eq) _ _ (by simp [hl])
    fun a ha b hb => core_le (lt l1 a ha) (lt l2 b hb)).imp fun hs => ?_
  exact permBy_of_map_perm _ (fun a ha b hb e => H a ha b hb (UInt64.toNat_inj.1 e)) (sort_eq_iff_perm.1 (all2_eq.1 hs.2))

end SR.Hash
