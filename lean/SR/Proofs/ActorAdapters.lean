import SR.Proofs.ActorSys
import SR.Actor.Adapters
/-! Transparency of adapters: handlers, single steps, initial state, enabled actions. -/
namespace SR.Actor

variable {σ σ' σ'' η : Type}

structure Transparent (tag : σ → σ') (a : Actor σ) (b : Actor σ') : Prop where
  start : ∀ id, b.start id = (tag (a.start id).1, (a.start id).2)
  msg : ∀ id s src m, b.msg id (tag s) src m = (a.msg id s src m).map tag
  timeout : ∀ id s t, b.timeout id (tag s) t = (a.timeout id s t).map tag
  random : ∀ id s r, b.random id (tag s) r = (a.random id s r).map tag

theorem HRes.map_map (f : σ → σ') (g : σ' → σ'') (r : HRes σ) : (r.map f).map g = r.map (g ∘ f) := by
  cases r with
  | panic => rfl
  | ok ns cmds => cases ns <;> rfl

structure SysWrapped (tag : Nat → σ → σ') (sys : ActorSys σ η) (sys' : ActorSys σ' η) : Prop where
  n : sys'.n = sys.n
  lossy : sys'.lossy = sys.lossy
  maxCrashes : sys'.maxCrashes = sys.maxCrashes
  initNet : sys'.initNet = sys.initNet
  initHist : sys'.initHist = sys.initHist
  recordIn : sys'.recordIn = sys.recordIn
  recordOut : sys'.recordOut = sys.recordOut
  actor : ∀ i, Transparent (tag i) (sys.actor i) (sys'.actor i)

theorem sysWrapped_mapActors (tag : Nat → σ → σ') (sys : ActorSys σ η) (w : Nat → Actor σ → Actor σ')
    (hw : ∀ i, Transparent (tag i) (sys.actor i) (w i (sys.actor i))) : SysWrapped tag sys (sys.mapActors w) :=
  ⟨rfl, rfl, rfl, rfl, rfl, rfl, rfl, hw⟩

theorem lift_actors_getElem? (tag : Nat → σ → σ') (st : St σ η) (i : Nat) :
    (st.lift tag).actors[i]? = (st.actors[i]?).map (tag i) := by
  simp [St.lift, List.getElem?_mapIdx]

/-- `List.mapIdx_set` with its arguments explicit -/
theorem mapIdx_set {α β : Type} (f : Nat → α → β) (l : List α) (i : Nat) (a : α) :
    (l.set i a).mapIdx f = (l.mapIdx f).set i (f i a) :=
  List.mapIdx_set

theorem setActor_lift (tag : Nat → σ → σ') (actors : List σ) (i : Nat) (ns : Option σ) :
    setActor (actors.mapIdx tag) i (ns.map (tag i)) = (setActor actors i ns).mapIdx tag := by
  cases ns with
  | none => rfl
  | some s => exact List.mapIdx_set.symm

theorem applyCmd_lift {tag : Nat → σ → σ'} {sys : ActorSys σ η} {sys' : ActorSys σ' η} (hw : SysWrapped tag sys sys')
    (i : Nat) (st : St σ η) (c : Cmd) :
    applyCmd sys' i (st.lift tag) c = (applyCmd sys i st c).map (St.lift tag) := by
  cases c with
  | send d m => simp [applyCmd, St.lift, hw.recordOut]
  | setTimer t => rfl
  | cancelTimer t =>
    simp only [applyCmd, St.lift]
    cases st.timers[i]? <;> rfl
  | chooseRandom k cs =>
    simp only [applyCmd, St.lift]
    cases st.random[i]? <;> rfl

theorem processCommands_lift {tag : Nat → σ → σ'} {sys : ActorSys σ η} {sys' : ActorSys σ' η}
    (hw : SysWrapped tag sys sys') (i : Nat) (cmds : List Cmd) (st : St σ η) :
    processCommands sys' i cmds (st.lift tag) = (processCommands sys i cmds st).map (St.lift tag) := by
  induction cmds generalizing st with
  | nil => simp [processCommands]
  | cons c cs ih =>
    simp only [processCommands, applyCmd_lift hw]
    cases applyCmd sys i st c with
    | none => simp
    | some st1 => simp [ih]

theorem isNoOp_map (f : σ → σ') (ns : Option σ) (cmds : List Cmd) : isNoOp (ns.map f) cmds = isNoOp ns cmds := by
  cases ns <;> rfl

theorem isNoOpWithTimer_map (f : σ → σ') (ns : Option σ) (cmds : List Cmd) (t : Nat) :
    isNoOpWithTimer (ns.map f) cmds t = isNoOpWithTimer ns cmds t := by
  cases ns <;> rfl

theorem ofOption_map {α β : Type} (f : α → β) (o : Option α) : ofOption (o.map f) = (ofOption o).map f := by
  cases o <;> rfl

theorem Outcome.map_eq_next {α β : Type} {f : α → β} {o : Outcome α} {t' : β} (h : o.map f = .next t') :
    ∃ t, o = .next t ∧ t' = f t := by
  cases o with
  | next t => cases h; exact ⟨t, rfl, rfl⟩
  | panic => cases h
  | ignored => cases h

/-- the end of each handler arm of `step`; the fields are spelt out so that it rewrites the arms as `step` writes them -/
theorem ofOption_processCommands_lift {tag : Nat → σ → σ'} {sys : ActorSys σ η} {sys' : ActorSys σ' η}
    (hw : SysWrapped tag sys sys') (i : Nat) (cmds : List Cmd) (ns : Option σ) (actors : List σ) (net : Net)
    (timers : List (List Nat)) (random : List (List (Nat × List Nat))) (crashed : List Bool) (hist : η) :
    ofOption (processCommands sys' i cmds
        ⟨setActor (actors.mapIdx tag) i (ns.map (tag i)), net, timers, random, crashed, hist⟩) =
      (ofOption (processCommands sys i cmds ⟨setActor actors i ns, net, timers, random, crashed, hist⟩)).map
        (St.lift tag) := by
  rw [← ofOption_map, ← processCommands_lift hw]
  simp only [St.lift, setActor_lift]

theorem step_lift {tag : Nat → σ → σ'} {sys : ActorSys σ η} {sys' : ActorSys σ' η} (hw : SysWrapped tag sys sys')
    (st : St σ η) (a : Action) :
    step sys' (st.lift tag) a = (step sys st a).map (St.lift tag) := by
  -- branch by branch of `step sys st a`: the wrapped system takes the same branch, since the tests read components that
  -- `lift` leaves alone, the actor's state through `tag` and the handler's answer through `Transparent`; the three
  -- branches that run the handler's commands end in `ofOption_processCommands_lift`
  fun_cases step sys st a <;>
    simp only [step, ↓lift_actors_getElem?, St.lift, *, Option.map_some, Option.map_none, (hw.actor _).msg,
      (hw.actor _).timeout, (hw.actor _).random, HRes.map, isNoOp_map, isNoOpWithTimer_map, hw.initNet, hw.recordIn,
      if_true, if_false, Bool.false_eq_true, ofOption_processCommands_lift hw] <;>
    rfl

theorem netActions_congr {sys : ActorSys σ η} {sys' : ActorSys σ' η} (h1 : sys'.lossy = sys.lossy)
    (h2 : sys'.n = sys.n) (h3 : sys'.initNet = sys.initNet) (prev : Option (Nat × Nat)) (L : List Env) :
    netActions sys' prev L = netActions sys prev L := by
  induction L generalizing prev with
  | nil => rfl
  | cons e es ih => simp only [netActions, h1, h2, h3, ih]

theorem actions_lift {tag : Nat → σ → σ'} {sys : ActorSys σ η} {sys' : ActorSys σ' η} (hw : SysWrapped tag sys sys')
    (st : St σ η) : actions sys' (st.lift tag) = actions sys st := by
  simp only [actions, St.lift, netActions_congr hw.lossy hw.n hw.initNet, hw.maxCrashes]

theorem specInit_lift {tag : Nat → σ → σ'} {sys : ActorSys σ η} {sys' : ActorSys σ' η} (hw : SysWrapped tag sys sys') :
    specInit sys' = (specInit sys).lift tag := by
  simp only [specInit, St.lift, hw.n, hw.initNet, hw.initHist, (hw.actor _).start, List.map_map]
  have hrec : ∀ h es, recordOuts sys' h es = recordOuts sys h es := by
    intro h es
    simp [recordOuts, hw.recordOut]
  rw [hrec]
  congr 1
  apply List.ext_getElem?
  intro j
  by_cases hj : j < sys.n
  · simp [List.getElem?_mapIdx, List.getElem?_range hj]
  · have : (List.range sys.n)[j]? = none := List.getElem?_eq_none (by simpa using Nat.le_of_not_lt hj)
    simp [List.getElem?_mapIdx, this]

theorem lift_injective {tag : Nat → σ → σ'} (hinj : ∀ i s t, tag i s = tag i t → s = t) (a b : St σ η)
    (h : a.lift tag = b.lift tag) : a = b := by
  obtain ⟨aa, an, at_, ar, ac, ah⟩ := a
  obtain ⟨ba, bn, bt, br, bc, bh⟩ := b
  simp only [St.lift, St.mk.injEq] at h
  obtain ⟨h1, rfl, rfl, rfl, rfl, rfl⟩ := h
  congr
  apply List.ext_getElem?
  intro j
  have := congrArg (·[j]?) h1
  simp only [List.getElem?_mapIdx] at this
  exact Option.map_injective (hinj j) this

end SR.Actor
