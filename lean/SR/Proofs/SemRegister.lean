import SR.Sem.RegisterClient
import SR.Proofs.SemAMap
import SR.Proofs.ListAux
/-!
Invariants of the register harness (`SR/Sem/RegisterClient.lean`, `Step`) under an arbitrary at-most-once
environment, and the `HistView`s of the two testers. A client's step is an optional accepted reply, then
what its handler `Sends`. At the end: what `init_states` computes is a `Reach`able state (`init_reach`).
-/
namespace SR.Sem.RC
open SR.Sem SR.Sem.AMap
variable {H Op Ret : Type}

theorem recordInvocations_eq (I : Iface H Op Ret) (h : H) (src : Nat) (m : RMsg) :
    recordInvocations I h src m = (opOfMsg I m).map (I.onInvoke h src) := by
  cases m <;> rfl

theorem recordReturns_eq (I : Iface H Op Ret) (wo : Bool) (h : H) (dst : Nat) (m : RMsg) :
    recordReturns I wo h dst m = (retOfMsg I wo m).map (I.onReturn h dst) := by
  cases m <;> try rfl
  simp only [recordReturns, retOfMsg]
  split <;> rfl

theorem deliverClient_acted (I : Iface H Op Ret) {wo ordered : Bool} {cl : Client} {sys : RSys H} {c : Nat} {m : RMsg}
    {st st' : CState} {outs : List Send} (hfind : find? c sys.clients = some st)
    (hmsg : cl.onMsg wo c st m = some (st', outs)) :
    deliverClient I wo ordered cl sys c m =
      some { clients := upsert c st' sys.clients,
             hist := processSends I c (((retOfMsg I wo m).map (I.onReturn sys.hist c)).getD sys.hist) outs } := by
  simp only [deliverClient, hfind, hmsg, recordReturns_eq]

theorem ordered_of_deliverClient_ignored (I : Iface H Op Ret) {wo ordered : Bool} {cl : Client} {sys sys' : RSys H} {c : Nat}
    {m : RMsg} {st : CState} (hfind : find? c sys.clients = some st) (hmsg : cl.onMsg wo c st m = none)
    (hdel : deliverClient I wo ordered cl sys c m = some sys') : ordered = true := by
  simp only [deliverClient, hfind, hmsg] at hdel
  by_cases ho : ordered = true
  · exact ho
  · rw [if_neg ho] at hdel
    cases hdel

theorem retOfMsg_isSome_of_isReply (I : Iface H Op Ret) {wo : Bool} {m : RMsg} (h : IsReply wo m) :
    ∃ r, retOfMsg I wo m = some r := by
  cases m with
  | putOk r => exact ⟨_, rfl⟩
  | getOk r v => exact ⟨_, rfl⟩
  | putFail r => exact ⟨_, if_pos h⟩
  | internal | put _ _ | get _ => exact h.elim

theorem processSends_single (I : Iface H Op Ret) (c : Nat) (h : H) (o : Send) {op : Op}
    (hop : opOfMsg I o.2 = some op) : processSends I c h [o] = I.onInvoke h c op := by
  simp [processSends, recordInvocations_eq, hop]

def CEv.client : CEv → Nat
  | .send c _ => c
  | .acc c _ => c

theorem mirror_append (I : Iface H Op Ret) (wo : Bool) (c : Nat) (l1 l2 : List CEv) :
    mirror I wo c (l1 ++ l2) = l2.foldl (mirrorStep I wo c) (mirror I wo c l1) := by
  simp [mirror, List.foldl_append]

theorem ridsOf_append (c : Nat) (l1 l2 : List CEv) : ridsOf c (l1 ++ l2) = ridsOf c l1 ++ ridsOf c l2 := by
  simp [ridsOf, List.filterMap_append]

theorem mirrorStep_other (I : Iface H Op Ret) (wo : Bool) {c : Nat} {e : CEv} (hne : e.client ≠ c)
    (acc : List (Op × Ret) × Option Op) : mirrorStep I wo c acc e = acc := by
  cases e <;> exact if_neg hne

theorem mirror_other (I : Iface H Op Ret) (wo : Bool) {c c' : Nat} (hne : c' ≠ c) (acc : List (Op × Ret) × Option Op)
    (l : List CEv) (hl : ∀ e ∈ l, e.client = c') : l.foldl (mirrorStep I wo c) acc = acc := by
  induction l with
  | nil => rfl
  | cons e l ih =>
    rw [List.foldl_cons, mirrorStep_other I wo (hl e List.mem_cons_self ▸ hne)]
    exact ih (fun e' he' => hl e' (List.mem_cons_of_mem _ he'))

theorem ridsOf_other {c c' : Nat} (hne : c' ≠ c) (l : List CEv) (hl : ∀ e ∈ l, e.client = c') : ridsOf c l = [] := by
  unfold ridsOf
  rw [List.filterMap_eq_nil_iff]
  intro e he
  have := hl e he
  cases e with
  | send x m => exact if_neg (fun e => hne (this.symm.trans e))
  | acc x m => rfl

theorem logOf_client (c : Nat) (outs : List Send) : ∀ e ∈ logOf c outs, e.client = c :=
  List.forall_mem_map.2 fun _ _ => rfl

theorem sentOf_client (c : Nat) (outs : List Send) : ∀ x ∈ sentOf c outs, x.1 = c :=
  List.forall_mem_map.2 fun _ _ => rfl

/-- client `c` awaits a request iff the tester shows thread `c` in flight, has used the ids `1*c, 2*c, …`,
    and the tester's record of the thread is the `mirror` of its events -/
structure ClientInv (cfg : Cfg) (I : Iface H Op Ret) (V : HistView I) (h : H) (log : List CEv) (snt : List (Nat × Nat))
    (c : Nat) (st : CState) : Prop where
  idx : cfg.nServers ≤ c
  idle : st.awaiting = none → V.inflight h c = none
  busy : ∀ r, st.awaiting = some r → r = st.opCount * c ∧ 1 ≤ st.opCount ∧ (V.inflight h c).isSome = true
  -- `op_count` goes up on accept, not on send: an idle client has used one id fewer
  rids : ridsOf c log = (List.range (if st.awaiting.isSome then st.opCount else st.opCount - 1)).map fun j => (j + 1) * c
  mirr : (V.done h c, V.inflight h c) = mirror I cfg.wo c log
  sent : ∀ r, (c, r) ∈ snt ↔ r ∈ ridsOf c log

/-- an index without client state: a server, a client not started yet, no actor at all -/
structure OtherInv (cfg : Cfg) (I : Iface H Op Ret) (V : HistView I) (h : H) (log : List CEv) (snt : List (Nat × Nat))
    (c : Nat) : Prop where
  infl : V.inflight h c = none
  done : V.done h c = []
  sent : ∀ r, (c, r) ∉ snt
  mirr : mirror I cfg.wo c log = ([], none)
  rids : ridsOf c log = []

/-- the last five fields are the at-most-once environment: only sent requests are answered, and an
    unanswered one is still awaited -/
structure HInv (cfg : Cfg) (I : Iface H Op Ret) (V : HistView I) (s : HSt H) : Prop where
  good : V.good s.sys.hist
  valid : V.valid s.sys.hist = true
  cSorted : Sorted s.sys.clients
  cBound : ∀ c, c ∈ keys s.sys.clients → c < cfg.nServers + s.sys.clients.length
  cLen : s.sys.clients.length ≤ cfg.clients.length
  client : ∀ c st, find? c s.sys.clients = some st → ClientInv cfg I V s.sys.hist s.log s.sent c st
  other : ∀ c, find? c s.sys.clients = none → OtherInv cfg I V s.sys.hist s.log s.sent c
  poolReply : ∀ c m, (c, m) ∈ s.pool → IsReply cfg.wo m ∧ (c, ridOf m) ∈ s.replied
  repliedSent : ∀ x, x ∈ s.replied → x ∈ s.sent
  pending : ∀ c r, (c, r) ∈ s.sent → (c, r) ∉ s.replied → ∃ st, find? c s.sys.clients = some st ∧ st.awaiting = some r
  poolNodup : cfg.dup = false → (s.pool.map fun x => (x.1, ridOf x.2)).Nodup
  poolAwait : cfg.dup = false → ∀ c m, (c, m) ∈ s.pool → ∃ st, find? c s.sys.clients = some st ∧ st.awaiting = some (ridOf m)

/-- hypotheses on the initial history: a fresh tester -/
structure _root_.SR.C18.Fresh {I : Iface H Op Ret} (V : HistView I) (h0 : H) : Prop where
  good : V.good h0
  valid : V.valid h0 = true
  empty : ∀ t, V.inflight h0 t = none ∧ V.done h0 t = []

theorem hinv_init (cfg : Cfg) {I : Iface H Op Ret} {V : HistView I} {h0 : H} (hf : C18.Fresh V h0) :
    HInv cfg I V (HSt.init h0) := by
  refine ⟨hf.good, hf.valid, sorted_nil, ?_, Nat.zero_le _, ?_, ?_, ?_, ?_, ?_, fun _ => List.nodup_nil, ?_⟩
  · intro c hc
    cases hc
  · intro c st h
    cases h
  · intro c _; exact ⟨(hf.empty c).1, (hf.empty c).2, (fun _ h => nomatch h), rfl, rfl⟩
  · intro c m h
    cases h
  · intro x h
    cases h
  · intro c r h
    cases h
  · intro _ c m h
    cases h

theorem HInv.find?_next {cfg : Cfg} {I : Iface H Op Ret} {V : HistView I} {s : HSt H} (hI : HInv cfg I V s) :
    find? (cfg.nServers + s.sys.clients.length) s.sys.clients = none :=
  find?_eq_none_iff.2 fun hk => Nat.lt_irrefl _ (hI.cBound _ hk)

theorem clientAt_actors {cfg : Cfg} {c : Nat} {cl : Client} (h : clientAt cfg.actors c = some cl) :
    cl ∈ cfg.clients ∧ cfg.nServers ≤ c := by
  unfold clientAt Cfg.actors at h
  by_cases hc : c < cfg.nServers
  · rw [List.getElem?_append_left (by simp; exact hc)] at h
    simp [hc] at h
  · rw [List.getElem?_append_right (by simp; omega)] at h
    simp only [List.length_replicate, List.getElem?_map] at h
    cases hg : cfg.clients[c - cfg.nServers]? with
    | none => simp [hg] at h
    | some x =>
      simp only [hg, Option.map_some, Option.some.injEq] at h
      subst h
      exact ⟨List.mem_of_getElem? hg, by omega⟩

/-- All a handler of client `c` can leave behind, `on_start` (`start_sends`) and `on_msg` (`onMsg_sends`) alike, with `n` the
    count after it: idle and nothing sent, or one request with the id `n * c`, which is then awaited. -/
inductive Sends (I : Iface H Op Ret) (c n : Nat) : CState → List Send → Prop
  | idle : Sends I c n { awaiting := none, opCount := n } []
  | request {o : Send} {op : Op} : 1 ≤ n → opOfMsg I o.2 = some op → ridOf o.2 = n * c →
      Sends I c n { awaiting := some (n * c), opCount := n } [o]

theorem Sends.awaiting_of_sent {I : Iface H Op Ret} {c n r : Nat} {st : CState} {outs : List Send}
    (hs : Sends I c n st outs) (h : (c, r) ∈ sentOf c outs) : st.awaiting = some r := by
  cases hs with
  | idle => cases h
  | request _ _ hrid =>
    cases List.mem_singleton.1 h
    exact congrArg some hrid.symm

theorem start_cases {c : Client} {i : Nat} {st : CState} {outs : List Send} (h : c.start i = some (st, outs)) :
    (st = { awaiting := none, opCount := 0 } ∧ outs = []) ∨
    (∃ d v, st = { awaiting := some (1 * i), opCount := 1 } ∧ outs = [(d, .put (1 * i) v)]) := by
  unfold Client.start at h
  split at h
  · cases h
  · split at h
    · cases h
      exact Or.inl ⟨rfl, rfl⟩
    · split at h
      · cases h
      · cases h
        exact Or.inr ⟨_, _, rfl, rfl⟩

theorem start_sends (I : Iface H Op Ret) {cl : Client} {i : Nat} {st : CState} {outs : List Send}
    (h : cl.start i = some (st, outs)) : ∃ n, n ≤ 1 ∧ Sends I i n st outs := by
  rcases start_cases h with ⟨rfl, rfl⟩ | ⟨d, v, rfl, rfl⟩
  · exact ⟨0, Nat.zero_le 1, Sends.idle⟩
  · exact ⟨1, Nat.le_refl 1, Sends.request (Nat.le_refl 1) rfl rfl⟩

theorem ridOf_nextReq (cl : Client) (c k : Nat) : ridOf (cl.nextReq c k).2 = (k + 1) * c := by
  unfold Client.nextReq
  split <;> rfl

theorem opOfMsg_nextReq (I : Iface H Op Ret) (cl : Client) (c k : Nat) : ∃ op, opOfMsg I (cl.nextReq c k).2 = some op := by
  unfold Client.nextReq
  split <;> exact ⟨_, rfl⟩

theorem sends_nextReq (I : Iface H Op Ret) (cl : Client) (c k : Nat) :
    Sends I c (k + 1) { awaiting := some ((k + 1) * c), opCount := k + 1 } [cl.nextReq c k] := by
  obtain ⟨op, hop⟩ := opOfMsg_nextReq I cl c k
  exact Sends.request (Nat.le_add_left 1 k) hop (ridOf_nextReq cl c k)

theorem onMsg_isSome_of_awaiting {wo : Bool} {cl : Client} {c : Nat} {st : CState} {m : RMsg}
    (hr : IsReply wo m) (ha : st.awaiting = some (ridOf m)) : ∃ x, cl.onMsg wo c st m = some x := by
  cases m with
  | putOk r => simp [Client.onMsg, ha, ridOf]
  | getOk r v => simp [Client.onMsg, ha, ridOf]
  | putFail r => simp [Client.onMsg, ha, ridOf, show wo = true from hr]
  | internal | put _ _ | get _ => exact hr.elim

theorem onMsg_some {wo : Bool} {cl : Client} {c : Nat} {st st' : CState} {m : RMsg} {outs : List Send}
    (h : cl.onMsg wo c st m = some (st', outs)) :
    st.awaiting = some (ridOf m) ∧ IsReply wo m ∧
    ((st' = { awaiting := some ((st.opCount + 1) * c), opCount := st.opCount + 1 } ∧ outs = [cl.nextReq c st.opCount]) ∨
     (st' = { awaiting := none, opCount := st.opCount + 1 } ∧ outs = [])) := by
  revert h
  fun_cases Client.onMsg wo cl c st m
  -- cases 2, 4, 6: `PutOk`, `PutFail`, `GetOk` carrying the awaited id; in the other five the handler returns `none`
  case case2 ha =>
    rintro ⟨⟩
    exact ⟨ha, trivial, .inl ⟨rfl, rfl⟩⟩
  case case4 ha _ e =>
    rintro ⟨⟩
    obtain ⟨e1, e2⟩ := Bool.and_eq_true_iff.1 e
    exact ⟨of_decide_eq_true e2 ▸ ha, e1, .inl ⟨rfl, rfl⟩⟩
  case case6 ha =>
    rintro ⟨⟩
    exact ⟨ha, trivial, .inr ⟨rfl, rfl⟩⟩
  all_goals exact nofun

theorem onMsg_sends (I : Iface H Op Ret) {wo : Bool} {cl : Client} {c : Nat} {st st' : CState} {m : RMsg} {outs : List Send}
    (h : cl.onMsg wo c st m = some (st', outs)) :
    st.awaiting = some (ridOf m) ∧ IsReply wo m ∧ Sends I c (st.opCount + 1) st' outs := by
  obtain ⟨haw, hrep, ⟨rfl, rfl⟩ | ⟨rfl, rfl⟩⟩ := onMsg_some h
  · exact ⟨haw, hrep, sends_nextReq I cl c st.opCount⟩
  · exact ⟨haw, hrep, Sends.idle⟩

section client
variable {cfg : Cfg} {I : Iface H Op Ret} {V : HistView I} {h h' : H} {log : List CEv} {snt : List (Nat × Nat)} {c : Nat}

/-- what the hooks of one turn of client `c` do to the other clients' invariants -/
structure Frame (V : HistView I) (c : Nat) (h h' : H) : Prop where
  good : V.good h'
  valid : V.valid h' = true
  inflight : ∀ t, t ≠ c → V.inflight h' t = V.inflight h t
  done : ∀ t, t ≠ c → V.done h' t = V.done h t

theorem Frame.refl (hg : V.good h) (hv : V.valid h = true) : Frame V c h h :=
  ⟨hg, hv, fun _ _ => rfl, fun _ _ => rfl⟩

theorem Frame.trans {h'' : H} (h1 : Frame V c h h') (h2 : Frame V c h' h'') : Frame V c h h'' :=
  ⟨h2.good, h2.valid, fun t ht => (h2.inflight t ht).trans (h1.inflight t ht),
    fun t ht => (h2.done t ht).trans (h1.done t ht)⟩

theorem ClientInv.frame {ev : List CEv} {snt2 : List (Nat × Nat)} {k : Nat} {st : CState} (hk : c ≠ k)
    (hc : ClientInv cfg I V h log snt k st) (hF : Frame V c h h')
    (hev : ∀ e ∈ ev, e.client = c) (hs : ∀ x ∈ snt2, x.1 = c) : ClientInv cfg I V h' (log ++ ev) (snt ++ snt2) k st := by
  have hinf := hF.inflight k (Ne.symm hk)
  have hrids : ridsOf k (log ++ ev) = ridsOf k log := by
    rw [ridsOf_append, ridsOf_other hk _ hev, List.append_nil]
  refine ⟨hc.idx, ?_, ?_, hrids ▸ hc.rids, ?_, ?_⟩
  · intro h0
    rw [hinf]
    exact hc.idle h0
  · intro r h0
    rw [hinf]
    exact hc.busy r h0
  · rw [hinf, hF.done k (Ne.symm hk), mirror_append, mirror_other I cfg.wo hk _ _ hev]
    exact hc.mirr
  · intro r
    rw [hrids, List.mem_append, hc.sent r]
    exact or_iff_left (fun h0 => hk (hs _ h0).symm)

theorem OtherInv.frame {ev : List CEv} {snt2 : List (Nat × Nat)} {k : Nat} (hk : c ≠ k)
    (hc : OtherInv cfg I V h log snt k) (hF : Frame V c h h')
    (hev : ∀ e ∈ ev, e.client = c) (hs : ∀ x ∈ snt2, x.1 = c) : OtherInv cfg I V h' (log ++ ev) (snt ++ snt2) k := by
  refine ⟨hF.inflight k (Ne.symm hk) ▸ hc.infl, hF.done k (Ne.symm hk) ▸ hc.done, ?_, ?_, ?_⟩
  · intro r h0
    rcases List.mem_append.1 h0 with h0 | h0
    · exact hc.sent r h0
    · exact hk (hs _ h0).symm
  · rw [mirror_append, mirror_other I cfg.wo hk _ _ hev]
    exact hc.mirr
  · rw [ridsOf_append, ridsOf_other hk _ hev, List.append_nil]
    exact hc.rids

theorem ClientInv.nodup_rids {st : CState} (hc : ClientInv cfg I V h log snt c st) (h1 : 1 ≤ c) : (ridsOf c log).Nodup := by
  rw [hc.rids]
  exact List.Pairwise.map _ (fun a b hab => Nat.ne_of_lt (Nat.mul_lt_mul_of_pos_right (Nat.succ_lt_succ hab) h1))
    List.pairwise_lt_range

theorem ClientInv.last_rid {st : CState} {r : Nat} (hc : ClientInv cfg I V h log snt c st) (ha : st.awaiting = some r) :
    (ridsOf c log).getLast? = some r := by
  obtain ⟨h1, h2, _⟩ := hc.busy r ha
  obtain ⟨n, hn⟩ : ∃ n, st.opCount = n + 1 := ⟨st.opCount - 1, by omega⟩
  rw [hc.rids, ha, h1, hn]
  -- the last of `1*c, …, (n+1)*c`
  simp [List.range_succ]

theorem OtherInv.toClient (ho : OtherInv cfg I V h log snt c) (hidx : cfg.nServers ≤ c) {n : Nat} (hn : n ≤ 1) :
    ClientInv cfg I V h log snt c { awaiting := none, opCount := n } := by
  refine ⟨hidx, fun _ => ho.infl, (fun _ h0 => nomatch h0), ?_, ?_, ?_⟩
  · rw [ho.rids, show (if (none : Option Nat).isSome then n else n - 1) = 0 from Nat.sub_eq_zero_of_le hn]
    rfl
  · rw [ho.mirr, ho.infl, ho.done]
  · intro r
    rw [ho.rids]
    exact iff_of_false (ho.sent r) List.not_mem_nil

theorem ClientInv.accept {st : CState} {m : RMsg} {r : Ret} (hc : ClientInv cfg I V h log snt c st)
    (hg : V.good h) (hv : V.valid h = true) (ha : st.awaiting = some (ridOf m)) (hr : retOfMsg I cfg.wo m = some r) :
    Frame V c h (I.onReturn h c r) ∧
    ClientInv cfg I V (I.onReturn h c r) (log ++ [.acc c m]) snt c { awaiting := none, opCount := st.opCount + 1 } := by
  obtain ⟨op, hop⟩ := Option.isSome_iff_exists.1 (hc.busy _ ha).2.2
  obtain ⟨r1, r2, r3, r4, r5, r6⟩ := V.ret_ok h c op r hg hv hop
  have hrids : ridsOf c (log ++ [.acc c m]) = ridsOf c log := by
    rw [ridsOf_append]
    exact List.append_nil _
  refine ⟨⟨r1, r2, r4, r6⟩, hc.idx, fun _ => r3, (fun _ h0 => nomatch h0), ?_, ?_, ?_⟩
  · rw [hrids, hc.rids, ha]
    rfl
  · rw [mirror_append, ← hc.mirr, hop, r3, r5]
    -- the mirror moves the outstanding operation, paired with `r`, to the completed ones
    simp [mirrorStep, hr]
  · intro x
    rw [hrids]
    exact hc.sent x

theorem ClientInv.sends {n : Nat} {st : CState} {outs : List Send}
    (hc : ClientInv cfg I V h log snt c { awaiting := none, opCount := n }) (hg : V.good h) (hv : V.valid h = true)
    (hs : Sends I c n st outs) :
    Frame V c h (processSends I c h outs) ∧
    ClientInv cfg I V (processSends I c h outs) (log ++ logOf c outs) (snt ++ sentOf c outs) c st := by
  cases hs with
  | idle =>
    rw [show log ++ logOf c [] = log from List.append_nil log, show snt ++ sentOf c [] = snt from List.append_nil snt]
    exact ⟨Frame.refl hg hv, hc⟩
  | @request o op h1 hop hrid =>
    obtain ⟨g1, g2, g3, g4, g5⟩ := V.inv_ok h c op hg hv (hc.idle rfl)
    have hrids : ridsOf c (log ++ logOf c [o]) = ridsOf c log ++ [n * c] := by
      rw [ridsOf_append, ← hrid]
      simp [logOf, ridsOf]
    rw [processSends_single I c h o hop]
    refine ⟨⟨g1, g2, g4, fun t _ => g5 t⟩, hc.idx, (fun h0 => nomatch h0), ?_, ?_, ?_, ?_⟩
    · intro r h0
      cases h0
      exact ⟨rfl, h1, by rw [g3]; rfl⟩
    · obtain ⟨k, rfl⟩ : ∃ k, n = k + 1 := ⟨n - 1, by omega⟩
      rw [hrids, hc.rids]
      -- `1*c, …, k*c` followed by `(k+1)*c`
      simp [List.range_succ]
    · rw [g3, g5 c, mirror_append, ← hc.mirr]
      simp [logOf, mirrorStep, hop]
    · intro r
      rw [hrids, List.mem_append, List.mem_append, hc.sent r, ← hrid]
      simp [sentOf]

theorem HInv.pool_sublist {s : HSt H} (hI : HInv cfg I V s) {pool' : List (Nat × RMsg)} (hsub : pool'.Sublist s.pool) :
    HInv cfg I V { s with pool := pool' } := by
  refine ⟨hI.good, hI.valid, hI.cSorted, hI.cBound, hI.cLen, hI.client, hI.other, ?_, hI.repliedSent, hI.pending, ?_, ?_⟩
  · intro k m hm
    exact hI.poolReply k m (hsub.subset hm)
  · intro hd
    exact (hI.poolNodup hd).sublist (hsub.map _)
  · intro hd k m hm
    exact hI.poolAwait hd k m (hsub.subset hm)

/-- a turn of client `c`, which is at rest towards the environment (`hrest`: the request it awaits, if any, is
    answered, and no reply to it is left in a pool that does not duplicate): events `pre` of its own have brought
    the history to `h1` and left it idle with count `n`, then its handler `Sends`; the client map gains `d` entries
    (one at a start, none at a delivery) -/
theorem HInv.turn {s : HSt H} (hI : HInv cfg I V s) {n : Nat} {st' : CState} {outs : List Send} {h1 : H}
    {pre : List CEv} {d : Nat} (hs : Sends I c n st' outs)
    (hcl : (upsert c st' s.sys.clients).length = s.sys.clients.length + d)
    (hck : c < cfg.nServers + s.sys.clients.length + d) (hlen : s.sys.clients.length + d ≤ cfg.clients.length)
    (hF : Frame V c s.sys.hist h1) (hpre : ∀ e ∈ pre, e.client = c)
    (hc : ClientInv cfg I V h1 (s.log ++ pre) s.sent c { awaiting := none, opCount := n })
    (hrest : ∀ st r, find? c s.sys.clients = some st → st.awaiting = some r →
      (c, r) ∈ s.replied ∧ (cfg.dup = false → ∀ m, (c, m) ∈ s.pool → ridOf m ≠ r)) :
    HInv cfg I V
      { sys := { clients := upsert c st' s.sys.clients, hist := processSends I c h1 outs }, pool := s.pool,
        sent := s.sent ++ sentOf c outs, replied := s.replied, log := s.log ++ (pre ++ logOf c outs) } := by
  obtain ⟨hF2, hc2⟩ := hc.sends hF.good hF.valid hs
  rw [List.append_assoc] at hc2
  have hF' := hF.trans hF2
  have hsn := sentOf_client c outs
  have hev := List.forall_mem_append.2 ⟨hpre, logOf_client c outs⟩
  refine ⟨hF'.good, hF'.valid, sorted_upsert hI.cSorted, ?_, hcl ▸ hlen, ?_, ?_, hI.poolReply, ?_, ?_, hI.poolNodup, ?_⟩
  · intro k hk
    rw [hcl, ← Nat.add_assoc]
    rcases mem_keys_upsert.1 hk with rfl | hk
    · exact hck
    · exact Nat.lt_add_right d (hI.cBound k hk)
  · intro k stk hf
    rw [find?_upsert] at hf
    by_cases e : c = k
    · subst e
      rw [if_pos rfl] at hf
      cases hf
      exact hc2
    · rw [if_neg e] at hf
      exact (hI.client k stk hf).frame e hF' hev hsn
  · intro k hf
    rw [find?_upsert] at hf
    by_cases e : c = k
    · rw [if_pos e] at hf
      cases hf
    · rw [if_neg e] at hf
      exact (hI.other k hf).frame e hF' hev hsn
  · intro x hx
    exact List.mem_append_left _ (hI.repliedSent x hx)
  · intro k r h1 h2
    rcases List.mem_append.1 h1 with h1 | h1
    · obtain ⟨st0, h3, h4⟩ := hI.pending k r h1 h2
      by_cases e : c = k
      · subst e
        exact absurd (hrest st0 r h3 h4).1 h2
      · exact ⟨st0, (find?_upsert_ne e _ _).trans h3, h4⟩
    · obtain rfl : k = c := hsn _ h1
      exact ⟨st', find?_upsert_self _ _ _, hs.awaiting_of_sent h1⟩
  · intro hd k m hm
    obtain ⟨st0, h3, h4⟩ := hI.poolAwait hd k m hm
    by_cases e : c = k
    · subst e
      exact absurd rfl ((hrest st0 _ h3 h4).2 hd m hm)
    · exact ⟨st0, (find?_upsert_ne e _ _).trans h3, h4⟩

theorem HInv.nodup_rids {s : HSt H} (hcfg : cfg.Ok) (hI : HInv cfg I V s) (c : Nat) : (ridsOf c s.log).Nodup := by
  cases hst : find? c s.sys.clients with
  | some st => exact (hI.client c st hst).nodup_rids (Nat.le_trans hcfg.servers (hI.client c st hst).idx)
  | none =>
    rw [(hI.other c hst).rids]
    exact List.nodup_nil

end client

section steps
variable {cfg : Cfg} {I : Iface H Op Ret} (V : HistView I) {s : HSt H}

theorem no_ignored (hcfg : cfg.Ok) (hI : HInv cfg I V s) {c : Nat} {m : RMsg} {cl : Client} {st : CState} {sys' : RSys H}
    (hpool : (c, m) ∈ s.pool) (hfind : find? c s.sys.clients = some st) (hmsg : cl.onMsg cfg.wo c st m = none)
    (hdel : deliverClient I cfg.wo cfg.ordered cl s.sys c m = some sys') : False := by
  -- an ignored delivery is a step on an ordered network only, which does not duplicate (`Cfg.Ok.net`): the
  -- reply is awaited (`poolAwait`), and an awaited reply is acted upon
  obtain ⟨st0, h3, h4⟩ := hI.poolAwait (hcfg.net (ordered_of_deliverClient_ignored I hfind hmsg hdel)) c m hpool
  rw [hfind] at h3
  cases h3
  obtain ⟨x, hx⟩ := onMsg_isSome_of_awaiting (cl := cl) (c := c) (hI.poolReply c m hpool).1 h4
  rw [hmsg] at hx
  cases hx

theorem step_preserves (hcfg : cfg.Ok) {s' : HSt H} (hI : HInv cfg I V s) (hstep : Step cfg I s s') : HInv cfg I V s' := by
  cases hstep with
  | @start c st outs hcl hstart =>
    have hlen : s.sys.clients.length < cfg.clients.length := (List.getElem?_eq_some_iff.1 hcl).1
    have hnew := hI.find?_next
    have hbound := hI.cBound
    obtain ⟨n, hn, hs⟩ := start_sends I hstart
    generalize hi : cfg.nServers + s.sys.clients.length = i at *
    have ho := hI.other i hnew
    rw [← upsert_of_lt st hbound]
    have hlenU := length_upsert_of_none (v := st) hnew
    exact hI.turn (pre := []) hs hlenU (by omega) hlen (Frame.refl hI.good hI.valid) (fun _ h => nomatch h)
      ((List.append_nil s.log).symm ▸ ho.toClient (hi ▸ Nat.le_add_right _ _) hn) (fun _ _ h => nomatch hnew ▸ h)
  | @emit c m hrep hsent hnrep =>
    refine ⟨hI.good, hI.valid, hI.cSorted, hI.cBound, hI.cLen, hI.client, hI.other, ?_, ?_, ?_, ?_, ?_⟩
    · intro k m' hm
      rcases List.mem_append.1 hm with hm | hm
      · obtain ⟨h1, h2⟩ := hI.poolReply k m' hm
        exact ⟨h1, List.mem_cons_of_mem _ h2⟩
      · cases List.mem_singleton.1 hm
        exact ⟨hrep, List.mem_cons_self⟩
    · intro x hx
      rcases List.mem_cons.1 hx with rfl | hx
      · exact hsent
      · exact hI.repliedSent x hx
    · intro k r h1 h2
      exact hI.pending k r h1 (fun h => h2 (List.mem_cons_of_mem _ h))
    · intro hd
      show ((s.pool ++ [(c, m)]).map fun x => (x.1, ridOf x.2)).Nodup
      rw [List.map_append, List.nodup_append]
      refine ⟨hI.poolNodup hd, List.pairwise_singleton _ _, ?_⟩
      intro a ha b hb e
      cases List.mem_singleton.1 hb
      obtain ⟨x, hx, rfl⟩ := List.mem_map.1 ha
      have e' : (x.1, ridOf x.2) = (c, ridOf m) := e
      exact hnrep (e' ▸ (hI.poolReply x.1 x.2 hx).2)
    · intro hd k m' hm
      rcases List.mem_append.1 hm with hm | hm
      · exact hI.poolAwait hd k m' hm
      · cases List.mem_singleton.1 hm
        exact hI.pending c (ridOf m) hsent hnrep
  | @deliver c m cl st st' outs sys' hpool _ hfind hmsg hdel =>
    obtain ⟨haw, hrep, hs⟩ := onMsg_sends I hmsg
    have hreplied := (hI.poolReply c m hpool).2
    obtain ⟨r, hr⟩ := retOfMsg_isSome_of_isReply I hrep
    obtain ⟨hF1, hc1⟩ := (hI.client c st hfind).accept hI.good hI.valid haw hr
    rw [deliverClient_acted I hfind hmsg, hr] at hdel
    cases hdel
    have hlenU : (upsert c st' s.sys.clients).length = s.sys.clients.length :=
      length_upsert_of_some hI.cSorted (by rw [hfind]; rfl)
    have hsub : (if cfg.dup then s.pool else s.pool.erase (c, m)).Sublist s.pool := by
      split
      · exact List.Sublist.refl _
      · exact List.erase_sublist
    refine (hI.pool_sublist hsub).turn (pre := [.acc c m]) (d := 0) hs hlenU (hI.cBound _ (mem_keys_of_find? hfind)) hI.cLen
      hF1 (fun e he => List.mem_singleton.1 he ▸ rfl) hc1 ?_
    · intro st0 r h3 h4
      -- the awaited request is the one `m` answers; `m` has left the pool and no other message answers it
      rw [hfind] at h3
      cases h3
      cases haw.symm.trans h4
      refine ⟨hreplied, fun hd m' hm e => ?_⟩
      rw [if_neg (by simp [hd])] at hm
      exact not_mem_erase_of_nodup_map (fun x : Nat × RMsg => (x.1, ridOf x.2)) (hI.poolNodup hd) hpool hm
        (congrArg (Prod.mk c) e)
  | deliverIgnored hpool hcl hfind hmsg hdel => exact (no_ignored V hcfg hI hpool hfind hmsg hdel).elim
  | drop hpool => exact hI.pool_sublist List.erase_sublist

theorem reach_inv (hcfg : cfg.Ok) {h0 : H} (hf : C18.Fresh V h0) {s : HSt H} (hr : Reach cfg I h0 s) : HInv cfg I V s := by
  induction hr with
  | init => exact hinv_init cfg hf
  | step _ hstep ih => exact step_preserves V hcfg ih hstep

end steps

section views
variable {S : Type}

/-- what `Tester` (either flag) shows: `is_valid_history`, `in_flight_by_thread[t]`, `history_by_thread[t]`;
    `I` is a variable so that one view serves `Register` and `WORegister` -/
def testerView (rt : Bool) (I : Iface (Tester S Op Ret) Op Ret)
    (hi : ∀ T t op, I.onInvoke T t op = (Tester.onInvoke rt T t op).1)
    (hr : ∀ T t r, I.onReturn T t r = (Tester.onReturn T t r).1) : HistView I where
  good T := Sorted T.hist ∧ Sorted T.inflight
  valid T := T.valid
  inflight T t := (find? t T.inflight).map (·.2)
  done T t := ((find? t T.hist).getD []).map fun x => (x.2.1, x.2.2)
  inv_ok := by
    intro T t op hg hv hinf
    have hnone : find? t T.inflight = none := by
      cases hf : find? t T.inflight with
      | none => rfl
      | some x => simp [hf] at hinf
    rw [hi]
    simp only [Tester.onInvoke, hv, Bool.not_true, Bool.false_eq_true, if_false, hnone]
    refine ⟨⟨sorted_orInsert hg.1, sorted_upsert hg.2⟩, trivial, ?_, ?_, ?_⟩
    · simp [find?_upsert_self]
    · intro t' ht; rw [find?_upsert_ne (fun e => ht e.symm)]
    · intro t'; rw [getD_find?_orInsert_nil]
  ret_ok := by
    intro T t op r hg hv hinf
    cases hf : find? t T.inflight with
    | none => simp [hf] at hinf
    | some x =>
      obtain ⟨lc, op'⟩ := x
      simp only [hf, Option.map_some, Option.some.injEq] at hinf
      subst hinf
      rw [hr]
      simp only [Tester.onReturn, hv, Bool.not_true, Bool.false_eq_true, if_false, hf]
      refine ⟨⟨sorted_upsert hg.1, sorted_erase hg.2⟩, trivial, ?_, ?_, ?_, ?_⟩
      · simp [find?_erase hg.2]
      · intro t' ht; rw [find?_erase hg.2]; simp [ht]
      · simp [find?_upsert_self]
      · intro t' ht; rw [find?_upsert_ne (fun e => ht e.symm)]

def scView (I : Iface (SCTester S Op Ret) Op Ret)
    (hi : ∀ T t op, I.onInvoke T t op = (SCTester.onInvoke T t op).1)
    (hr : ∀ T t r, I.onReturn T t r = (SCTester.onReturn T t r).1) : HistView I where
  good T := Sorted T.hist ∧ Sorted T.inflight
  valid T := T.valid
  inflight T t := find? t T.inflight
  done T t := (find? t T.hist).getD []
  inv_ok := by
    intro T t op hg hv hinf
    rw [hi]
    simp only [SCTester.onInvoke, hv, Bool.not_true, Bool.false_eq_true, if_false, hinf]
    refine ⟨⟨sorted_orInsert hg.1, sorted_upsert hg.2⟩, trivial, ?_, ?_, ?_⟩
    · simp [find?_upsert_self]
    · intro t' ht; rw [find?_upsert_ne (fun e => ht e.symm)]
    · intro t'; rw [getD_find?_orInsert_nil]
  ret_ok := by
    intro T t op r hg hv hinf
    rw [hr]
    simp only [SCTester.onReturn, hv, Bool.not_true, Bool.false_eq_true, if_false, hinf]
    refine ⟨⟨sorted_upsert hg.1, sorted_erase hg.2⟩, trivial, ?_, ?_, ?_, ?_⟩
    · simp [find?_erase hg.2]
    · intro t' ht; rw [find?_erase hg.2]; simp [ht]
    · simp [find?_upsert_self]
    · intro t' ht; rw [find?_upsert_ne (fun e => ht e.symm)]

def viewRegLin : HistView regLin := testerView true regLin (fun _ _ _ => rfl) (fun _ _ _ => rfl)
def viewRegSC : HistView regSC := scView regSC (fun _ _ _ => rfl) (fun _ _ _ => rfl)
def viewWoLin : HistView woLin := testerView true woLin (fun _ _ _ => rfl) (fun _ _ _ => rfl)
def viewWoSC : HistView woSC := scView woSC (fun _ _ _ => rfl) (fun _ _ _ => rfl)

theorem testerView_new (rt : Bool) (I : Iface (Tester S Op Ret) Op Ret) hi hr (s0 : S) :
    (testerView rt I hi hr).good (Tester.new s0) ∧ (testerView rt I hi hr).valid (Tester.new s0) = true ∧
    ∀ t, (testerView rt I hi hr).inflight (Tester.new s0) t = none ∧ (testerView rt I hi hr).done (Tester.new s0) t = [] :=
  ⟨⟨sorted_nil, sorted_nil⟩, rfl, fun _ => ⟨rfl, rfl⟩⟩

theorem scView_new (I : Iface (SCTester S Op Ret) Op Ret) hi hr (s0 : S) :
    (scView I hi hr).good (SCTester.new s0) ∧ (scView I hi hr).valid (SCTester.new s0) = true ∧
    ∀ t, (scView I hi hr).inflight (SCTester.new s0) t = none ∧ (scView I hi hr).done (SCTester.new s0) t = [] :=
  ⟨⟨sorted_nil, sorted_nil⟩, rfl, fun _ => ⟨rfl, rfl⟩⟩

end views

theorem initFrom_servers (I : Iface H Op Ret) (n i : Nat) (rest : List ActorDesc) (s : RSys H) :
    initFrom I i (List.replicate n (.server []) ++ rest) s = initFrom I (i + n) rest s := by
  induction n generalizing i with
  | zero => simp
  | succ n ih =>
    simp only [List.replicate_succ, List.cons_append, initFrom, processSends, List.foldl_nil]
    rw [ih]
    congr 1
    omega

theorem init_reach (cfg : Cfg) (I : Iface H Op Ret) (h0 : H) (rest : List Client) :
    ∀ (s : HSt H) (sys : RSys H), Reach cfg I h0 s → cfg.clients.drop s.sys.clients.length = rest →
      initFrom I (cfg.nServers + s.sys.clients.length) (rest.map .client) s.sys = some sys →
      ∃ s', Reach cfg I h0 s' ∧ s'.sys = sys ∧ s'.pool = s.pool := by
  induction rest with
  | nil =>
    intro s sys hr _ hi
    cases hi
    exact ⟨s, hr, rfl, rfl⟩
  | cons c rest ih =>
    intro s sys hr hd hi
    rw [List.map_cons, initFrom] at hi
    cases hst : c.start (cfg.nServers + s.sys.clients.length) with
    | none =>
      rw [hst] at hi
      cases hi
    | some res =>
      obtain ⟨st, outs⟩ := res
      rw [hst] at hi
      have hcl : cfg.clients[s.sys.clients.length]? = some c := by
        rw [← List.head?_drop, hd]
        rfl
      have h := ih _ sys (Reach.step hr (Step.start (I := I) hcl hst))
      refine h ?_ ?_
      · show List.drop (s.sys.clients ++ [_]).length cfg.clients = rest
        rw [List.length_append, List.length_singleton, ← List.tail_drop, hd]
        rfl
      · show initFrom I (cfg.nServers + (s.sys.clients ++ [_]).length) _ _ = some sys
        rw [List.length_append, ← Nat.add_assoc]
        exact hi

end SR.Sem.RC
