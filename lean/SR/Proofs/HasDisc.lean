import SR.Util.HasDisc
namespace SR.HasDisc

theorem isFailure_iff (e : Expect) : isFailure e = true ↔ e ≠ .sometimes := by
  cases e <;> simp [isFailure]

end SR.HasDisc
