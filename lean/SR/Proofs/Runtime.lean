import SR.Runtime.Loop
import SR.Proofs.ListAux
/-! The loop machine of one `spawn()` thread (`SR/Runtime/Loop.lean`): what each event's `step` asks of the state and does to
it, and the invariant `Inv` of its runs, kept by the four moves of which every step is composed.  The ghost log `recvd` is never
read, so a run does not depend on which datagram backs an `on_msg` (`run_forget`). -/
namespace SR.Loop
open SR.IdCodec
variable {σ μ τ ρ : Type}

/-- the state the next handler will be given -/
def curSt : Option σ → List (Call σ μ τ ρ) → Option σ
  | cur, [] => cur
  | _, c :: r => curSt (some c.outSt) r

theorem curSt_append (cur : Option σ) (cs : List (Call σ μ τ ρ)) (c : Call σ μ τ ρ) :
    curSt cur (cs ++ [c]) = some c.outSt := by
  induction cs generalizing cur with
  | nil => rfl
  | cons x r ih => exact ih _

theorem threaded_append (cur : Option σ) (cs : List (Call σ μ τ ρ)) (c : Call σ μ τ ρ) :
    Threaded cur (cs ++ [c]) ↔ Threaded cur cs ∧ c.inSt = curSt cur cs := by
  induction cs generalizing cur with
  | nil => simp only [List.nil_append, Threaded, curSt, and_true, true_and]
  | cons x r ih => simp only [List.cons_append, Threaded, curSt, ih, and_assoc]

theorem threaded_adjacent {cur : Option σ} {pre post : List (Call σ μ τ ρ)} {c1 c2 : Call σ μ τ ρ}
    (h : Threaded cur (pre ++ c1 :: c2 :: post)) : c2.inSt = some c1.outSt := by
  induction pre generalizing cur with
  | nil => exact h.2.1
  | cons x r ih => exact ih h.2

theorem Call.isStart_of_inSt {c : Call σ μ τ ρ} {x : σ} (h : c.inSt = some x) : c.isStart = false := by
  cases c with
  | start _ _ _ => cases h
  | msg _ _ _ _ _ _ | timeout _ _ _ _ _ | random _ _ _ _ _ => rfl

theorem threaded_some_no_start {x : σ} {cs : List (Call σ μ τ ρ)} (h : Threaded (some x) cs) :
    ∀ c ∈ cs, c.isStart = false := by
  induction cs generalizing x with
  | nil => exact fun _ hc => nomatch hc
  | cons c r ih =>
    intro c' hc'
    rcases List.mem_cons.1 hc' with rfl | hm
    · exact Call.isStart_of_inSt h.1
    · exact ih h.2 c' hm

theorem msgCalls_append (cs : List (Call σ μ τ ρ)) (c : Call σ μ τ ρ) :
    msgCalls (cs ++ [c]) = msgCalls cs ++ msgCalls [c] := by
  fun_induction msgCalls cs <;> simp only [List.nil_append, List.cons_append, msgCalls, *]

theorem allCmds_append (cs : List (Call σ μ τ ρ)) (c : Call σ μ τ ρ) :
    allCmds (cs ++ [c]) = allCmds cs ++ c.cmds := by
  simp [allCmds]

variable [DecidableEq τ] [DecidableEq ρ]

omit [DecidableEq ρ] in
theorem lastOn_append (k : τ) (h : List (TObs τ)) (o : TObs τ) :
    lastOn k (h ++ [o]) = if o.key = k then some o else lastOn k h := by
  unfold lastOn
  rw [List.filter_append, List.filter_cons, List.filter_nil]
  by_cases hk : o.key = k
  · rw [if_pos (decide_eq_true hk), if_pos hk, List.getLast?_concat]
  · rw [if_neg (by rw [decide_eq_false hk]; exact Bool.false_ne_true), if_neg hk, List.append_nil]

omit [DecidableEq ρ] in
theorem lastOn_after {k : τ} {pre mid : List (TObs τ)} {x o : TObs τ} (hx : x.key = k)
    (h : lastOn k (pre ++ x :: mid) = some o) : o ∈ x :: mid := by
  unfold lastOn at h
  rw [List.filter_append, List.filter_cons, if_pos (decide_eq_true hx), List.getLast?_append,
    List.getLast?_cons, Option.some_or] at h
  cases Option.some.inj h
  cases hf : (mid.filter fun o => o.key = k).getLast? with
  | none => exact List.mem_cons_self
  | some y => exact List.mem_cons_of_mem _ (List.mem_filter.1 (List.mem_of_getLast? hf)).1

theorem mem_modInt_iff {ints : List (Key τ ρ × Nat)} {k : Key τ ρ} {v : Nat} {e : Key τ ρ × Nat} :
    e ∈ modInt ints k v ↔ (e.1 ≠ k ∧ e ∈ ints) ∨ (e = (k, v) ∧ ∃ d, (k, d) ∈ ints) := by
  constructor
  · intro h
    obtain ⟨⟨k', d⟩, hx, rfl⟩ := List.mem_map.1 h
    by_cases hk : k' = k
    · subst hk
      exact .inr ⟨if_pos rfl, d, hx⟩
    · rw [if_neg hk]
      exact .inl ⟨hk, hx⟩
  · rintro (⟨hk, h⟩ | ⟨rfl, d, h⟩)
    · exact List.mem_map.2 ⟨e, h, if_neg hk⟩
    · exact List.mem_map.2 ⟨(k, d), h, if_pos rfl⟩

theorem setInt_eq (ints : List (Key τ ρ × Nat)) (k : Key τ ρ) (v : Nat) :
    setInt ints k v = if ints.any (fun e => e.1 = k) then modInt ints k v else ints ++ [(k, v)] := rfl

theorem any_key_iff {ints : List (Key τ ρ × Nat)} {k : Key τ ρ} :
    ints.any (fun e => e.1 = k) = true ↔ ∃ d, (k, d) ∈ ints := by
  rw [List.any_eq_true]
  constructor
  · rintro ⟨⟨k', d⟩, hx, hk⟩
    cases of_decide_eq_true hk
    exact ⟨d, hx⟩
  · rintro ⟨d, hd⟩
    exact ⟨(k, d), hd, decide_eq_true rfl⟩

theorem mem_setInt_iff {ints : List (Key τ ρ × Nat)} {k : Key τ ρ} {v : Nat} {e : Key τ ρ × Nat} :
    e ∈ setInt ints k v ↔ (e.1 ≠ k ∧ e ∈ ints) ∨ e = (k, v) := by
  rw [setInt_eq]
  split
  · rename_i h
    rw [mem_modInt_iff, and_iff_left (any_key_iff.1 h)]
  · rename_i h
    rw [List.mem_append, List.mem_singleton, and_iff_right_of_imp]
    exact fun he hk => h (any_key_iff.2 ⟨e.2, hk ▸ he⟩)

theorem mem_eraseInt {ints : List (Key τ ρ × Nat)} {k : Key τ ρ} {e : Key τ ρ × Nat} :
    e ∈ eraseInt ints k ↔ e ∈ ints ∧ e.1 ≠ k := by
  simp [eraseInt, List.mem_filter]

theorem mem_armMin {ints : List (Key τ ρ × Nat)} {k : Key τ ρ} {v : Nat} {e : Key τ ρ × Nat}
    (h : e ∈ armMin ints k v) :
    (e.1 ≠ k ∧ e ∈ ints) ∨ (e.1 = k ∧ (v ≤ e.2 ∨ ∃ d, (k, d) ∈ ints ∧ d ≤ e.2)) := by
  have old : ∀ e ∈ ints, (e.1 ≠ k ∧ e ∈ ints) ∨ (e.1 = k ∧ (v ≤ e.2 ∨ ∃ d, (k, d) ∈ ints ∧ d ≤ e.2)) := fun e he =>
    (Decidable.em (e.1 = k)).symm.imp (⟨·, he⟩) fun hk => ⟨hk, .inr ⟨e.2, hk ▸ he, Nat.le_refl _⟩⟩
  unfold armMin at h
  split at h
  · obtain ⟨x, hx, rfl⟩ := List.mem_map.1 h
    split
    · rename_i hxk
      -- the new deadline `min x.2 v` is one of the two
      refine .inr ⟨rfl, (Nat.le_total v x.2).imp (Nat.le_min.2 ⟨·, Nat.le_refl _⟩) fun hv => ⟨x.2, hxk ▸ hx, ?_⟩⟩
      exact Nat.le_min.2 ⟨Nat.le_refl _, hv⟩
    · exact old x hx
  · rcases List.mem_append.1 h with h | h
    · exact old e h
    · cases List.mem_singleton.1 h
      exact .inr ⟨rfl, .inl (Nat.le_refl _)⟩

theorem mem_foldl_armMin {vals : List ρ} {ints : List (Key τ ρ × Nat)} {t : Nat} {e : Key τ ρ × Nat}
    (h : e ∈ vals.foldl (fun acc v => armMin acc (.random v) t) ints) :
    e ∈ ints ∨ ∃ v, e.1 = .random v := by
  induction vals generalizing ints with
  | nil => exact .inl h
  | cons v r ih =>
    rcases ih h with h | h
    · exact (mem_armMin h).imp And.right fun h => ⟨v, h.1⟩
    · exact .inr h

theorem fireable_overdue {C : Cfg μ} {s : St σ μ τ ρ} {k : Key τ ρ} {t : Nat} (h : fireable C s k t = true) :
    ∃ d, (k, d) ∈ s.ints ∧ d < t := by
  simp only [fireable, List.any_eq_true, Bool.and_eq_true, decide_eq_true_eq] at h
  obtain ⟨⟨_, d⟩, hin, ⟨rfl, hd⟩, _⟩ := h
  exact ⟨d, hin, hd⟩

variable [DecidableEq σ]

theorem run_cons {C : Cfg μ} {s s' : St σ μ τ ρ} {e : Ev σ μ τ ρ} {es : List (Ev σ μ τ ρ)} :
    run C s (e :: es) = some s' ↔ ∃ s1, step C s e = some s1 ∧ run C s1 es = some s' := by
  rw [run]
  cases step C s e with
  | none => exact ⟨nofun, nofun⟩
  | some s1 => exact ⟨fun h => ⟨s1, rfl, h⟩, fun ⟨_, h1, h⟩ => Option.some.inj h1 ▸ h⟩

theorem run_append (C : Cfg μ) (s : St σ μ τ ρ) (es1 es2 : List (Ev σ μ τ ρ)) :
    run C s (es1 ++ es2) = (run C s es1).bind (fun s' => run C s' es2) := by
  induction es1 generalizing s with
  | nil => rfl
  | cons e r ih =>
    simp only [List.cons_append, run]
    cases step C s e with
    | none => rfl
    | some s1 => exact ih s1

theorem step_start_iff {C : Cfg μ} {s s' : St σ μ τ ρ} {t out cmds} :
    step C s (.start t out cmds) = some s' ↔
    s.dead = false ∧ s.st = none ∧ s.queue = [] ∧ s.now ≤ t ∧
    { s with now := t, st := some out, queue := cmds, calls := s.calls ++ [.start t out cmds] } = s' := by
  simp only [step, Option.ite_none_right_eq_some, Option.some.injEq, Bool.and_eq_true, Bool.not_eq_true',
    Option.isNone_iff_eq_none, List.isEmpty_iff, decide_eq_true_eq, and_assoc]

theorem step_exec_iff {C : Cfg μ} {s s' : St σ μ τ ρ} {t pick} :
    step C s (.exec t pick) = some s' ↔
    ∃ c q, s.queue = c :: q ∧ s.dead = false ∧ s.now ≤ t ∧ execCmd C { s with now := t, queue := q } c t pick = s' := by
  rw [step]
  cases s.queue with
  | nil => exact ⟨nofun, fun ⟨_, _, h, _⟩ => nomatch h⟩
  | cons c q =>
    simp only [Option.ite_none_right_eq_some, Option.some.injEq, Bool.and_eq_true, Bool.not_eq_true',
      decide_eq_true_eq, and_assoc, List.cons.injEq, exists_and_left, exists_eq_left']

theorem step_msg_iff {C : Cfg μ} {s s' : St σ μ τ ρ} {t a bytes stIn out cmds} :
    step C s (.msg t a bytes stIn out cmds) = some s' ↔
    ∃ m, C.de bytes = some m ∧ s.dead = false ∧ s.st = some stIn ∧ s.queue = [] ∧ s.now ≤ t ∧ recvBranch C s = true ∧
      { s with now := t, st := some out, queue := cmds,
               calls := s.calls ++ [.msg t stIn (idOf a) m out cmds],
               recvd := s.recvd ++ [(.v4 a, bytes)] } = s' := by
  rw [step]
  cases C.de bytes with
  | none => exact ⟨nofun, fun ⟨_, h, _⟩ => nomatch h⟩
  | some m =>
    simp only [Option.ite_none_right_eq_some, Option.some.injEq, Bool.and_eq_true, Bool.not_eq_true',
      List.isEmpty_iff, decide_eq_true_eq, and_assoc, exists_eq_left']

theorem step_fire_iff {C : Cfg μ} {s s' : St σ μ τ ρ} {t k stIn out cmds} :
    step C s (.fire t k stIn out cmds) = some s' ↔
    s.dead = false ∧ s.st = some stIn ∧ s.queue = [] ∧ s.now ≤ t ∧ fireable C s k t = true ∧
      { s with now := t, st := some out, queue := cmds, ints := eraseInt s.ints k,
               calls := s.calls ++ [fireCall t k stIn out cmds],
               hist := s.hist ++ fireHist t k } = s' := by
  simp only [step, Option.ite_none_right_eq_some, Option.some.injEq, Bool.and_eq_true, Bool.not_eq_true',
    List.isEmpty_iff, decide_eq_true_eq, and_assoc]

omit [DecidableEq τ] [DecidableEq ρ] [DecidableEq σ] in
/-- the loop iterations that call no handler -/
def silent : Ev σ μ τ ρ → Bool
  | .drop _ _ _ | .idle _ | .zeroWait _ => true
  | _ => false

theorem step_silent {C : Cfg μ} {s s' : St σ μ τ ρ} {e : Ev σ μ τ ρ} (he : silent e = true)
    (h : step C s e = some s') :
    s.st.isSome ∧ s.now ≤ evTime e ∧ ∃ d r,
      r.filterMap (decodeDatagram C) = s.recvd.filterMap (decodeDatagram C) ∧
      s' = { s with now := evTime e, dead := d, recvd := r } := by
  cases e with
  | drop t src bytes =>
    simp only [step, Option.ite_none_right_eq_some, Option.some.injEq, Bool.and_eq_true, Bool.not_eq_true',
      List.isEmpty_iff, decide_eq_true_eq, Bool.or_eq_true, Option.isNone_iff_eq_none, and_assoc] at h
    obtain ⟨_, hst, _, ht, _, hd, rfl⟩ := h
    refine ⟨hst, ht, _, _, ?_, rfl⟩
    have hn : decodeDatagram C (src, bytes) = none := by
      rcases hd with hd | rfl
      · cases src with
        | v4 a => exact congrArg (Option.map _) hd
        | other => rfl
      · rfl
    rw [List.filterMap_append, List.filterMap_cons, hn, List.filterMap_nil, List.append_nil]
  | idle t | zeroWait t =>
    simp only [step, Option.ite_none_right_eq_some, Option.some.injEq, Bool.and_eq_true, Bool.not_eq_true',
      List.isEmpty_iff, decide_eq_true_eq, and_assoc] at h
    obtain ⟨_, hst, _, ht, _, rfl⟩ := h
    exact ⟨hst, ht, _, _, rfl, rfl⟩
  | start _ _ _ | exec _ _ | msg _ _ _ _ _ _ | fire _ _ _ _ _ => cases he

/-- what the history says about an entry `(timeout k, d)` of the interrupt map -/
def TimerOK (C : Cfg μ) (k : τ) (d : Nat) (h : List (TObs τ)) : Prop :=
  (∃ t0 lo, lastOn k h = some (.armed k t0 lo) ∧ t0 + lo ≤ d) ∨
  (∃ t0, lastOn k h = some (.cancelled k t0) ∧ t0 + C.never ≤ d)

/-- what must precede a `fired k t` entry -/
def FiredOK (C : Cfg μ) (k : τ) (t : Nat) (pre : List (TObs τ)) : Prop :=
  (∃ t0 lo, lastOn k pre = some (.armed k t0 lo) ∧ t0 + lo < t) ∨
  (∃ t0, lastOn k pre = some (.cancelled k t0) ∧ t0 + C.never < t)

/-- `thr`, `cur`: each handler gets the state the previous one returned.  `quiet`: nothing happens before `on_start`.
`tim`, `fired`: a deadline, and a firing, is no earlier than the lower bound recorded at arming.  `histT`, `sorted`: the
timer history is in time order and not ahead of the clock (`C17_cancelled_silent` places a later entry after the cancel). -/
structure Inv (C : Cfg μ) (s : St σ μ τ ρ) : Prop where
  thr : Threaded none s.calls
  cur : s.st = curSt none s.calls
  msgs : msgCalls s.calls = s.recvd.filterMap (decodeDatagram C)
  sends : s.sent ++ s.queue.filterMap (sendOf C) = (allCmds s.calls).filterMap (sendOf C)
  tim : ∀ k d, (Key.timeout k, d) ∈ s.ints → TimerOK C k d s.hist
  histT : ∀ o ∈ s.hist, o.time ≤ s.now
  fired : ∀ pre post k t, s.hist = pre ++ .fired k t :: post → FiredOK C k t pre
  quiet : s.calls = [] → s.sent = [] ∧ s.recvd = [] ∧ s.ints = [] ∧ s.hist = [] ∧ s.queue = []
  sorted : s.hist.Pairwise (fun a b => a.time ≤ b.time)

omit [DecidableEq ρ] [DecidableEq σ] in
theorem inv_init (C : Cfg μ) : Inv C (init : St σ μ τ ρ) where
  thr := trivial
  cur := rfl
  msgs := rfl
  sends := rfl
  tim := fun _ _ h => nomatch h
  histT := fun _ h => nomatch h
  fired := fun pre _ _ _ h => absurd h.symm (List.append_ne_nil_of_right_ne_nil pre (List.cons_ne_nil _ _))
  quiet := fun _ => ⟨rfl, rfl, rfl, rfl, rfl⟩
  sorted := .nil

omit [DecidableEq ρ] [DecidableEq σ] in
theorem TimerOK.append_of_ne {C : Cfg μ} {k : τ} {d : Nat} {h : List (TObs τ)} {o : TObs τ}
    (hk : (Key.timeout k : Key τ ρ) ≠ .timeout o.key) (ok : TimerOK C k d h) : TimerOK C k d (h ++ [o]) := by
  unfold TimerOK
  rw [lastOn_append, if_neg fun e => hk (congrArg _ e.symm)]
  exact ok

/-! Every `step` is a composition of four moves on the state — `tick`, `pop`, `obs`, `call` — and each preserves `Inv`. -/
omit [DecidableEq ρ] [DecidableEq σ] in
theorem Inv.tick {C : Cfg μ} {s : St σ μ τ ρ} (hi : Inv C s) {t : Nat} (ht : s.now ≤ t) (d : Bool) :
    Inv C { s with now := t, dead := d } :=
  { hi with histT := fun o ho => Nat.le_trans (hi.histT o ho) ht }

omit [DecidableEq ρ] [DecidableEq σ] in
theorem Inv.pop {C : Cfg μ} {s : St σ μ τ ρ} (hi : Inv C s) {c : Cmd μ τ ρ} {q : List (Cmd μ τ ρ)}
    (hq : s.queue = c :: q) : Inv C { s with queue := q, sent := s.sent ++ (sendOf C c).toList } :=
  { hi with
    sends := by
      have := hi.sends
      rw [hq, List.filterMap_cons] at this
      rw [← this]
      cases sendOf C c <;> simp
    quiet := fun hc => by
      have := (hi.quiet hc).2.2.2.2
      rw [hq] at this
      cases this }

omit [DecidableEq ρ] [DecidableEq σ] in
theorem Inv.call {C : Cfg μ} {s : St σ μ τ ρ} (hi : Inv C s) (hq : s.queue = []) {c : Call σ μ τ ρ}
    (hin : c.inSt = s.st) {r : List (Src × Bytes)}
    (hr : r.filterMap (decodeDatagram C) = s.recvd.filterMap (decodeDatagram C) ++ msgCalls [c]) :
    Inv C { s with st := some c.outSt, queue := c.cmds, calls := s.calls ++ [c], recvd := r } :=
  { hi with
    thr := (threaded_append none s.calls c).2 ⟨hi.thr, hin.trans hi.cur⟩
    cur := (curSt_append none s.calls c).symm
    msgs := by
      show msgCalls (s.calls ++ [c]) = r.filterMap (decodeDatagram C)
      rw [msgCalls_append, hi.msgs, hr]
    sends := by
      show s.sent ++ c.cmds.filterMap (sendOf C) = (allCmds (s.calls ++ [c])).filterMap (sendOf C)
      rw [allCmds_append, List.filterMap_append, ← hi.sends, hq, List.filterMap_nil, List.append_nil]
    quiet := fun h => absurd h (List.append_ne_nil_of_right_ne_nil _ (List.cons_ne_nil _ _)) }

omit [DecidableEq ρ] [DecidableEq σ] in
theorem Inv.obs {C : Cfg μ} {s : St σ μ τ ρ} (hi : Inv C s) (hc : s.calls ≠ []) {ints : List (Key τ ρ × Nat)}
    {l : List (TObs τ)}
    (hl : l = [] ∨ ∃ o, l = [o] ∧ o.time = s.now ∧ ∀ k t, o = .fired k t → FiredOK C k t s.hist)
    (htim : ∀ k d, (Key.timeout k, d) ∈ ints → TimerOK C k d (s.hist ++ l)) :
    Inv C { s with ints := ints, hist := s.hist ++ l } := by
  rcases hl with rfl | ⟨o, rfl, ho, hf⟩
  · rw [List.append_nil] at htim ⊢
    exact { hi with tim := htim, quiet := fun h => absurd h hc }
  · exact { hi with
      tim := htim
      histT := fun x hx => (List.mem_append.1 hx).elim (hi.histT x) fun hx =>
        Nat.le_of_eq ((congrArg TObs.time (List.mem_singleton.1 hx)).trans ho)
      fired := fun pre post k t e => by
        rcases append_singleton_split e with ⟨_, rfl, hx⟩ | ⟨post', _, hl⟩
        · exact hf k t hx
        · exact hi.fired pre post' k t hl
      quiet := fun h => absurd h hc
      sorted := List.pairwise_append.2 ⟨hi.sorted, List.pairwise_singleton _ _, fun a ha b hb =>
        Nat.le_trans (hi.histT a ha) (Nat.le_of_eq ((congrArg TObs.time (List.mem_singleton.1 hb)).trans ho).symm)⟩ }

def cmdHist (c : Cmd μ τ ρ) (t : Nat) : List (TObs τ) :=
  match c with
  | .set k lo _ => [.armed k t lo]
  | .cancel k => [.cancelled k t]
  | _ => []

omit [DecidableEq σ] in
theorem execCmd_eq (C : Cfg μ) (s : St σ μ τ ρ) (c : Cmd μ τ ρ) (t pick : Nat) :
    execCmd C s c t pick = { s with sent := s.sent ++ (sendOf C c).toList, ints := (execCmd C s c t pick).ints,
                                    hist := s.hist ++ cmdHist c t } := by
  fun_cases execCmd C s c t pick <;>
    simp only [sendOf, cmdHist, *, Option.map_none, Option.map_some, Option.toList_none, Option.toList_some, List.append_nil]

theorem execCmd_frame (C : Cfg μ) (s : St σ μ τ ρ) (c : Cmd μ τ ρ) (t pick : Nat) :
    (execCmd C s c t pick).st = s.st ∧ (execCmd C s c t pick).queue = s.queue ∧
    (execCmd C s c t pick).now = s.now ∧ (execCmd C s c t pick).dead = s.dead := by
  rw [execCmd_eq]
  exact ⟨rfl, rfl, rfl, rfl⟩

theorem execCmd_queue (C : Cfg μ) (s : St σ μ τ ρ) (c : Cmd μ τ ρ) (t pick : Nat) :
    (execCmd C s c t pick).queue = s.queue :=
  (execCmd_frame C s c t pick).2.1

theorem execCmd_now (C : Cfg μ) (s : St σ μ τ ρ) (c : Cmd μ τ ρ) (t pick : Nat) :
    (execCmd C s c t pick).now = s.now :=
  (execCmd_frame C s c t pick).2.2.1

omit [DecidableEq σ] in
theorem execCmd_sent (C : Cfg μ) (s : St σ μ τ ρ) (c : Cmd μ τ ρ) (t pick : Nat) :
    (execCmd C s c t pick).sent = s.sent ++ (sendOf C c).toList :=
  congrArg St.sent (execCmd_eq C s c t pick)

omit [DecidableEq σ] [DecidableEq ρ] in
/-- in the form `Inv.obs` takes; the clause about `fired` is vacuous here -/
theorem cmdHist_cases (C : Cfg μ) (c : Cmd μ τ ρ) (t : Nat) (h : List (TObs τ)) :
    cmdHist c t = [] ∨ ∃ o, cmdHist c t = [o] ∧ o.time = t ∧ ∀ k t', o = .fired k t' → FiredOK C k t' h := by
  cases c with
  | set k lo hi => exact .inr ⟨_, rfl, rfl, nofun⟩
  | cancel k => exact .inr ⟨_, rfl, rfl, nofun⟩
  | send _ _ | choose _ _ => exact .inl rfl

omit [DecidableEq σ] in
theorem execCmd_tim (C : Cfg μ) (s : St σ μ τ ρ) (c : Cmd μ τ ρ) (t pick : Nat)
    (h : ∀ k d, (Key.timeout k, d) ∈ s.ints → TimerOK C k d s.hist) :
    ∀ k d, (Key.timeout k, d) ∈ (execCmd C s c t pick).ints → TimerOK C k d (s.hist ++ cmdHist c t) := by
  fun_cases execCmd C s c t pick <;> intro k d hm
  -- `send`, not serialisable and serialisable
  · exact (List.append_nil _).symm ▸ h k d hm
  · exact (List.append_nil _).symm ▸ h k d hm
  -- `set`
  · rcases mem_setInt_iff.1 hm with ⟨hne, hin⟩ | heq
    · exact (h k d hin).append_of_ne hne
    · cases heq
      refine .inl ⟨t, _, (lastOn_append _ _ _).trans (if_pos rfl), ?_⟩
      rename_i d0
      subst d0
      -- whatever `pick`, the deadline is at least `t + lo`
      split <;> omega
  -- `cancel`
  · rcases mem_modInt_iff.1 hm with ⟨hne, hin⟩ | ⟨heq, _⟩
    · exact (h k d hin).append_of_ne hne
    · cases heq
      exact .inr ⟨t, (lastOn_append _ _ _).trans (if_pos rfl), Nat.le_refl _⟩
  -- `choose`: no candidate, strict, acceptance machine
  · exact (List.append_nil _).symm ▸ h k d hm
  · exact (List.append_nil _).symm ▸ (mem_setInt_iff.1 hm).elim (fun hin => h k d hin.2) nofun
  · exact (List.append_nil _).symm ▸ (mem_foldl_armMin hm).elim (h k d) nofun

omit [DecidableEq σ] [DecidableEq τ] [DecidableEq ρ] in
theorem fireCall_eq (t : Nat) (k : Key τ ρ) (stIn out : σ) (cmds : List (Cmd μ τ ρ)) :
    (fireCall t k stIn out cmds).inSt = some stIn ∧ (fireCall t k stIn out cmds).outSt = out ∧
    (fireCall t k stIn out cmds).cmds = cmds ∧ msgCalls [fireCall t k stIn out cmds] = [] := by
  cases k <;> exact ⟨rfl, rfl, rfl, rfl⟩

theorem inv_step {C : Cfg μ} {s s' : St σ μ τ ρ} {e : Ev σ μ τ ρ} (hi : Inv C s)
    (h : step C s e = some s') : Inv C s' := by
  cases e with
  | start t out cmds =>
    obtain ⟨_, hst, hq, ht, rfl⟩ := step_start_iff.1 h
    exact (hi.tick ht s.dead).call hq (c := .start t out cmds) hst.symm (List.append_nil _).symm
  | exec t pick =>
    obtain ⟨c, q, hq, _, ht, rfl⟩ := step_exec_iff.1 h
    have hc : s.calls ≠ [] := fun hc => nomatch hq.symm.trans (hi.quiet hc).2.2.2.2
    rw [execCmd_eq]
    exact ((hi.tick ht s.dead).pop hq).obs hc (cmdHist_cases C c t s.hist) (execCmd_tim C _ c t pick hi.tim)
  | msg t a bytes stIn out cmds =>
    obtain ⟨m, hm, _, hst, hq, ht, _, rfl⟩ := step_msg_iff.1 h
    refine (hi.tick ht s.dead).call hq (c := .msg t stIn (idOf a) m out cmds) hst.symm ?_
    rw [List.filterMap_append]
    simp only [List.filterMap_cons, List.filterMap_nil, decodeDatagram, hm, Option.map_some, msgCalls]
  | drop _ _ _ | idle _ | zeroWait _ =>
    obtain ⟨hst, ht, d, r, hr, rfl⟩ := step_silent rfl h
    exact { hi.tick ht d with
      msgs := hi.msgs.trans hr.symm
      quiet := fun hc => by
        rw [hi.cur, hc] at hst
        cases hst }
  | fire t k stIn out cmds =>
    obtain ⟨_, hst, hq, ht, hf, rfl⟩ := step_fire_iff.1 h
    have hc : s.calls ≠ [] := fun hc => by
      rw [hi.cur, hc] at hst
      cases hst
    -- for a given kind of key `fireCall` and `fireHist` compute
    cases k with
    | random r =>
      refine ((hi.tick ht s.dead).obs hc (.inl rfl) fun k' d hm => ?_).call hq (c := .random t stIn r out cmds)
        hst.symm (List.append_nil _).symm
      exact (List.append_nil _).symm ▸ hi.tim k' d (mem_eraseInt.1 hm).1
    | timeout x =>
      refine ((hi.tick ht s.dead).obs hc (.inr ⟨_, rfl, rfl, fun k' t' e => ?_⟩) fun k' d hm => ?_).call hq
        (c := .timeout t stIn x out cmds) hst.symm (List.append_nil _).symm
      · cases e
        obtain ⟨d, hin, hd⟩ := fireable_overdue hf
        rcases hi.tim x d hin with ⟨t0, lo, h1, h2⟩ | ⟨t0, h1, h2⟩
        · exact .inl ⟨t0, lo, h1, Nat.lt_of_le_of_lt h2 hd⟩
        · exact .inr ⟨t0, h1, Nat.lt_of_le_of_lt h2 hd⟩
      · obtain ⟨hin, hne⟩ := mem_eraseInt.1 hm
        exact (hi.tim k' d hin).append_of_ne hne

theorem inv_run {C : Cfg μ} {s s' : St σ μ τ ρ} {es : List (Ev σ μ τ ρ)} (hi : Inv C s)
    (h : run C s es = some s') : Inv C s' := by
  induction es generalizing s with
  | nil => exact Option.some.inj h ▸ hi
  | cons e r ih =>
    obtain ⟨s1, hs1, h⟩ := run_cons.1 h
    exact ih (inv_step hi hs1) h

/-! `recvd` is a write-only log: `step` never reads it (`step_recvd`), so a run does not depend on which datagram backs
an `on_msg`, as long as source id and message are the same (`run_forget`). -/
def forget (s : St σ μ τ ρ) : St σ μ τ ρ := { s with recvd := [] }

omit [DecidableEq σ] in
theorem execCmd_recvd (C : Cfg μ) (s : St σ μ τ ρ) (r : List (Src × Bytes)) (c : Cmd μ τ ρ) (t pick : Nat) :
    execCmd C { s with recvd := r } c t pick = { execCmd C s c t pick with recvd := r } := by
  fun_cases execCmd C s c t pick <;> simp only [execCmd, *] <;> rfl

theorem step_recvd (C : Cfg μ) (s : St σ μ τ ρ) (r : List (Src × Bytes)) (e : Ev σ μ τ ρ) :
    (step C { s with recvd := r } e).map forget = (step C s e).map forget := by
  cases e with
  | exec t pick =>
    simp only [step]
    cases s.queue with
    | nil => rfl
    | cons c q =>
      have := congrArg forget (execCmd_recvd C { s with now := t, queue := q } r c t pick)
      exact map_ite_congr forget this
  | msg t a b si so cs =>
    simp only [step, recvBranch]
    cases C.de b with
    | none => rfl
    | some m => exact map_ite_congr forget rfl
  | start _ _ _ | drop _ _ _ | idle _ | zeroWait _ | fire _ _ _ _ _ =>
    simp only [step, recvBranch, fireable]
    exact map_ite_congr forget rfl

inductive EvRel (C : Cfg μ) : Ev σ μ τ ρ → Ev σ μ τ ρ → Prop
  | refl (e : Ev σ μ τ ρ) : EvRel C e e
  | msg (t : Nat) (a a' : Addr) (b b' : Bytes) (si so : σ) (cs : List (Cmd μ τ ρ)) :
      idOf a = idOf a' → C.de b = C.de b' → EvRel C (.msg t a b si so cs) (.msg t a' b' si so cs)

theorem step_forget (C : Cfg μ) {s s' : St σ μ τ ρ} (h : forget s = forget s') {e e' : Ev σ μ τ ρ} (he : EvRel C e e') :
    (step C s e).map forget = (step C s' e').map forget := by
  have hs : s' = { s with recvd := s'.recvd } := congrArg (fun x : St σ μ τ ρ => { x with recvd := s'.recvd }) h.symm
  rw [hs, step_recvd C s s'.recvd]
  cases he with
  | refl e => rfl
  | msg t a a' b b' si so cs ha hb =>
    simp only [step, ← hb, ← ha]
    cases C.de b with
    | none => rfl
    | some m => exact map_ite_congr forget rfl

inductive EvsRel (C : Cfg μ) : List (Ev σ μ τ ρ) → List (Ev σ μ τ ρ) → Prop
  | nil : EvsRel C [] []
  | cons {e e' : Ev σ μ τ ρ} {es es' : List (Ev σ μ τ ρ)} : EvRel C e e' → EvsRel C es es' → EvsRel C (e :: es) (e' :: es')

omit [DecidableEq τ] [DecidableEq ρ] [DecidableEq σ] in
theorem evsRel_refl (C : Cfg μ) : ∀ es : List (Ev σ μ τ ρ), EvsRel C es es
  | [] => .nil
  | e :: es => .cons (.refl e) (evsRel_refl C es)

omit [DecidableEq τ] [DecidableEq ρ] [DecidableEq σ] in
theorem evsRel_append {C : Cfg μ} {a a' b b' : List (Ev σ μ τ ρ)} (h1 : EvsRel C a a') (h2 : EvsRel C b b') :
    EvsRel C (a ++ b) (a' ++ b') := by
  induction h1 with
  | nil => exact h2
  | cons he _ ih => exact .cons he ih

omit [DecidableEq τ] [DecidableEq ρ] [DecidableEq σ] in
theorem evsRel_expand {C : Cfg μ} {es es' : List (Ev σ μ τ ρ)} (h : EvsRel C es es') :
    EvsRel C (expand es) (expand es') := by
  induction h with
  | nil => exact .nil
  | cons he _ ih =>
    cases he with
    | refl => exact .cons (.refl _) (evsRel_append (evsRel_refl C _) ih)
    | msg t a a' b b' si so cs ha hb =>
      exact .cons (.msg t a a' b b' si so cs ha hb) (evsRel_append (evsRel_refl C _) ih)

theorem run_forget (C : Cfg μ) {es es' : List (Ev σ μ τ ρ)} (h : EvsRel C es es') :
    ∀ s s' : St σ μ τ ρ, forget s = forget s' → (run C s es).map forget = (run C s' es').map forget := by
  induction h with
  | nil => exact fun s s' hs => congrArg some hs
  | cons he _ ih =>
    intro s s' hs
    have := step_forget C hs he
    rw [run, run]
    revert this
    cases step C s _ <;> cases step C s' _
    · exact fun _ => rfl
    · exact nofun
    · exact nofun
    · exact fun this => ih _ _ (Option.some.inj this)

end SR.Loop
