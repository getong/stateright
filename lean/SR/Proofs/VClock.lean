import SR.Util.VClock
/-! Lemmas for C20 (vector clocks): every operation in terms of the components `get0 · i`. -/
namespace SR.VClock

theorem get0_of_le {a : Clock} {i : Nat} (h : a.length ≤ i) : get0 a i = 0 := by
  unfold get0
  simp [List.getD, List.getElem?_eq_none h]

@[simp] theorem get0_nil (i : Nat) : get0 [] i = 0 := by simp [get0]
@[simp] theorem get0_cons_zero (x : Nat) (xs : Clock) : get0 (x :: xs) 0 = x := by simp [get0]
@[simp] theorem get0_cons_succ (x : Nat) (xs : Clock) (i : Nat) : get0 (x :: xs) (i+1) = get0 xs i := by
  simp [get0]

theorem range_all (a b : Clock) (P : Nat → Nat → Prop) (h0 : P 0 0) :
    (∀ i ∈ List.range (max a.length b.length), P (get0 a i) (get0 b i)) ↔ ∀ i, P (get0 a i) (get0 b i) := by
  constructor
  · intro h i
    by_cases hi : i < max a.length b.length
    · exact h i (List.mem_range.2 hi)
    · rw [get0_of_le (by omega), get0_of_le (by omega)]
      exact h0
  · intro h i _
    exact h i

theorem eqLoop_iff (a b : Clock) (is : List Nat) :
    eqLoop a b is = true ↔ ∀ i ∈ is, get0 a i = get0 b i := by
  induction is with
  | nil => simp [eqLoop]
  | cons i is ih =>
    unfold eqLoop
    by_cases h : get0 a i = get0 b i <;> simp [h, ih]

theorem veq_iff (a b : Clock) : veq a b = true ↔ ∀ i, get0 a i = get0 b i := by
  unfold veq
  rw [eqLoop_iff]
  exact range_all a b (· = ·) rfl

/-- the loop entered with verdict `e`: `.lt` rules out "greater" from the start, `.gt` rules out "less" -/
theorem cmpLoop_eq (a b : Clock) (e : Ordering) (is : List Nat) :
    cmpLoop a b e is =
      if e ≠ .gt ∧ ∀ i ∈ is, get0 a i ≤ get0 b i then
        (if e ≠ .lt ∧ ∀ i ∈ is, get0 b i ≤ get0 a i then some .eq else some .lt)
      else if e ≠ .lt ∧ ∀ i ∈ is, get0 b i ≤ get0 a i then some .gt else none := by
  induction is generalizing e with
  | nil => cases e <;> simp [cmpLoop]
  | cons i is ih =>
    -- read `a i ≤ b i` as `compare … ≠ .gt`: loop and conditions then split on the same `compare`
    simp only [cmpLoop, ih, List.mem_cons, forall_eq_or_imp,
      ← Nat.compare_ne_gt (a := get0 a i), ← Nat.compare_ne_lt (a := get0 a i)]
    cases e <;> cases compare (get0 a i) (get0 b i) <;> simp

open Classical in
theorem partialCmp_eq (a b : Clock) :
    partialCmp a b =
      if ∀ i, get0 a i ≤ get0 b i then (if ∀ i, get0 b i ≤ get0 a i then some .eq else some .lt)
      else if ∀ i, get0 b i ≤ get0 a i then some .gt else none := by
  unfold partialCmp
  simp only [cmpLoop_eq, ne_eq, reduceCtorEq, not_false_eq_true, true_and,
    range_all a b (· ≤ ·) (Nat.le_refl 0), range_all a b (fun x y => y ≤ x) (Nat.le_refl 0)]

theorem get0_mergeMax (a b : Clock) (i : Nat) : get0 (mergeMax a b) i = max (get0 a i) (get0 b i) := by
  by_cases hi : i < max a.length b.length
  · unfold mergeMax
    simp [get0, List.getD, hi]
  · rw [get0_of_le (a := a) (by omega), get0_of_le (a := b) (by omega)]
    apply get0_of_le
    simp [mergeMax]
    omega

theorem get0_append_replicate (a : Clock) (n i : Nat) : get0 (a ++ List.replicate n 0) i = get0 a i := by
  by_cases h : i < a.length
  · simp [get0, List.getElem?_append, h]
  · -- beyond `a` the left side reads the padding: zero or nothing
    simp [get0, List.getElem?_append, List.getElem?_replicate, h]
    split <;> simp

theorem get0_set (a : Clock) (i j v : Nat) (h : i < a.length) :
    get0 (a.set i v) j = if j = i then v else get0 a j := by
  unfold get0
  simp only [List.getD, List.getElem?_set]
  by_cases hji : j = i
  · subst hji
    simp [h]
  · have : ¬ i = j := fun e => hji e.symm
    simp [hji, this]

theorem incremented_eq (a : Clock) (i : Nat) :
    incremented a i = if u32Max ≤ get0 a i then none
      else some ((a ++ List.replicate (1 + i - a.length) 0).set i (get0 a i + 1)) := by
  unfold incremented
  by_cases hi : i ≥ a.length
  · simp [hi, get0_append_replicate]
  · simp [hi, show 1 + i - a.length = 0 by omega]

theorem get0_incremented {a c : Clock} {i : Nat} (h : incremented a i = some c) (j : Nat) :
    get0 c j = if j = i then get0 a i + 1 else get0 a j := by
  rw [incremented_eq] at h
  split at h
  · cases h
  · cases h
    rw [get0_set _ _ _ _ (by simp; omega), get0_append_replicate]

theorem trim_cons (x : Nat) (xs : Clock) :
    trim (x :: xs) = if trim xs = [] ∧ x = 0 then [] else x :: trim xs := by
  rw [trim]
  cases h : trim xs with
  | nil =>
    by_cases hx : x = 0 <;> simp [hx]
  | cons y ys => simp

theorem trim_sublist : ∀ (c : Clock), (trim c).Sublist c
  | [] => .slnil
  | x :: xs => by
    rw [trim_cons]
    split
    · exact List.nil_sublist _
    · exact (trim_sublist xs).cons_cons x

theorem get0_trim (a : Clock) (i : Nat) : get0 (trim a) i = get0 a i := by
  induction a generalizing i with
  | nil => rfl
  | cons x xs ih =>
    rw [trim_cons]
    split
    · rename_i hc
      cases i with
      | zero => simp [hc.2]
      | succ i => rw [get0_cons_succ, ← ih, hc.1, get0_nil, get0_nil]
    · cases i with
      | zero => rfl
      | succ i => exact ih i

theorem trim_eq_nil_iff (a : Clock) : trim a = [] ↔ ∀ i, get0 a i = 0 := by
  refine ⟨fun h i => by rw [← get0_trim, h, get0_nil], fun h => ?_⟩
  induction a with
  | nil => rfl
  | cons x xs ih =>
    rw [trim_cons, if_pos ⟨ih fun i => by simpa using h (i + 1), by simpa using h 0⟩]

theorem trim_congr {a b : Clock} (h : ∀ i, get0 a i = get0 b i) : trim a = trim b := by
  induction a generalizing b with
  | nil => exact ((trim_eq_nil_iff b).2 fun i => by rw [← h i, get0_nil]).symm
  | cons x xs ih =>
    cases b with
    | nil => exact (trim_eq_nil_iff _).2 fun i => by rw [h i, get0_nil]
    | cons y ys =>
      rw [trim_cons, trim_cons, ih fun i => by simpa using h (i + 1), show x = y by simpa using h 0]

theorem trim_eq_iff {a b : Clock} : trim a = trim b ↔ ∀ i, get0 a i = get0 b i :=
  ⟨fun h i => by rw [← get0_trim a, ← get0_trim b, h], trim_congr⟩

theorem anyLt_eq_false_iff (a b : Clock) :
    ((List.range (max a.length b.length)).any fun i => decide (get0 a i < get0 b i)) = false ↔ ∀ i, get0 b i ≤ get0 a i := by
  simp only [List.any_eq_false, decide_eq_true_eq, Nat.not_lt]
  exact range_all a b (fun x y => y ≤ x) (Nat.le_refl 0)

end SR.VClock
