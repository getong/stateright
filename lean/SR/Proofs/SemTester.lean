import SR.Proofs.SemRecord
/-!
Assembly: the recorded tester of a well-formed history satisfies `Link`; the initial search state
means `IsSerializationOf`; ill-formed histories; `len`. Everything for both values of `rt`.
-/
namespace SR.Sem
open AMap Tester
variable {S Op Ret : Type}

def enumItems (cs : List (LC × Op × Ret)) : List (Item Op Ret) := cs.zipIdx.map fun x => (x.2, x.1)

theorem mem_enumItems {cs : List (LC × Op × Ret)} {i : Nat} {e : LC × Op × Ret} :
    (i, e) ∈ enumItems cs ↔ cs[i]? = some e := by
  rw [← List.mk_mem_zipIdx_iff_getElem?, enumItems, List.mem_map]
  exact ⟨fun ⟨x, hm, h⟩ => by cases h; exact hm, fun h => ⟨(e, i), h, rfl⟩⟩

theorem pairwise_enumItems (cs : List (LC × Op × Ret)) : (enumItems cs).Pairwise (fun x y => x.1 < y.1) := by
  have : (enumItems cs).map (·.1) = List.range' 0 cs.length := by
    rw [enumItems, List.map_map]
    exact List.zipIdx_map_snd 0 cs
  exact List.pairwise_map.1 (this ▸ List.pairwise_lt_range')

theorem find?_enumQueues (hist : List (Nat × List (LC × Op × Ret))) (t : Nat) :
    find? t (enumQueues hist) = (find? t hist).map enumItems :=
  find?_map enumItems t hist

theorem sorted_enumQueues {hist : List (Nat × List (LC × Op × Ret))} (h : Sorted hist) : Sorted (enumQueues hist) :=
  sorted_map enumItems h

theorem mem_enumQueues {hist : List (Nat × List (LC × Op × Ret))} {t i : Nat} {e : LC × Op × Ret} :
    (∃ its, find? t (enumQueues hist) = some its ∧ (i, e) ∈ its) ↔ ((find? t hist).getD [])[i]? = some e := by
  rw [find?_enumQueues]
  cases find? t hist with
  | none => simp
  | some cs => simp [mem_enumItems]

section
variable {rt : Bool} {es : List (Event Op Ret)} {T : Tester S Op Ret}

theorem link_of_rinv (h : RInv rt es T) : Link rt es (enumQueues T.hist) T.inflight := by
  refine ⟨h.sameThread, sorted_enumQueues h.hSorted, h.fSorted, ?_,
    fun t its hf i e hm => (h.hist t).2 i e (mem_enumQueues.1 ⟨its, hf, hm⟩), ?_⟩
  · intro t its hf
    rw [find?_enumQueues] at hf
    obtain ⟨cs, _, rfl⟩ := Option.map_eq_some_iff.1 hf
    exact pairwise_enumItems cs
  · intro t lc op hf
    obtain ⟨h1, h3, h4⟩ := h.infl t lc op hf
    have hs : (find? t (enumQueues T.hist)).isSome = true := by rwa [find?_enumQueues, Option.isSome_map]
    obtain ⟨its, hq⟩ := Option.isSome_iff_exists.1 hs
    refine ⟨⟨its, hq, fun x hx => ?_⟩, h3, h4⟩
    rw [← (h.hist t).1]
    exact (List.getElem?_eq_some_iff.1 (mem_enumQueues.1 ⟨its, hq, hx⟩)).1

theorem presentQ_init_iff (h : RInv rt es T) (a : OpId) : PresentQ (enumQueues T.hist) a ↔ IsCompleted es a := by
  unfold PresentQ IsCompleted
  rw [← (h.hist a.1).1, exists_comm]
  simp only [mem_enumQueues]
  exact ⟨fun ⟨_, he⟩ => (List.getElem?_eq_some_iff.1 he).1, fun hlt => ⟨_, List.getElem?_eq_getElem hlt⟩⟩

theorem present_init_iff (h : RInv rt es T) (a : OpId) :
    (PresentQ (enumQueues T.hist) a ∨ PresentF es T.inflight a) ↔ IsOp es a := by
  rw [presentQ_init_iff h]
  unfold IsCompleted IsOp PresentF
  -- one more operation than returns iff the thread has an in-flight entry
  rw [h.count a.1]
  cases find? a.1 T.inflight <;> simp <;> omega

theorem ser_init_iff (h : RInv rt es T) (spec : SeqSpec S Op Ret) (obj : S) (ids : List OpId) (l : List (Op × Ret)) :
    Ser rt spec es (PresentQ (enumQueues T.hist)) (fun a => PresentQ (enumQueues T.hist) a ∨ PresentF es T.inflight a)
      obj ids l ↔ IsSerializationOf rt spec obj es ids l :=
  (Ser.congr (presentQ_init_iff h) (present_init_iff h)).trans isSerializationOf_iff_ser.symm

end

theorem remaining_init (T : Tester S Op Ret) : remaining (enumQueues T.hist) T.inflight = T.len := by
  unfold remaining Tester.len enumQueues
  rw [List.map_map, Nat.add_comm]
  congr 3
  funext e
  simp

theorem results_append (rt : Bool) (T : Tester S Op Ret) (l1 l2 : List (Event Op Ret)) :
    results rt T (l1 ++ l2) = results rt T l1 ++ results rt (l1.foldl (fun T e => (step rt T e).1) T) l2 := by
  induction l1 generalizing T with
  | nil => rfl
  | cons e l1 ih => simp [results, ih]

theorem step_invalid (rt : Bool) (T : Tester S Op Ret) (hv : T.valid = false) (e : Event Op Ret) :
    step rt T e = (T, Res.errEarlier) := by
  cases e <;> simp [step, onInvoke, onReturn, hv]

theorem fold_invalid (rt : Bool) (T : Tester S Op Ret) (hv : T.valid = false) (l : List (Event Op Ret)) :
    l.foldl (fun T e => (step rt T e).1) T = T ∧ results rt T l = List.replicate l.length Res.errEarlier := by
  induction l with
  | nil => exact ⟨rfl, rfl⟩
  | cons e l ih =>
    simp only [List.foldl_cons, results, step_invalid rt T hv e, List.length_cons, List.replicate_succ]
    exact ⟨ih.1, by rw [ih.2]⟩

theorem results_wellFormed {rt : Bool} (s0 : S) : ∀ es : List (Event Op Ret), WellFormed es →
    results rt (Tester.new s0) es = List.replicate es.length Res.ok := by
  intro es
  induction es using snoc_induction with
  | nil =>
    intro _
    rfl
  | snoc es e ih =>
    intro hwf
    obtain ⟨h1, h2⟩ := wellFormed_snoc.1 hwf
    rw [results_append, ih h1, List.length_append, List.length_singleton, List.replicate_succ']
    congr 1
    exact congrArg (· :: []) (rinv_step (rinv_record (rt := rt) s0 es h1) e h2).2

/-- the error an inadmissible event produces -/
def errOf : Event Op Ret → Res
  | .inv _ _ => Res.errInFlight
  | .ret _ _ => Res.errNoInFlight

theorem step_inadmissible {rt : Bool} {es : List (Event Op Ret)} {T : Tester S Op Ret} (h : RInv rt es T)
    (e : Event Op Ret) (hadm : ¬ Admissible es e) : (step rt T e).1.valid = false ∧ (step rt T e).2 = errOf e := by
  cases e with
  | inv t op =>
    obtain ⟨x, hf⟩ := Option.isSome_iff_exists.1 ((h.inFlight_iff t).1 (Classical.not_not.1 hadm))
    simp [step, onInvoke, h.valid, hf, errOf]
  | ret t r =>
    simp [step, onReturn, h.valid, h.inflight_none hadm, errOf]

theorem exists_first_illformed : ∀ es : List (Event Op Ret), WellFormed es ∨
    ∃ p e q, es = p ++ e :: q ∧ WellFormed p ∧ ¬ Admissible p e := by
  intro es
  induction es using snoc_induction with
  | nil => exact Or.inl wellFormed_nil
  | snoc es e ih =>
    rcases ih with h | ⟨p, e', q, rfl, h1, h2⟩
    · by_cases ha : Admissible es e
      · exact Or.inl (wellFormed_snoc.2 ⟨h, ha⟩)
      · exact Or.inr ⟨es, e, [], rfl, h, ha⟩
    · exact Or.inr ⟨p, e', q ++ [e], by simp, h1, h2⟩

theorem illformed_record {rt : Bool} (s0 : S) {p q : List (Event Op Ret)} {e : Event Op Ret}
    (hp : WellFormed p) (he : ¬ Admissible p e) :
    (record rt s0 (p ++ e :: q)).valid = false ∧
    results rt (Tester.new s0) (p ++ e :: q) =
      List.replicate p.length Res.ok ++ errOf e :: List.replicate q.length Res.errEarlier := by
  obtain ⟨hv, hr⟩ := step_inadmissible (rinv_record (rt := rt) s0 p hp) e he
  obtain ⟨hf1, hf2⟩ := fold_invalid rt _ hv q
  constructor
  · rw [record_append, List.foldl_cons, hf1]
    exact hv
  · rw [results_append, results_wellFormed s0 p hp]
    show _ ++ (step rt (record rt s0 p) e).2 :: results rt (step rt (record rt s0 p) e).1 q = _
    rw [hr, hf2]

theorem wellFormed_not_of_split {p q : List (Event Op Ret)} {e : Event Op Ret} (he : ¬ Admissible p e) :
    ¬ WellFormed (p ++ e :: q) := fun h => he (h p e q rfl)

theorem record_valid_iff {rt : Bool} (s0 : S) (es : List (Event Op Ret)) :
    (record rt s0 es).valid = true ↔ WellFormed es := by
  constructor
  · intro hv
    rcases exists_first_illformed es with h | ⟨p, e, q, rfl, h1, h2⟩
    · exact h
    · rw [(illformed_record s0 h1 h2).1] at hv
      cases hv
  · intro h
    exact (rinv_record s0 es h).valid

theorem step_init (rt : Bool) (T : Tester S Op Ret) (e : Event Op Ret) : (step rt T e).1.init = T.init := by
  cases e <;> simp only [step, onInvoke, onReturn] <;> (repeat' split) <;> rfl

theorem record_init (rt : Bool) (s0 : S) (es : List (Event Op Ret)) : (record rt s0 es).init = s0 := by
  induction es using snoc_induction with
  | nil => rfl
  | snoc es e ih => rw [record_snoc, step_init, ih]

section
variable {rt : Bool} (spec : SeqSpec S Op Ret) (s0 : S) (es : List (Event Op Ret))

theorem serializedHistory_wellFormed (hwf : WellFormed es) :
    serializedHistory spec (record rt s0 es) =
      serialize spec ((record rt s0 es).len + 1) [] s0 (enumQueues (record rt s0 es).hist) (record rt s0 es).inflight := by
  rw [serializedHistory, (rinv_record s0 es hwf).valid, record_init]
  rfl

theorem tester_illformed_none (h : ¬ WellFormed es) : serializedHistory spec (record rt s0 es) = none := by
  rw [serializedHistory, Bool.eq_false_iff.2 (mt (record_valid_iff s0 es).1 h)]
  rfl

variable {spec} (hlaw : spec.Lawful)
include hlaw

theorem tester_sound (l : List (Op × Ret)) (h : serializedHistory spec (record rt s0 es) = some l) :
    IsSerialization rt spec s0 es l := by
  by_cases hwf : WellFormed es
  · have hI := rinv_record (rt := rt) s0 es hwf
    rw [serializedHistory_wellFormed spec s0 es hwf] at h
    obtain ⟨ids, l2, e1, hS⟩ := serialize_sound hlaw _ _ _ _ _ _ (link_of_rinv hI) h
    cases e1
    exact ⟨ids, (ser_init_iff hI spec s0 ids _).1 hS⟩
  · rw [tester_illformed_none spec s0 es hwf] at h
    cases h

theorem tester_complete (hwf : WellFormed es) (l : List (Op × Ret)) (h : IsSerialization rt spec s0 es l) :
    (serializedHistory spec (record rt s0 es)).isSome = true := by
  obtain ⟨ids, hS⟩ := h
  have hI := rinv_record (rt := rt) s0 es hwf
  rw [serializedHistory_wellFormed spec s0 es hwf]
  refine serialize_complete hlaw _ _ _ _ _ ids l (link_of_rinv hI) ((ser_init_iff hI spec s0 ids l).2 hS) ?_
  rw [remaining_init]
  exact Nat.lt_succ_self _

theorem tester_consistent_iff :
    isConsistent spec (record rt s0 es) = true ↔ WellFormed es ∧ ∃ l, IsSerialization rt spec s0 es l := by
  unfold isConsistent
  rw [Option.isSome_iff_exists]
  constructor
  · rintro ⟨l, h⟩
    refine ⟨Classical.byContradiction fun hn => ?_, l, tester_sound s0 es hlaw l h⟩
    rw [tester_illformed_none spec s0 es hn] at h
    cases h
  · rintro ⟨hwf, l, h⟩
    exact Option.isSome_iff_exists.1 (tester_complete s0 es hlaw hwf l h)

end

theorem tester_illformed {rt : Bool} (spec : SeqSpec S Op Ret) (s0 : S) (p q : List (Event Op Ret)) (e : Event Op Ret)
    (hp : WellFormed p) (he : ¬ Admissible p e) :
    results rt (Tester.new s0) (p ++ e :: q) =
      List.replicate p.length Res.ok ++ errOf e :: List.replicate q.length Res.errEarlier ∧
    isConsistent spec (record rt s0 (p ++ e :: q)) = false ∧
    serializedHistory spec (record rt s0 (p ++ e :: q)) = none := by
  have hn := tester_illformed_none (rt := rt) spec s0 (p ++ e :: q) (wellFormed_not_of_split he)
  exact ⟨(illformed_record s0 hp he).2, by rw [isConsistent, hn]; rfl, hn⟩

def isInv : Event Op Ret → Bool
  | .inv _ _ => true
  | .ret _ _ => false

theorem len_step {rt : Bool} {es : List (Event Op Ret)} {T : Tester S Op Ret} (h : RInv rt es T)
    (e : Event Op Ret) (hadm : Admissible es e) :
    ((step rt T e).1.hist.map fun e => e.2.length).sum =
      (T.hist.map fun e => e.2.length).sum + ([e].filter fun e => !isInv e).length ∧
    (step rt T e).1.inflight.length + ([e].filter fun e => !isInv e).length =
      T.inflight.length + ([e].filter isInv).length := by
  cases e with
  | inv t op =>
    obtain ⟨hnf, hstep⟩ := h.step_inv hadm
    rw [hstep]
    exact ⟨sum_orInsert_nil t h.hSorted, length_upsert_of_none hnf⟩
  | ret t r =>
    obtain ⟨lc, op, hf, hstep⟩ := h.step_ret hadm
    rw [hstep]
    exact ⟨sum_upsert_push t (lc, op, r) h.hSorted, length_erase (k := t) (m := T.inflight) (by rw [hf]; rfl)⟩

theorem len_record {rt : Bool} (s0 : S) : ∀ es : List (Event Op Ret), WellFormed es →
    ((record rt s0 es).hist.map fun e => e.2.length).sum = (es.filter fun e => !isInv e).length ∧
    (record rt s0 es).inflight.length + (es.filter fun e => !isInv e).length = (es.filter isInv).length := by
  intro es
  induction es using snoc_induction with
  | nil =>
    intro _
    exact ⟨rfl, rfl⟩
  | snoc es e ih =>
    intro hwf
    obtain ⟨h1, h2⟩ := wellFormed_snoc.1 hwf
    obtain ⟨ih1, ih2⟩ := ih h1
    obtain ⟨s1, s2⟩ := len_step (rinv_record (rt := rt) s0 es h1) e h2
    rw [record_snoc, List.filter_append, List.filter_append, List.length_append, List.length_append]
    omega

theorem len_eq {rt : Bool} (s0 : S) (es : List (Event Op Ret)) (hwf : WellFormed es) :
    (record rt s0 es).len = (es.filter isInv).length := by
  obtain ⟨h1, h2⟩ := len_record (rt := rt) s0 es hwf
  unfold Tester.len
  omega

end SR.Sem
