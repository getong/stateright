import SR.Proofs.OracleRest
/-! Behind the last oracle lines: what the lines proved in Props/OracleLast read of an observation (`ObservesAll`); the lines of
`oracleC12` (Drv/Chk.lean) as functions; the loops of `oNet` (Drv/C07.lean) as structural recursions, and what they accept. -/
namespace SR.COracleLast
open SR SR.Checker SR.Drv.Chk SR.CCompleteRun

/-- `Observes` (Proofs/CompleteRun) does not mention `state_count` and keeps only the NAMES of the discoveries; the lines
    proved in Props/OracleLast read both: `o` is what `showSt` prints of `s`, discoveries in any order -/
structure ObservesAll (o : Obs) (s : St Nat Nat) : Prop where
  base : Observes o s
  count : o.count = s.stateCount
  disc : o.disc.Perm s.disc

/-- the target line of `oracleC12` -/
def c12Target (c : Case) (o : Obs) : List String :=
  match c.cfg.target with
  | some t => if o.count ≥ min t (c.g.reachList.length) || !(c.cfg.maxDepth.isNone) ||
                   c.finish.matches c.props (o.disc.map (·.1)) || (o.disc.map (·.1)).eraseDups.length == c.props.length
               then [] else ["generated-fewer-states-than-target-although-more-exist"]
  | none => []

/-- the two depth lines of `oracleC12` -/
def c12Depth (c : Case) (o : Obs) (strat : String) : List String :=
  match c.cfg.maxDepth with
  | some d =>
    (if o.visits.all (fun p => if strat == "sim" then p.length ≤ d else p.length < d) then []
     else ["evaluated-state-deeper-than-max-depth"]) ++
    (if strat == "bfs" && c.cfg.target.isNone && !(c.finish.matches c.props (o.disc.map (·.1))) &&
        (o.disc.map (·.1)).eraseDups.length != c.props.length then
       let lasts := o.visits.map lastOf
       if c.g.reachList.all (fun t => match c.g.distOf t with
           | some k => decide (k + 1 < d) → lasts.contains t
           | none => true)
       then [] else ["bfs-missed-a-state-nearer-than-max-depth"]
     else [])
  | none => []

end SR.COracleLast

namespace SR.Drv.C07
open SR SR.Actor SR.Actor.Codec

/-- the text of both `return`s inside the loops of `oNet` -/
def stepMsg (k : Nat) (err : String) : String := s!"step {k}: {err}"

theorem stepMsg_ne_ok (k : Nat) (err : String) : stepMsg k err ≠ "ok" := by
  unfold stepMsg
  intro h
  -- as lists of characters the message starts with `s`, the answer `"ok"` with `o`
  have := congrArg String.toList h
  simp only [String.toList_append] at this
  have h2 : (toString "step ").toList = ['s','t','e','p',' '] := by decide
  have h3 : "ok".toList = ['o', 'k'] := by decide
  rw [h2, h3] at this
  simp at this

/-- the inner loop of `oNet` -/
def opsF (kind : String) (k : Nat) : Hist' → List NetOp → Option String × Hist'
  | h, [] => (none, h)
  | h, op :: ops => match checkOp kind h op with
    | some err => (some (stepMsg k err), h)
    | none => opsF kind k (h ++ [op]) ops

/-- the outer loop of `oNet` -/
def stepsF (kind : String) (nActors : Nat) (lossy : Bool) (last0 : Option Env) :
    Hist' → Nat → List (List NetOp × Obs) → Option String
  | _, _, [] => none
  | h, k, (ops, o) :: rest =>
    match opsF kind k h ops with
    | (some r, _) => some r
    | (none, h') =>
      match checkObs kind nActors lossy last0 h' o with
      | some err => some (stepMsg k err)
      | none => stepsF kind nActors lossy last0 h' (k + 1) rest

/-- `oNet` without `Id.run do`, `for`, `mut`, `return` -/
def oNetF (kind : String) (nActors : Nat) (lossy : Bool) (last0 : Option Env) (h0 : Hist') (steps : List (List NetOp × Obs)) :
    String :=
  match stepsF kind nActors lossy last0 h0 0 steps with
  | some r => r
  | none => "ok"

/-! What `oNet` answers `"ok"` to, twice: `Passes` (over `OpsOk`) in terms of the two checks along the growing history
(`C07_oracle_oNet`), `ModelPasses` in terms of the model network alone (`C07_oracle_oNet_model`); `opsOk_iff_run` is the step
between them for one group of operations. -/

def OpsOk (kind : String) : Hist' → List NetOp → Prop
  | _, [] => True
  | h, op :: ops => checkOp kind h op = none ∧ OpsOk kind (h ++ [op]) ops

def Passes (kind : String) (nActors : Nat) (lossy : Bool) (last0 : Option Env) : Hist' → List (List NetOp × Obs) → Prop
  | _, [] => True
  | h, (ops, o) :: rest =>
    OpsOk kind h ops ∧ checkObs kind nActors lossy last0 (h ++ ops) o = none ∧ Passes kind nActors lossy last0 (h ++ ops) rest

def ModelPasses (kind : String) (nActors : Nat) (lossy : Bool) : Net → List (List NetOp × Obs) → Prop
  | _, [] => True
  | n, (ops, o) :: rest =>
    ∃ n', Net.run n ops = some n' ∧ SR.COracleRest.ObsSpec kind nActors lossy n' o ∧ ModelPasses kind nActors lossy n' rest

theorem opsOk_iff_run {kind : String} {last0 : Option Env} : ∀ (ops : List NetOp) (h : Hist') (n : Net),
    Net.run (SR.COracleRest.emptyNet kind last0) h = some n → (OpsOk kind h ops ↔ ∃ n', Net.run n ops = some n') := by
  intro ops
  induction ops with
  | nil =>
    intro h n _
    simp [OpsOk, Net.run]
  | cons op ops ih =>
    intro h n hr
    simp only [OpsOk, SR.COracleRest.checkOp_iff hr op]
    by_cases hv : n.valid op = true
    · obtain ⟨n1, h1⟩ := apply_of_valid (canon_run (SR.COracleRest.emptyNet_canon kind last0) hr) hv
      rw [and_iff_right hv, ih (h ++ [op]) n1 (run_append_some hr (run_cons.2 ⟨hv, n1, h1, rfl⟩))]
      simp [run_cons, hv, h1]
    · simp [run_cons, hv]

end SR.Drv.C07
