import SR.Util.Rewrite
import SR.Drv.C07
import SR.Drv.C12
import SR.Drv.C16
import SR.Drv.C19
import SR.Drv.Sem
import SR.Proofs.PathApi
import SR.Proofs.ListAux
import SR.Proofs.SemTester
import SR.Props.C07
/-!
Code written inline in the handler of an oracle command (`o-…` of `SR/Drv/*.lean`) is transcribed as a definition (`planBij` …
`dnmRwAnswer`; the theorems `…_handle` of Props/OracleAudit tie the handler to it), likewise the body under a `fun` of an
oracle function (`endStep` of `endStates`: the two unfold to the same term; `pairErrs` of `oracle`: `oracle_eq`).  Beside them,
oracle by oracle, what the theorems of Props/OracleAudit rest on: the worklist invariant of `reachSet` and what `graph?` tests,
the references of C07 as the unique solutions of the equations of `C07_ordered` / `_nondup` / `_dup`, the clauses of `o-orl`
for one pair (`PairOk`), `Meaning` of a finish condition, `wfFrom` and `firstIllFormedFrom` in lock-step.
-/
namespace SR.COracleAudit

section
open SR SR.RW SR.Hash

def planBij (n : Nat) (plan : List Nat) : Bool :=
  plan.length == n && (List.range n).all (fun k => plan.count k == 1)

def planOrdered {V : Type} (le : V → V → Bool) (vs : List V) (plan : List Nat) : Bool :=
  (List.range vs.length).all fun i => (List.range vs.length).all fun j =>
      if i < j then
        match vs[i]?, vs[j]?, plan[i]?, plan[j]? with
        | some a, some b, some pi, some pj =>
          if le a b then decide (pi < pj) else decide (pj < pi)
        | _, _, _, _ => false
      else true

def inOrbit {s m t r h : Ty} (b : Bool) (x y : St s m t r h) : Bool :=
  (perms x.actors.length).any fun π => match applyPerm b π x with | some z => z.eqB y | none => false

/-- the handler's text as it stands, with its local `inOrbit`; `C10_oracle_orbit_handle` reads the answer through the
    top-level one -/
def orbitAnswer {s m t r h : Ty} (x y : St s m t r h) : String :=
  let πs := perms x.actors.length
  let inOrbit (b : Bool) := πs.any fun π => match applyPerm b π x with | some z => z.eqB y | none => false
  if inOrbit true then "ok"
  else if inOrbit false then "timer-ids-not-rewritten:the-result-is-a-permutation-image-only-if-ids-inside-timer-values-are-left-alone"
  else "representative-not-in-the-orbit"

end

section
open SR SR.PathApi SR.Drv.C19

def endStep (M : Sys Nat Nat) (key : Nat → Nat) (cur : List Nat) (fp : Nat) : List Nat :=
  (cur.flatMap fun s => (M.succAll s).filter (fun t => key t == fp)).eraseDups

theorem mem_endStep (M : Sys Nat Nat) (key : Nat → Nat) (cur : List Nat) (fp t : Nat) :
    t ∈ endStep M key cur fp ↔ ∃ s ∈ cur, t ∈ M.succAll s ∧ key t = fp := by
  simp [endStep, List.mem_flatMap, List.mem_filter]

theorem mem_succAll {σ α : Type} {M : Sys σ α} {s t : σ} : t ∈ M.succAll s ↔ ∃ a ∈ M.acts s, M.next s a = some t := by
  simp [Sys.succAll, List.mem_filterMap]

theorem endFold_sound (M : Sys Nat Nat) (key : Nat → Nat) : ∀ (rest cur : List Nat) (t : Nat),
    t ∈ rest.foldl (endStep M key) cur →
      ∃ s ∈ cur, ∃ p, ExecFrom M s p ∧ encode key p = key s :: rest ∧ lastState p = some t := by
  intro rest
  induction rest with
  | nil =>
    intro cur t h
    exact ⟨t, h, [(t, none)], ExecFrom.last t, rfl, rfl⟩
  | cons fp r ih =>
    intro cur t h
    obtain ⟨s', hs', p', hp', he', hl'⟩ := ih _ t h
    obtain ⟨s, hs, hsucc, rfl⟩ := (mem_endStep M key cur _ s').1 hs'
    obtain ⟨a, ha, hn⟩ := mem_succAll.1 hsucc
    obtain ⟨x, r', rfl⟩ := execFrom_ne_nil hp'
    exact ⟨s, hs, (s, some a) :: (s', x) :: r', ExecFrom.step ha hn hp', congrArg (key s :: ·) he', hl'⟩

theorem endFold_complete (M : Sys Nat Nat) (key : Nat → Nat) {s : Nat} {p : Path Nat Nat} (hp : ExecFrom M s p) :
    ∀ cur : List Nat, s ∈ cur → ∀ t, lastState p = some t → t ∈ (encode key p).tail.foldl (endStep M key) cur := by
  induction hp with
  | last s =>
    intro cur hs t ht
    cases ht
    exact hs
  | @step s t' a rest ha hn hr ih =>
    intro cur hs t ht
    obtain ⟨x, r', rfl⟩ := execFrom_ne_nil hr
    exact ih _ ((mem_endStep M key cur _ t').2 ⟨s, hs, mem_succAll.2 ⟨a, ha, hn⟩, rfl⟩) t ht

theorem isInBoundaryPath_chain_iff (M : Sys Nat Nat) : ∀ (rest : List Nat) (s : Nat),
    isInBoundaryPath.chain M s rest = true ↔ M.Chain (s :: rest) := by
  intro rest
  induction rest with
  | nil =>
    intro s
    simp [isInBoundaryPath.chain, Sys.Chain]
  | cons b r ih =>
    intro s
    simp only [isInBoundaryPath.chain, Bool.and_eq_true, Sys.Chain, ih b]
    simp

end

section
open SR SR.PathApi SR.Drv.C19 SR.Checker

/-- invariant of the worklist loop of `reachSet`: `seen` is closed under `succB` except at the states still on the worklist -/
structure WInv (M : Sys Nat Nat) (work seen : List Nat) : Prop where
  sub : ∀ x ∈ work, x ∈ seen
  init : ∀ x ∈ M.initB, x ∈ seen
  closed : ∀ s ∈ seen, s ∉ work → ∀ t ∈ M.succB s, t ∈ seen
  reach : ∀ x ∈ seen, M.Reach x
  nodup : seen.Nodup

theorem winv_done {M : Sys Nat Nat} {seen : List Nat} (h : WInv M [] seen) (x : Nat) : x ∈ seen ↔ M.Reach x := by
  constructor
  · exact h.reach x
  · intro hr
    induction hr with
    | init hi => exact h.init _ hi
    | step _ ht ih => exact h.closed _ ih (by simp) _ ht

theorem winv_step {M : Sys Nat Nat} {s : Nat} {w seen : List Nat} (h : WInv M (s :: w) seen) :
    WInv M (w ++ ((M.succB s).eraseDups).filter (fun t => !seen.contains t && !w.contains t))
      (seen ++ ((M.succB s).eraseDups).filter (fun t => !seen.contains t && !w.contains t)) := by
  -- the test against `w` is redundant: the worklist is part of `seen`
  have hmem : ∀ t, t ∈ ((M.succB s).eraseDups).filter (fun t => !seen.contains t && !w.contains t) ↔
      t ∈ M.succB s ∧ t ∉ seen := by
    intro t
    simp only [List.mem_filter, List.mem_eraseDups, Bool.and_eq_true, Bool.not_eq_true', List.contains_eq_mem,
      decide_eq_false_iff_not]
    exact and_congr_right fun _ => and_iff_left_of_imp fun h2 hw => h2 (h.sub t (List.mem_cons_of_mem _ hw))
  have hs : M.Reach s := h.reach s (h.sub s List.mem_cons_self)
  refine ⟨?_, ?_, ?_, ?_, ?_⟩
  · intro x hx
    rw [List.mem_append] at hx ⊢
    exact hx.imp_left fun hx => h.sub x (List.mem_cons_of_mem _ hx)
  · intro x hx
    exact List.mem_append_left _ (h.init x hx)
  · intro s' hs' hn t ht
    rw [List.mem_append, hmem] at hs' ⊢
    rw [List.mem_append, hmem, not_or] at hn
    have hs'seen : s' ∈ seen := hs'.elim id fun hc => absurd hc hn.2
    by_cases hts : t ∈ seen
    · exact Or.inl hts
    · refine Or.inr ⟨?_, hts⟩
      -- `t ∉ seen` is a successor of `s' ∈ seen`: then `s'` is still on the old worklist, and not in `w`: it is `s`
      have : s' ∈ s :: w := Classical.byContradiction fun hnw => hts (h.closed s' hs'seen hnw t ht)
      rcases List.mem_cons.1 this with rfl | hw
      · exact ht
      · exact absurd hw hn.1
  · intro x hx
    rcases List.mem_append.1 hx with hx | hx
    · exact h.reach x hx
    · exact Sys.Reach.step hs ((hmem x).1 hx).1
  · rw [List.nodup_append]
    refine ⟨h.nodup, List.Pairwise.filter _ (nodup_eraseDups _), ?_⟩
    rintro a ha _ hb rfl
    exact ((hmem a).1 hb).2 ha

theorem winv_init (M : Sys Nat Nat) : WInv M M.initB.eraseDups M.initB.eraseDups where
  sub := fun _ hx => hx
  init := fun _ hx => List.mem_eraseDups.2 hx
  closed := fun _ hs hn => absurd hs hn
  reach := fun _ hx => Sys.Reach.init (List.mem_eraseDups.1 hx)
  nodup := nodup_eraseDups _

/-- the worklist `work'` that is left is empty unless the fuel ran out, and then every unit of fuel has added a state or
    shortened the worklist -/
theorem go_winv (M : Sys Nat Nat) : ∀ (fuel : Nat) (work seen : List Nat), WInv M work seen →
    ∃ work', WInv M work' (reachSet.go M fuel work seen) ∧
      (work' = [] ∨ fuel + seen.length + work'.length ≤ (reachSet.go M fuel work seen).length + work.length) := by
  intro fuel
  induction fuel with
  | zero =>
    intro work seen h
    exact ⟨work, h, Or.inr (by simp [reachSet.go])⟩
  | succ fuel ih =>
    intro work seen h
    cases work with
    | nil => exact ⟨[], h, Or.inl rfl⟩
    | cons s w =>
      obtain ⟨work', h', hw⟩ := ih _ _ (winv_step h)
      refine ⟨work', h', hw.imp_right fun hw => ?_⟩
      simp only [reachSet.go, List.length_append, List.length_cons] at hw ⊢
      omega

end

section
open SR SR.Drv.C19

/-- what `graph?` tests before it accepts a graph -/
def LWF (g : LGraph) : Prop :=
  (∀ s ∈ g.init, s < g.n) ∧ ∀ row ∈ g.edges.toList, ∀ e ∈ row, ∀ t, e.2 = some t → t < g.n

theorem graph?_wf (x : SExp) (g : LGraph) (h : graph? x = some g) : LWF g := by
  unfold graph? at h
  split at h
  · simp only [bind, Option.bind_eq_some_iff, pure, Option.ite_none_right_eq_some, Option.some.injEq] at h
    obtain ⟨n, -, init, -, edges, -, bnd, -, props, -, hc, rfl⟩ := h
    simp only [Bool.and_eq_true, List.all_eq_true, decide_eq_true_eq] at hc
    refine ⟨hc.1, fun row hrow e he t ht => ?_⟩
    have := hc.2 row (by simpa using hrow) e he
    rw [ht] at this
    exact of_decide_eq_true this
  · cases h

theorem lwf_reach_lt {g : LGraph} (hwf : LWF g) : ∀ x, g.toSys.Reach x → x < g.n := by
  intro x hx
  induction hx with
  | init hi => exact hwf.1 _ (List.mem_filter.1 hi).1
  | @step s t _ ht _ =>
    obtain ⟨⟨a, _, hn⟩, _⟩ := Sys.mem_succB.1 ht
    obtain ⟨e, hf, hn⟩ := Option.bind_eq_some_iff.1 hn
    have he : e ∈ g.edges.getD s [] := List.mem_of_find?_eq_some hf
    -- a row with an element is a row of the table, not the default
    have hrow : g.edges.getD s [] ∈ g.edges.toList := by
      by_cases hs : s < g.edges.size
      · simp [Array.getD, hs]
      · simp [Array.getD, hs] at he
    exact hwf.2 _ hrow e he t hn

/-- refused by `graph?`; on it `reachSet` itself is incomplete -/
def illLG : LGraph :=
  { n := 0, init := [0], edges := #[[(0, some 1)], [(0, some 2)], []], bnd := fun _ => true, props := [] }

end

section
open SR SR.Actor SR.Drv.C07 SR.C07

theorem refQueue_eq (h : List NetOp) (f : Nat × Nat) :
    refQueue h f = (sentOn f h).drop (removedOn f h).length := by
  unfold refQueue sentOn removedOn
  dsimp only
  congr 1
  · rw [List.length_filterMap_eq_countP, ← List.countP_eq_length_filter]
    apply List.countP_congr
    intro op _
    cases op with
    | send e => simp
    | deliver e =>
      by_cases hf : (e.src, e.dst) = f
      · simp [onFlow, flowOf, hf]
      · simp [onFlow, flowOf, hf]
    | drop e =>
      by_cases hf : (e.src, e.dst) = f
      · simp [onFlow, flowOf, hf]
      · simp [onFlow, flowOf, hf]
  · congr 1
    funext op
    cases op with
    | send e =>
      by_cases hf : (e.src, e.dst) = f
      · simp [flowOf, hf]
      · simp [flowOf, hf]
    | deliver e => rfl
    | drop e => rfl

theorem refQueue_unique (h : List NetOp) (f : Nat × Nat) (q : List Nat)
    (heq : removedOn f h ++ q = sentOn f h) : refQueue h f = q := by
  rw [refQueue_eq, ← heq, List.drop_left]

theorem filter_gone_length (e : Env) : ∀ h : List NetOp,
    (h.filter (fun op => op == NetOp.deliver e || op == NetOp.drop e)).length =
      (h.filter (· = NetOp.deliver e)).length + (h.filter (· = NetOp.drop e)).length := by
  intro h
  induction h with
  | nil => rfl
  | cons op ops ih =>
    simp only [List.filter_cons]
    by_cases hd : op = NetOp.deliver e
    · subst hd
      simp [ih]
      omega
    · by_cases hx : op = NetOp.drop e
      · subst hx
        simp [ih]
        omega
      · simp [hd, hx, ih]

theorem refCount_spec (h : List NetOp) (e : Env) :
    refCount h e = if deliveredCount e h + droppedCount e h ≤ sentCount e h
      then some (sentCount e h - (deliveredCount e h + droppedCount e h)) else none := by
  unfold refCount
  rw [filter_gone_length]
  rfl

theorem refCount_unique (h : List NetOp) (e : Env) (c : Nat)
    (heq : c + deliveredCount e h + droppedCount e h = sentCount e h) : refCount h e = some c := by
  rw [refCount_spec, if_pos (by omega)]
  congr 1
  omega

theorem lastSD_append (e : Env) (a b : List NetOp) :
    lastSD e (a ++ b) = match lastSD e b with | some x => some x | none => lastSD e a := by
  induction a with
  | nil => cases hb : lastSD e b <;> simp [lastSD, hb]
  | cons op ops ih =>
    simp only [List.cons_append, lastSD, ih]
    cases lastSD e b with
    | some x => simp
    | none => simp

theorem getLast?_filter_sd (e : Env) : ∀ h : List NetOp,
    (h.filter (fun op => op == .send e || op == .drop e)).getLast? =
      (lastSD e h).map fun b => if b then NetOp.send e else NetOp.drop e := by
  intro h
  induction h with
  | nil => rfl
  | cons op ops ih =>
    simp only [List.filter_cons, lastSD]
    cases op with
    | send e' =>
      by_cases he : e' = e
      · cases hl : lastSD e ops <;> simp [he, List.getLast?_cons, ih, hl]
      · cases hl : lastSD e ops <;> simp [he, ih, hl]
    | deliver e' => cases hl : lastSD e ops <;> simp [ih, hl]
    | drop e' =>
      by_cases he : e' = e
      · cases hl : lastSD e ops <;> simp [he, List.getLast?_cons, ih, hl]
      · cases hl : lastSD e ops <;> simp [he, ih, hl]

theorem refPresent_iff (h : List NetOp) (e : Env) : refPresent h e = true ↔ lastSD e h = some true := by
  rw [refPresent, getLast?_filter_sd]
  cases lastSD e h with
  | none => simp
  | some b => cases b <;> simp

theorem refQueue_run {h : List NetOp} {n : Net} (hr : Net.run (Net.ord []) h = some n) (f : Nat × Nat) :
    refQueue h f = n.queue f := by
  apply refQueue_unique
  have := C07_ordered (Net.ord []) n h (by simp [Net.Canon]) rfl hr f
  simpa [Net.queue, alookup] using this

theorem refCount_run {h : List NetOp} {n : Net} (hr : Net.run (Net.nondup []) h = some n) (e : Env) :
    refCount h e = some (n.count e) := by
  apply refCount_unique
  have := C07_nondup [] n h hr e
  simpa [Net.count, alookup] using this

theorem refPresent_run {last : Option Env} {h : List NetOp} {n : Net} (hr : Net.run (Net.dup [] last) h = some n) (e : Env) :
    refPresent h e = true ↔ e ∈ n.contents := by
  rw [refPresent_iff, C07_dup [] last n h hr e]
  simp

end

section
open SR SR.Orl SR.Drv.C16

/-- the five clauses of `o-orl` for one ordered pair -/
structure PairOk (nodes : List (Node Nat WSt)) (net : List (Packet Nat)) (s d : Nat) : Prop where
  /-- `C16_prefix` -/
  pref : msgsFrom ((world nodes net).nodes d) s <+: sentTo ((world nodes net).nodes s) d
  /-- `C16_no_redelivery` (first clause) -/
  once : seqsFrom ((world nodes net).nodes d) s = List.range' 1 (seqsFrom ((world nodes net).nodes d) s).length
  /-- `C16_complete_when_acked` -/
  complete : (∀ e ∈ ((world nodes net).nodes s).pending, e.1.1 ≠ d) →
    msgsFrom ((world nodes net).nodes d) s = sentTo ((world nodes net).nodes s) d
  /-- `C16_no_early_ack` (in flight), and: a `Deliver(q, m)` in flight from `s` to `d` carries the `q`-th message sent -/
  inflight : ∀ p ∈ net,
    (∀ q, p.env = Env.ack q → p.src = d → p.dst = s → 1 ≤ q ∧ q ≤ (handedFrom ((world nodes net).nodes d) s).length) ∧
    (∀ q m, p.env = Env.deliver q m → p.src = s → p.dst = d → 1 ≤ q ∧ (sentTo ((world nodes net).nodes s) d)[q - 1]? = some m)
  /-- `C16_no_early_ack_processed` -/
  processed : ∀ q, 1 ≤ q → q ≤ (sentTo ((world nodes net).nodes s) d).length →
    (∃ e ∈ ((world nodes net).nodes s).pending, e.1.1 = d ∧ e.1.2 = q) ∨ q ≤ (handedFrom ((world nodes net).nodes d) s).length

theorem handed_world (nodes : List (Node Nat WSt)) (net : List (Packet Nat)) (s d : Nat) :
    (match nodes[d]? with | some R => handedFrom R s | none => []) = handedFrom ((world nodes net).nodes d) s := by
  unfold world
  cases h : nodes[d]? with
  | none => simp [h, handedFrom, emptyNode]
  | some R => simp [h]

def pairErrs (nodes : List (Node Nat WSt)) (net : List (Packet Nat)) (s d : Nat) : List String :=
    let S := nodes[s]?.getD emptyNode
    let sent := sentTo S d
    let handed := match nodes[d]? with | some R => handedFrom R s | none => []
    let msgs := handed.map (·.2)
    let seqs := handed.map (·.1)
    let pendingTo := S.pending.filter (fun e => e.1.1 == d)
    let tag := s!"[{s}->{d}]"
    (if msgs.isPrefixOf sent then [] else [s!"handed-not-a-prefix-of-sent{tag}"]) ++
    (if seqs == List.range' 1 seqs.length then [] else [s!"not-exactly-once-in-order{tag}"]) ++
    (if pendingTo.isEmpty && msgs != sent then [s!"all-acknowledged-but-handed≠sent{tag}"] else []) ++
    (if net.all (fun p => match p.env with
        | .ack q => !(p.src == d && p.dst == s) || (1 ≤ q && q ≤ handed.length)
        | .deliver q m => !(p.src == s && p.dst == d) || (1 ≤ q && sent[q - 1]? == some m))
      then [] else [s!"ack-before-handover-or-fabricated-deliver{tag}"]) ++
    (if (List.range' 1 sent.length).all (fun q => pendingTo.any (fun e => e.1.2 == q) || q ≤ handed.length)
      then [] else [s!"acknowledged-and-discarded-before-handover{tag}"])

theorem oracle_eq (nodes : List (Node Nat WSt)) (net : List (Packet Nat)) :
    oracle nodes net = (List.range nodes.length).flatMap fun s =>
      (List.range (maxId nodes + 1)).flatMap fun d => pairErrs nodes net s d := rfl

theorem pairErrs_nil_iff (nodes : List (Node Nat WSt)) (net : List (Packet Nat)) (s d : Nat) :
    pairErrs nodes net s d = [] ↔ PairOk nodes net s d := by
  unfold pairErrs
  simp only [handed_world nodes net s d]
  have hS : nodes[s]?.getD emptyNode = (world nodes net).nodes s := rfl
  simp only [hS, List.append_eq_nil_iff, ite_singleton_eq_nil, ite_singleton_eq_nil']
  -- `PairOk` is the conjunction of its five fields; each is what one of the five tests decides
  refine Iff.trans (and_congr (and_congr (and_congr (and_congr ?_ ?_) ?_) ?_) ?_)
    (⟨fun h => ⟨h.1.1.1.1, h.1.1.1.2, h.1.1.2, h.1.2, h.2⟩,
      fun h => ⟨⟨⟨⟨h.pref, h.once⟩, h.complete⟩, h.inflight⟩, h.processed⟩⟩ :
      ((((_ ∧ _) ∧ _) ∧ _) ∧ _) ↔ PairOk nodes net s d)
  · exact List.isPrefixOf_iff_prefix
  · exact beq_iff_eq
  · -- `complete`
    simp only [msgsFrom, Bool.and_eq_true, List.isEmpty_iff, List.filter_eq_nil_iff, beq_iff_eq, bne_iff_ne, ne_eq, not_and,
      Decidable.not_not]
  · rw [List.all_eq_true]
    refine forall_congr' fun p => imp_congr_right fun _ => ?_
    cases hq : p.env with
    | ack q => simp [not_or_iff_imp]
    | deliver q m => simp [not_or_iff_imp]
  · -- `processed`
    simp only [List.all_eq_true, List.mem_range'_1, Nat.lt_one_add_iff, Bool.or_eq_true, List.any_eq_true, List.mem_filter,
      beq_iff_eq, decide_eq_true_eq, and_imp, and_assoc]

end

section
open SR

/-- `kv`: the mode is `"kv"` -/
def dnmRwApplicable (plan m : List Nat) (kv : Bool) : Bool :=
  plan.length == m.length && (!kv || m.all (· < plan.length)) &&
    (List.range plan.length).all (fun k => plan.count k == 1)

/-- the verdict of `o-dnm-rewrite` on a result that is not `panic` -/
def dnmRwAnswer (plan m : List Nat) (kv : Bool) (res : List Nat) : String :=
  let pv := fun v => if kv then plan.getD v v else v
  if res.length != m.length then "wrong-length"
  else if (List.range m.length).all (fun k => res[plan.getD k k]? == (m[k]?).map pv) then "ok"
  else "value-not-moved-to-the-rewritten-key"

end

section
open SR SR.HasDisc SR.Drv.C12

/-- the right-hand sides of `C12_matches_*` -/
def Meaning (c : Cond) (D : List Nat) (props : List P) : Prop :=
  match c with
  | .all => ∀ p ∈ props, p.name ∈ D
  | .any => D ≠ []
  | .anyFailures => ∃ p ∈ props, p.exp ≠ .sometimes ∧ p.name ∈ D
  | .allFailures => ∀ p ∈ props, p.exp ≠ .sometimes → p.name ∈ D
  | .allOf s => ∀ n ∈ s, n ∈ D
  | .anyOf s => ∃ n ∈ s, n ∈ D

theorem nodupB_iff : ∀ l : List Nat, nodupB l = true ↔ l.Nodup := by
  intro l
  induction l with
  | nil => simp [nodupB]
  | cons x xs ih => simp [nodupB, ih]

end

section
open SR SR.Sem SR.Sem.Tester SR.Drv.Sem

variable {Op Ret : Type}

/-- `wfFrom` and `firstIllFormedFrom` walk the history with the list `fl` of threads that have a call in flight: whether
    the next event is admissible then, and the list after it -/
def admB (fl : List Nat) : Event Op Ret → Bool
  | .inv t _ => !fl.contains t
  | .ret t _ => fl.contains t

def flNext (fl : List Nat) : Event Op Ret → List Nat
  | .inv t _ => t :: fl
  | .ret t _ => fl.erase t

theorem wfFrom_cons (fl : List Nat) (e : Event Op Ret) (es : List (Event Op Ret)) :
    wfFrom fl (e :: es) = (admB fl e && wfFrom (flNext fl e) es) := by
  cases e <;> rfl

theorem firstIllFormedFrom_cons (fl : List Nat) (n : Nat) (e : Event Op Ret) (es : List (Event Op Ret)) :
    firstIllFormedFrom fl n (e :: es) =
      if admB fl e then firstIllFormedFrom (flNext fl e) (n + 1) es else some (n, isInv e) := by
  cases e with
  | inv t op => simp [firstIllFormedFrom, admB, flNext, isInv]
  | ret t r => rfl

/-- the two walks go in lock-step, so the position `firstIllFormedFrom` answers is where `wfFrom` first fails -/
theorem firstIllFormedFrom_total : ∀ (es : List (Event Op Ret)) (fl : List Nat) (n : Nat),
    (firstIllFormedFrom fl n es = none ∧ wfFrom fl es = true) ∨
    ∃ p e q, es = p ++ e :: q ∧ firstIllFormedFrom fl n es = some (n + p.length, isInv e) ∧
      wfFrom fl p = true ∧ wfFrom fl (p ++ [e]) = false := by
  intro es
  induction es with
  | nil => exact fun _ _ => Or.inl ⟨rfl, rfl⟩
  | cons e es ih =>
    intro fl n
    rw [firstIllFormedFrom_cons, wfFrom_cons]
    cases ha : admB fl e with
    | false =>
      refine Or.inr ⟨[], e, es, rfl, rfl, rfl, ?_⟩
      rw [List.nil_append, wfFrom_cons, ha]
      rfl
    | true =>
      rw [if_pos rfl, Bool.true_and]
      refine (ih _ (n + 1)).imp_right ?_
      rintro ⟨p, e', q, rfl, h2, h3, h4⟩
      refine ⟨e :: p, e', q, rfl, ?_, ?_, ?_⟩
      · rw [h2, List.length_cons, Nat.add_assoc, Nat.add_comm 1]
      · rw [wfFrom_cons, ha, h3]
        rfl
      · rw [List.cons_append, wfFrom_cons, ha, h4]
        rfl

/-- the list `oracleResults` expects when the first inadmissible event is `e` at position `p.length`, in the form in which
    `illformed_record` gives the model's `results` -/
theorem expect_split (p q : List (Event Op Ret)) (e : Event Op Ret) :
    ((List.range (p ++ e :: q).length).map fun i =>
      if i < p.length then Res.ok else if i = p.length then (if isInv e then Res.errInFlight else Res.errNoInFlight)
      else Res.errEarlier) =
    List.replicate p.length Res.ok ++ errOf e :: List.replicate q.length Res.errEarlier := by
  apply List.ext_getElem
  · simp
  · intro i h1 h2
    simp only [List.getElem_map, List.getElem_range]
    by_cases hi : i < p.length
    · rw [List.getElem_append_left (by simpa using hi)]
      simp [hi]
    · rw [List.getElem_append_right (by simpa using hi)]
      simp only [hi, if_false, List.length_replicate]
      by_cases he : i = p.length
      · subst he
        simp only [if_true, Nat.sub_self, List.getElem_cons_zero]
        cases e <;> rfl
      · simp only [he, if_false]
        have hne : i - p.length ≠ 0 := by omega
        obtain ⟨j, hj⟩ := Nat.exists_eq_succ_of_ne_zero hne
        simp [hj]

end

end SR.COracleAudit
