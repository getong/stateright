import SR.Runtime.System
import SR.Proofs.ActorActions
import SR.Proofs.Runtime
/-!
The system-level runtime (`SR/Runtime/System.lean`) refines the actor model (`SR/Actor/Sys.lean`) over the unordered,
duplicating, lossy network, for the message / timer fragment.  The model keeps sets as sorted
duplicate-free lists; these are canonical (`sorted_ext`), so the abstraction of a runtime multiset depends on its
members only (`eq_mkSet`).  A handler step is compared with the model component by component (`abs_finish` against
`model_handler`); a consuming delivery is a duplicating one followed by `lose` (`deliver_consume`).
-/
namespace SR.RtSys
open SR SR.Actor SR.Loop

theorem set_replicate_self {α : Type} (n i : Nat) (a : α) : (List.replicate n a).set i a = List.replicate n a :=
  List.set_replicate_self

section sorted
variable {α : Type} [DecidableEq α] {lt : α → α → Bool}

theorem sorted_mkSet (h : StrictTotal lt) (l : List α) : Sorted lt (mkSet lt l) :=
  List.foldlRecOn l _ List.Pairwise.nil (fun _ hb a _ => sorted_sins h a hb)

theorem mem_mkSet (l : List α) (x : α) : x ∈ mkSet lt l ↔ x ∈ l := by
  simp [mkSet, mem_foldl_sins]

theorem nodup_mkSet (l : List α) : (mkSet lt l).Nodup :=
  List.foldlRecOn l _ List.nodup_nil (fun b hb a _ => nodup_sins lt a b hb)

theorem eq_mkSet (h : StrictTotal lt) {l l' : List α} (hs : Sorted lt l)
    (hm : ∀ x, x ∈ l ↔ x ∈ l') : l = mkSet lt l' :=
  sorted_ext h hs (sorted_mkSet h l') (fun x => by rw [mem_mkSet, hm])

theorem mkSet_congr (h : StrictTotal lt) {l1 l2 : List α} (hm : ∀ x, x ∈ l1 ↔ x ∈ l2) :
    mkSet lt l1 = mkSet lt l2 :=
  eq_mkSet h (sorted_mkSet h l1) (fun x => by rw [mem_mkSet, hm])

theorem foldl_sins_mkSet (l es : List α) :
    es.foldl (fun acc a => sins lt a acc) (mkSet lt l) = mkSet lt (l ++ es) := by
  simp [mkSet, List.foldl_append]

theorem sins_mkSet (h : StrictTotal lt) (a : α) (l l' : List α)
    (hm : ∀ x, x ∈ l' ↔ x = a ∨ x ∈ l) : sins lt a (mkSet lt l) = mkSet lt l' :=
  eq_mkSet h (sorted_sins h a (sorted_mkSet h l)) (fun x => by rw [mem_sins, mem_mkSet, hm])

theorem srem_mkSet (h : StrictTotal lt) (a : α) (l l' : List α)
    (hm : ∀ x, x ∈ l' ↔ x ∈ l ∧ x ≠ a) : srem a (mkSet lt l) = mkSet lt l' :=
  eq_mkSet h (List.Pairwise.filter _ (sorted_mkSet h l)) (fun x => by rw [mem_srem, mem_mkSet, hm])

theorem sins_srem_mkSet (h : StrictTotal lt) {a : α} {l : List α} (ha : a ∈ l) :
    sins lt a (srem a (mkSet lt l)) = mkSet lt l := by
  refine eq_mkSet h (sorted_sins h a (List.Pairwise.filter _ (sorted_mkSet h l))) (fun x => ?_)
  rw [mem_sins, mem_srem, mem_mkSet]
  constructor
  · rintro (rfl | ⟨hx, _⟩)
    · exact ha
    · exact hx
  · intro hx
    by_cases hxa : x = a
    · exact Or.inl hxa
    · exact Or.inr ⟨hx, hxa⟩

end sorted

theorem strictTotal_natLt : StrictTotal natLt := by
  constructor
  · intro a
    simp [natLt]
  · intro a b c
    simp only [natLt, decide_eq_true_eq]
    omega
  · intro a b
    simp only [natLt, decide_eq_false_iff_not, decide_eq_true_eq]
    omega

theorem mem_armed {ints : Ints} {t : Nat} : t ∈ armed ints ↔ ∃ d, (Key.timeout t, d) ∈ ints ∧ d < never := by
  unfold armed
  simp only [List.mem_filterMap]
  constructor
  · rintro ⟨⟨k, d⟩, he, h⟩
    cases k with
    | timeout t' =>
      simp only at h
      split at h
      · cases h
        exact ⟨d, he, ‹_›⟩
      · cases h
    | random r => simp at h
  · rintro ⟨d, he, hd⟩
    exact ⟨(.timeout t, d), he, by simp [hd]⟩

theorem armed_setInt (ints : Ints) (t : Nat) {d : Nat} (hd : d < never) :
    mkSet natLt (armed (setInt ints (.timeout t) d)) = sins natLt t (mkSet natLt (armed ints)) := by
  symm
  apply sins_mkSet strictTotal_natLt
  intro x
  simp only [mem_armed]
  constructor
  · rintro ⟨d', hm, hd'⟩
    rcases mem_setInt_iff.1 hm with ⟨_, hin⟩ | he
    · exact Or.inr ⟨d', hin, hd'⟩
    · cases he
      exact Or.inl rfl
  · rintro (rfl | ⟨d', hin, hd'⟩)
    · exact ⟨d, mem_setInt_iff.2 (.inr rfl), hd⟩
    · by_cases hx : x = t
      · exact ⟨d, mem_setInt_iff.2 (.inr (hx ▸ rfl)), hd⟩
      · exact ⟨d', mem_setInt_iff.2 (.inl ⟨by simpa using hx, hin⟩), hd'⟩

/-- `cancel` parks the entry beyond the horizon, it does not remove it -/
theorem armed_modInt (ints : Ints) (t : Nat) {d : Nat} (hd : never ≤ d) :
    mkSet natLt (armed (modInt ints (.timeout t) d)) = srem t (mkSet natLt (armed ints)) := by
  symm
  apply srem_mkSet strictTotal_natLt
  intro x
  simp only [mem_armed]
  constructor
  · rintro ⟨d', hm, hd'⟩
    rcases mem_modInt_iff.1 hm with ⟨hk, hin⟩ | ⟨he, _⟩
    · exact ⟨⟨d', hin, hd'⟩, by simpa using hk⟩
    · cases he
      omega
  · rintro ⟨⟨d', hin, hd'⟩, hx⟩
    exact ⟨d', mem_modInt_iff.2 (.inl ⟨by simpa using hx, hin⟩), hd'⟩

theorem armed_eraseInt (ints : Ints) (t : Nat) :
    mkSet natLt (armed (eraseInt ints (.timeout t))) = srem t (mkSet natLt (armed ints)) := by
  symm
  apply srem_mkSet strictTotal_natLt
  intro x
  simp only [mem_armed, mem_eraseInt]
  constructor
  · rintro ⟨d, ⟨he, hk⟩, hd⟩
    exact ⟨⟨d, he, hd⟩, by simpa using hk⟩
  · rintro ⟨⟨d, he, hd⟩, hx⟩
    exact ⟨d, ⟨he, by simpa using hx⟩, hd⟩

def TKeys (ints : Ints) : Prop := ∀ en ∈ ints, ∃ t, en.1 = Key.timeout t

theorem tkeys_eraseInt {ints : Ints} (k : Key) (h : TKeys ints) : TKeys (eraseInt ints k) :=
  fun en hen => h en (mem_eraseInt.1 hen).1

def NoChoose (cmds : List Cmd) : Prop := ∀ c ∈ cmds, isChoose c = false

theorem NoChoose.tail {c : Cmd} {cs : List Cmd} (h : NoChoose (c :: cs)) : NoChoose cs :=
  fun c' hc => h c' (List.mem_cons_of_mem _ hc)

theorem never_pos : 0 < never := by decide

/-- `headD 0`: the pick is 0 when the picks run out -/
theorem picksOk_head_tail {now : Nat} {ps : List Nat} (h : picksOk now ps = true) :
    ps.headD 0 < never ∧ (now < never → now + ps.headD 0 < never) ∧ picksOk now ps.tail = true := by
  cases ps with
  | nil => exact ⟨never_pos, fun hnow => hnow, rfl⟩
  | cons p ps =>
    simp only [picksOk, List.all_cons, Bool.and_eq_true, decide_eq_true_eq] at h
    exact ⟨Nat.lt_of_le_of_lt (Nat.le_add_left _ _) h.1, fun _ => h.1, h.2⟩

/-- `on_command` treats the interrupts and the datagrams in flight independently -/
theorem execCmd_eq (i now p : Nat) (c : Cmd) (L : Loc) :
    execCmd i now L p c = ⟨(execCmd i now ⟨L.ints, []⟩ p c).ints, L.flight ++ sendsOf i [c]⟩ := by
  cases c with
  | chooseRandom k vals => cases vals <;> simp [execCmd, sendsOf]
  | _ => simp [execCmd, sendsOf]

theorem execCmds_eq (i now : Nat) (cmds : List Cmd) (ps : List Nat) (L : Loc) :
    execCmds i now cmds ps L = ⟨(execCmds i now cmds ps ⟨L.ints, []⟩).ints, L.flight ++ sendsOf i cmds⟩ := by
  induction cmds generalizing ps L with
  | nil => simp [execCmds, sendsOf]
  | cons c cs ih =>
    rw [execCmds, ih, execCmds, ih (L := execCmd _ _ ⟨_, []⟩ _ _), execCmd_eq, List.append_assoc]
    exact congrArg _ (congrArg _ List.filterMap_append.symm)

theorem execCmds_flight (i now : Nat) (cmds : List Cmd) (ps : List Nat) (L : Loc) :
    (execCmds i now cmds ps L).flight = L.flight ++ sendsOf i cmds := by
  rw [execCmds_eq]

theorem execCmd_tkeys {i now p : Nat} {c : Cmd} {L : Loc} (hc : isChoose c = false) (hk : TKeys L.ints) :
    TKeys (execCmd i now L p c).ints := by
  cases c with
  | send d m => exact hk
  | setTimer t =>
    intro en hen
    rcases mem_setInt_iff.1 hen with ⟨_, h⟩ | rfl
    · exact hk en h
    · exact ⟨t, rfl⟩
  | cancelTimer t =>
    intro en hen
    rcases mem_modInt_iff.1 hen with ⟨_, h⟩ | ⟨rfl, _⟩
    · exact hk en h
    · exact ⟨t, rfl⟩
  | chooseRandom k vals => cases hc

theorem execCmds_tkeys {i now : Nat} {cmds : List Cmd} {ps : List Nat} {L : Loc} (hc : NoChoose cmds)
    (hk : TKeys L.ints) : TKeys (execCmds i now cmds ps L).ints := by
  induction cmds generalizing ps L with
  | nil => exact hk
  | cons c cs ih => exact ih hc.tail (execCmd_tkeys (hc c List.mem_cons_self) hk)

theorem armed_execCmd {i now p : Nat} {c : Cmd} {L : Loc} (hc : isChoose c = false) (hp : now + p < never) :
    mkSet natLt (armed (execCmd i now L p c).ints) = applyTimerCmd (mkSet natLt (armed L.ints)) c := by
  cases c with
  | send d m => rfl
  | chooseRandom k vals => cases hc
  | setTimer t => exact armed_setInt L.ints t hp
  | cancelTimer t => exact armed_modInt L.ints t (Nat.le_add_left _ _)

theorem armed_execCmds {i now : Nat} {cmds : List Cmd} {ps : List Nat} {L : Loc} (hc : NoChoose cmds)
    (hnow : now < never) (hp : picksOk now ps = true) :
    mkSet natLt (armed (execCmds i now cmds ps L).ints) = cmds.foldl applyTimerCmd (mkSet natLt (armed L.ints)) := by
  induction cmds generalizing ps L with
  | nil => rfl
  | cons c cs ih =>
    obtain ⟨_, hp1, hp2⟩ := picksOk_head_tail hp
    rw [execCmds, List.foldl_cons, ih hc.tail hp2, armed_execCmd (hc c List.mem_cons_self) (hp1 hnow)]

section absn
variable {σ η : Type}

def RReach (sys : ActorSys σ η) (rs : RSt σ η) : Prop := ∃ ls, rrun sys (rinit sys) ls = some rs

theorem mpath_of_mrun {sys : ActorSys σ η} {s t : St σ η} {as : List Action} (h : mrun sys s as = some t) :
    MPath sys s as t := by
  induction as generalizing s with
  | nil =>
    simp only [mrun, Option.some.injEq] at h
    exact h
  | cons a as ih =>
    simp only [mrun] at h
    split at h
    · rename_i ha
      obtain ⟨m, hst, h⟩ := Option.bind_eq_some_iff.1 h
      exact ⟨m, ⟨ha, toOption_eq_some.1 hst⟩, ih h⟩
    · cases h

section
variable {sys : ActorSys σ η} {rs rs' : RSt σ η}

theorem rstep_tick {t : Nat} :
    rstep sys rs (.tick t) = some rs' ↔ (rs.now ≤ t ∧ t < never) ∧ { rs with now := t } = rs' := by
  simp only [rstep, Option.ite_none_right_eq_some, Option.some.injEq]

theorem rstep_lose {e : Env} :
    rstep sys rs (.lose e) = some rs' ↔ e ∈ rs.flight ∧ { rs with flight := rs.flight.erase e } = rs' := by
  simp only [rstep, Option.ite_none_right_eq_some, Option.some.injEq]

theorem rstep_start {i : Nat} {picks : List Nat} :
    rstep sys rs (.start i picks) = some rs' ↔ (i < sys.n ∧ rs.st i = none ∧ picksOk rs.now picks = true) ∧
      finish rs i ((sys.actor i).start i).1 (rs.ints i) rs.flight rs.last rs.hist ((sys.actor i).start i).2 picks
        = rs' := by
  simp only [rstep, Option.ite_none_right_eq_some, Option.some.injEq]

theorem rstep_deliver {e : Env} {keep : Bool} {picks : List Nat} :
    rstep sys rs (.deliver e keep picks) = some rs' ↔
    ∃ s ns cmds, rs.st e.dst = some s ∧ (e.dst < sys.n ∧ e ∈ rs.flight ∧ picksOk rs.now picks = true) ∧
      (sys.actor e.dst).msg e.dst s e.src e.msg = .ok ns cmds ∧
      finish rs e.dst (ns.getD s) (rs.ints e.dst) (if keep then rs.flight else rs.flight.erase e)
        (if isNoOp ns cmds then rs.last else some e)
        (if isNoOp ns cmds then rs.hist
          else recordOuts sys ((sys.recordIn rs.hist e).getD rs.hist) (sendsOf e.dst cmds)) cmds picks = rs' := by
  constructor
  · intro h
    cases hs : rs.st e.dst with
    | none =>
      simp only [rstep, hs] at h
      cases h
    | some s =>
      cases hh : (sys.actor e.dst).msg e.dst s e.src e.msg with
      | panic =>
        simp only [rstep, hs, hh, ite_self] at h
        cases h
      | ok ns cmds =>
        simp only [rstep, hs, hh, Option.ite_none_right_eq_some, Option.some.injEq] at h
        exact ⟨s, ns, cmds, rfl, h.1, hh, h.2⟩
  · rintro ⟨s, ns, cmds, hs, hg, hh, rfl⟩
    simp only [rstep, hs, hg, hh, and_self, if_true]

theorem rstep_fire {i : Nat} {k : Key} {picks : List Nat} :
    rstep sys rs (.fire i k picks) = some rs' ↔
    ∃ s ns cmds, rs.st i = some s ∧
      (i < sys.n ∧ (rs.ints i).any (fun en => en.1 = k && en.2 < rs.now) = true ∧ picksOk rs.now picks = true) ∧
      handlerK sys i s k = .ok ns cmds ∧
      finish rs i (ns.getD s) (eraseInt (rs.ints i) k) rs.flight rs.last (recordOuts sys rs.hist (sendsOf i cmds))
        cmds picks = rs' := by
  constructor
  · intro h
    cases hs : rs.st i with
    | none =>
      simp only [rstep, hs] at h
      cases h
    | some s =>
      cases hh : handlerK sys i s k with
      | panic =>
        simp only [rstep, hs, hh, ite_self] at h
        cases h
      | ok ns cmds =>
        simp only [rstep, hs, hh, Option.ite_none_right_eq_some, Option.some.injEq] at h
        exact ⟨s, ns, cmds, rfl, h.1, hh, h.2⟩
  · rintro ⟨s, ns, cmds, hs, hg, hh, rfl⟩
    simp only [rstep, hs, hg, hh, and_self, if_true]

theorem rrun_cons {l : Lbl} {ls : List Lbl} :
    rrun sys rs (l :: ls) = some rs' ↔ ∃ m, rstep sys rs l = some m ∧ rrun sys m ls = some rs' :=
  Option.bind_eq_some_iff

theorem finish_erase (i : Nat) (s' : σ) (ints0 : Ints) {fl0 : List Env} (last : Option Env) (hist : η)
    (cmds : List Cmd) (picks : List Nat) {e : Env} (he : e ∈ fl0) :
    { finish rs i s' ints0 fl0 last hist cmds picks with
      flight := (finish rs i s' ints0 fl0 last hist cmds picks).flight.erase e }
    = finish rs i s' ints0 (fl0.erase e) last hist cmds picks := by
  simp only [finish]
  rw [execCmds_eq, execCmds_eq (L := ⟨ints0, fl0.erase e⟩)]
  congr 1
  exact List.erase_append_left _ he

theorem deliver_consume {e : Env} {picks : List Nat}
    (h : rstep sys rs (.deliver e false picks) = some rs') :
    ∃ m, rstep sys rs (.deliver e true picks) = some m ∧ rstep sys m (.lose e) = some rs' := by
  obtain ⟨s, ns, cmds, hs, hg, hh, rfl⟩ := rstep_deliver.1 h
  refine ⟨_, rstep_deliver.2 ⟨s, ns, cmds, hs, hg, hh, rfl⟩, rstep_lose.2 ⟨?_, finish_erase _ _ _ _ _ _ _ hg.2.1⟩⟩
  simp only [finish, execCmds_flight]
  exact List.mem_append_left _ hg.2.1

/-- `now`: the horizon assumption of `System.lean`.  `fresh`: a thread that has not started holds no interrupt, so when it
starts exactly its `on_start` timers are armed, as `abs` has shown them all along (`refines_start`).  `tkeys`: under `NoRandom`
only `Timeout` interrupts exist, so an overdue entry is a timer the model has set (`overdue_armed`). -/
structure RInv (rs : RSt σ η) : Prop where
  now : rs.now < never
  fresh : ∀ i, rs.st i = none → rs.ints i = []
  tkeys : ∀ i, TKeys (rs.ints i)

theorem inv_rinit (sys : ActorSys σ η) : RInv (rinit sys) :=
  ⟨never_pos, fun _ _ => rfl, fun _ _ h => nomatch h⟩

theorem overdue_armed (hinv : RInv rs) {i : Nat} {k : Key}
    (h : (rs.ints i).any (fun en => en.1 = k && en.2 < rs.now) = true) :
    ∃ t, k = .timeout t ∧ t ∈ armed (rs.ints i) := by
  obtain ⟨⟨k', d⟩, hen, hk⟩ := List.any_eq_true.1 h
  simp only [Bool.and_eq_true, decide_eq_true_eq] at hk
  obtain ⟨rfl, hd⟩ := hk
  obtain ⟨t, rfl⟩ : ∃ t, k' = .timeout t := hinv.tkeys i _ hen
  exact ⟨t, rfl, mem_armed.2 ⟨d, hen, Nat.lt_trans hd hinv.now⟩⟩

theorem inv_finish (hinv : RInv rs) (i : Nat) (s' : σ) {ints0 : Ints}
    (fl0 : List Env) (last : Option Env) (hist : η) {cmds : List Cmd} (picks : List Nat) (hc : NoChoose cmds)
    (hk : TKeys ints0) : RInv (finish rs i s' ints0 fl0 last hist cmds picks) := by
  refine ⟨hinv.now, fun j hj => ?_, fun j => ?_⟩
  · simp only [finish, upd] at hj ⊢
    split at hj
    · cases hj
    · rename_i hne
      rw [if_neg hne]
      exact hinv.fresh j hj
  · simp only [finish, upd]
    split
    · exact execCmds_tkeys hc hk
    · exact hinv.tkeys j

theorem inv_step (hr : NoRandom sys) {l : Lbl} (hinv : RInv rs)
    (h : rstep sys rs l = some rs') : RInv rs' := by
  cases l with
  | tick t =>
    obtain ⟨hg, rfl⟩ := rstep_tick.1 h
    exact ⟨hg.2, hinv.fresh, hinv.tkeys⟩
  | lose e =>
    obtain ⟨_, rfl⟩ := rstep_lose.1 h
    exact ⟨hinv.now, hinv.fresh, hinv.tkeys⟩
  | start i picks =>
    obtain ⟨_, rfl⟩ := rstep_start.1 h
    exact inv_finish hinv _ _ _ _ _ _ (hr.start i) (hinv.tkeys i)
  | deliver e keep picks =>
    obtain ⟨s, ns, cmds, _, _, hh, rfl⟩ := rstep_deliver.1 h
    exact inv_finish hinv _ _ _ _ _ _ (hr.msg _ _ _ _ _ _ hh) (hinv.tkeys _)
  | fire i k picks =>
    obtain ⟨s, ns, cmds, _, hg, hh, rfl⟩ := rstep_fire.1 h
    obtain ⟨t, rfl, _⟩ := overdue_armed hinv hg.2.1
    exact inv_finish hinv _ _ _ _ _ _ (hr.timeout _ _ _ _ _ hh) (tkeys_eraseInt _ (hinv.tkeys _))

theorem abs_wf : (abs sys rs).WF sys := by
  simp [St.WF, abs]

theorem abs_netOk (hu : UdpModel sys) : (abs sys rs).NetOk sys := by
  refine ⟨nodup_mkSet _, ?_⟩
  rw [hu.net]
  trivial

theorem abs_actors_get {i : Nat} (hi : i < sys.n) :
    (abs sys rs).actors[i]? = some ((rs.st i).getD ((sys.actor i).start i).1) := by
  simp [abs, List.getElem?_map, List.getElem?_range hi]

theorem abs_timers_get {i : Nat} (hi : i < sys.n) {s : σ}
    (hs : rs.st i = some s) : (abs sys rs).timers[i]? = some (mkSet natLt (armed (rs.ints i))) := by
  simp [abs, List.getElem?_map, List.getElem?_range hi, hs]

theorem abs_random_get {i : Nat} (hi : i < sys.n) :
    (abs sys rs).random[i]? = some [] := by
  simp [abs, hi]

theorem abs_crashed_get {i : Nat} (hi : i < sys.n) :
    (abs sys rs).crashed[i]? = some false := by
  simp [abs, hi]

theorem mem_pending (x : Env) :
    x ∈ pending sys rs ↔ ∃ i, i < sys.n ∧ rs.st i = none ∧ x ∈ sendsOf i ((sys.actor i).start i).2 := by
  simp only [pending, List.mem_flatMap, List.mem_range]
  constructor
  · rintro ⟨i, hi, hx⟩
    cases hs : rs.st i with
    | none => exact ⟨i, hi, hs, by simpa [hs] using hx⟩
    | some s => simp [hs] at hx
  · rintro ⟨i, hi, hs, hx⟩
    exact ⟨i, hi, by simpa [hs] using hx⟩

theorem pending_congr
    (h : ∀ i, i < sys.n → (rs'.st i).isNone = (rs.st i).isNone) : pending sys rs' = pending sys rs := by
  unfold pending
  rw [List.flatMap_def, List.flatMap_def]
  congr 1
  apply List.map_congr_left
  intro i hi
  rw [h i (List.mem_range.1 hi)]

theorem sendAll_dup (S : List Env) (l : Option Env) (es : List Env) :
    sendAll (.dup S l) es = .dup (es.foldl (fun acc a => sins Env.lt a acc) S) l := by
  induction es generalizing S with
  | nil => rfl
  | cons e es ih => exact ih _

theorem foldl_applyRandomCmd_nil {cmds : List Cmd} (hc : NoChoose cmds) : cmds.foldl applyRandomCmd [] = [] := by
  induction cmds with
  | nil => rfl
  | cons c cs ih =>
    have h1 := hc c List.mem_cons_self
    cases c with
    | chooseRandom k vals => cases h1
    | _ => exact ih hc.tail

theorem abs_finish {i : Nat} {s s' : σ} (hi : i < sys.n) (hs : rs.st i = some s)
    (ints0 : Ints) (fl0 : List Env) (last : Option Env) (hist : η) {cmds : List Cmd} {picks : List Nat}
    (hc : NoChoose cmds) (hnow : rs.now < never) (hp : picksOk rs.now picks = true) :
    abs sys (finish rs i s' ints0 fl0 last hist cmds picks) =
      { actors := (abs sys rs).actors.set i s'
        net := .dup (mkSet Env.lt (fl0 ++ pending sys rs ++ sendsOf i cmds)) last
        timers := (abs sys rs).timers.set i (cmds.foldl applyTimerCmd (mkSet natLt (armed ints0)))
        random := List.replicate sys.n []
        crashed := List.replicate sys.n false
        hist := hist } := by
  have hpend : pending sys (finish rs i s' ints0 fl0 last hist cmds picks) = pending sys rs := by
    apply pending_congr
    intro j _
    simp only [finish, upd]
    split
    · rename_i h
      rw [h, hs]
      rfl
    · rfl
  unfold abs
  rw [hpend]
  simp only [finish, execCmds_flight]
  congr 1
  · symm
    apply set_map_range sys.n i _ _ _ hi
    · intro j hj
      simp only [upd, if_neg hj]
    · simp only [upd, if_true, Option.getD_some]
  · congr 1
    apply mkSet_congr strictTotal_envLt
    intro x
    simp only [List.mem_append]
    rw [or_right_comm]
  · symm
    apply set_map_range sys.n i _ _ _ hi
    · intro j hj
      simp only [upd, if_neg hj]
    · simp only [upd, if_true]
      exact armed_execCmds hc hnow hp

theorem abs_finish_same {i : Nat} {s : σ} (hi : i < sys.n)
    (hs : rs.st i = some s) (hnow : rs.now < never) {picks : List Nat} (hp : picksOk rs.now picks = true) :
    abs sys (finish rs i s (rs.ints i) rs.flight rs.last rs.hist [] picks) = abs sys rs := by
  rw [abs_finish hi hs _ _ _ _ (fun _ h => by cases h) hnow hp,
    set_self_of_getElem? (by rw [abs_actors_get hi, hs]; rfl), List.foldl_nil,
    set_self_of_getElem? (abs_timers_get hi hs)]
  simp [abs, sendsOf]

/-- what `next_state` does with a handler action from an abstracted state, in the terms of `Actor/Spec.lean`; `hnet` is `rfl`
for a `Deliver` (`l = some e`) and for a `Timeout` (`l = rs.last`) -/
theorem model_handler {a : Action} {i : Nat} {ev : Event} {s : σ} {ns : Option σ} {cmds : List Cmd}
    {F : List Env} {l : Option Env} (hev : eventOf a = some (i, ev)) (hi : i < sys.n) (hs : rs.st i = some s)
    (hh : handler sys i s ev = .ok ns cmds) (hc : NoChoose cmds)
    (hnet : consume (abs sys rs).net a = some (.dup (mkSet Env.lt F) l)) :
    step sys (abs sys rs) a = if ignoredBy sys ns cmds a then .ignored else .next
      { actors := (abs sys rs).actors.set i (ns.getD s)
        net := .dup (mkSet Env.lt (F ++ sendsOf i cmds)) l
        timers := (abs sys rs).timers.set i
          (cmds.foldl applyTimerCmd (firedTimers (mkSet natLt (armed (rs.ints i))) a))
        random := List.replicate sys.n []
        crashed := List.replicate sys.n false
        hist := recordOuts sys (recordIn? sys rs.hist a) (sendsOf i cmds) } := by
  rw [step_eq_specStep _ _ _ abs_wf, specStep_handler hev]
  simp only [specHandlerStep, abs_actors_get hi, hs, Option.getD_some, abs_crashed_get hi, hh, specNext, hnet,
    abs_timers_get hi hs, abs_random_get hi]
  have hsel : selectedRandom [] a = [] := by cases a <;> rfl
  simp [abs, ofOption, hsel, sendAll_dup, foldl_sins_mkSet, foldl_applyRandomCmd_nil hc]

end

theorem model_timeout (sys : ActorSys σ η) (rs : RSt σ η) {i t : Nat} {s : σ} {ns : Option σ}
    {cmds : List Cmd} (hi : i < sys.n) (hs : rs.st i = some s)
    (hh : (sys.actor i).timeout i s t = .ok ns cmds) (hn : isNoOpWithTimer ns cmds t = false)
    (hc : NoChoose cmds) :
    step sys (abs sys rs) (.timeout i t) = .next
      { actors := (abs sys rs).actors.set i (ns.getD s)
        net := .dup (mkSet Env.lt (rs.flight ++ pending sys rs ++ sendsOf i cmds)) rs.last
        timers := (abs sys rs).timers.set i (cmds.foldl applyTimerCmd (srem t (mkSet natLt (armed (rs.ints i)))))
        random := List.replicate sys.n []
        crashed := List.replicate sys.n false
        hist := recordOuts sys rs.hist (sendsOf i cmds) } :=
  (model_handler (a := .timeout i t) rfl hi hs hh hc rfl).trans (if_neg (by simp [ignoredBy, hn]))

section
variable {sys : ActorSys σ η} {rs rs' : RSt σ η}

theorem model_drop (e : Env) :
    step sys (abs sys rs) (.drop e) = .next
      { abs sys rs with net := .dup (srem e (mkSet Env.lt (rs.flight ++ pending sys rs))) rs.last } := by
  simp [Actor.step, abs, Net.onDrop]

theorem enabled_deliver (hu : UdpModel sys) {e : Env} (hi : e.dst < sys.n)
    (he : e ∈ rs.flight) : Action.deliver e ∈ actions sys (abs sys rs) := by
  rw [mem_actions_iff sys _ (abs_netOk hu)]
  exact ⟨(mem_mkSet _ _).2 (List.mem_append_left _ he), hi⟩

theorem enabled_drop (hu : UdpModel sys) {e : Env}
    (he : e ∈ rs.flight ++ pending sys rs) : Action.drop e ∈ actions sys (abs sys rs) := by
  rw [mem_actions_iff sys _ (abs_netOk hu)]
  exact ⟨hu.lossy, (mem_mkSet _ _).2 he⟩

theorem enabled_timeout (hu : UdpModel sys) {i t : Nat} {s : σ}
    (hi : i < sys.n) (hs : rs.st i = some s) (ht : t ∈ armed (rs.ints i)) :
    Action.timeout i t ∈ actions sys (abs sys rs) := by
  rw [mem_actions_iff sys _ (abs_netOk hu)]
  exact ⟨_, abs_timers_get hi hs, (mem_mkSet _ _).2 ht⟩

theorem refines_tick {t : Nat} (h : rstep sys rs (.tick t) = some rs') :
    abs sys rs' = abs sys rs := by
  obtain ⟨_, rfl⟩ := rstep_tick.1 h
  rfl

/-- the model has every thread started from the first state on: starting one changes nothing -/
theorem refines_start (hr : NoRandom sys) {i : Nat} {picks : List Nat}
    (hinv : RInv rs) (h : rstep sys rs (.start i picks) = some rs') : abs sys rs' = abs sys rs := by
  obtain ⟨⟨hi, hs, hp⟩, rfl⟩ := rstep_start.1 h
  unfold abs
  simp only [finish, execCmds_flight]
  congr 1
  · apply List.map_congr_left
    intro j _
    simp only [upd]
    split
    · rename_i hj
      rw [hj, hs]
      rfl
    · rfl
  · congr 1
    apply mkSet_congr strictTotal_envLt
    intro x
    simp only [List.mem_append, mem_pending, upd]
    constructor
    · rintro ((hx | hx) | ⟨j, hj, hsj, hx⟩)
      · exact Or.inl hx
      · exact Or.inr ⟨i, hi, hs, hx⟩
      · split at hsj
        · cases hsj
        · exact Or.inr ⟨j, hj, hsj, hx⟩
    · rintro (hx | ⟨j, hj, hsj, hx⟩)
      · exact Or.inl (Or.inl hx)
      · by_cases hji : j = i
        · subst hji
          exact Or.inl (Or.inr hx)
        · exact Or.inr ⟨j, hj, by rw [if_neg hji]; exact hsj, hx⟩
  · apply List.map_congr_left
    intro j _
    simp only [upd]
    by_cases hj : j = i
    · subst hj
      rw [if_pos rfl, if_pos rfl, hs, armed_execCmds (hr.start j) hinv.now hp, hinv.fresh j hs]
      rfl
    · rw [if_neg hj, if_neg hj]

theorem refines_lose (hu : UdpModel sys) {e : Env}
    (h : rstep sys rs (.lose e) = some rs') :
    abs sys rs' = abs sys rs ∨ MStep sys (abs sys rs) (.drop e) (abs sys rs') := by
  obtain ⟨he, rfl⟩ := rstep_lose.1 h
  -- was it the last copy (in flight or still to be sent by a thread that has not started)?
  by_cases hin : e ∈ rs.flight.erase e ++ pending sys rs
  · left
    unfold abs
    congr 2
    apply mkSet_congr strictTotal_envLt
    intro x
    show x ∈ rs.flight.erase e ++ pending sys rs ↔ x ∈ rs.flight ++ pending sys rs
    by_cases hx : x = e
    · subst hx
      simp only [hin, true_iff]
      exact List.mem_append_left _ he
    · simp only [List.mem_append, List.mem_erase_of_ne hx]
  · right
    refine ⟨enabled_drop hu (List.mem_append_left _ he), ?_⟩
    rw [model_drop]
    simp only [abs]
    congr 3
    apply srem_mkSet strictTotal_envLt
    intro x
    show x ∈ rs.flight.erase e ++ pending sys rs ↔ _
    by_cases hx : x = e
    · subst hx
      exact ⟨fun h => absurd h hin, fun h => absurd rfl h.2⟩
    · simp only [List.mem_append, List.mem_erase_of_ne hx, ne_eq, hx, not_false_eq_true, and_true]

theorem isNoOp_true {ns : Option σ} {cmds : List Cmd} (h : isNoOp ns cmds = true) : ns = none ∧ cmds = [] := by
  simpa [isNoOp] using h

theorem isNoOpWithTimer_true {ns : Option σ} {cmds : List Cmd} {t : Nat} (h : isNoOpWithTimer ns cmds t = true) :
    ns = none ∧ cmds = [.setTimer t] := by
  simp only [isNoOpWithTimer, Bool.and_eq_true, Option.isNone_iff_eq_none, beq_iff_eq] at h
  obtain ⟨h1, h2, h3⟩ := h
  refine ⟨h1, ?_⟩
  match cmds, h2, h3 with
  | [c], _, h3 => simpa using h3

theorem refines_deliver_keep (hu : UdpModel sys) (hr : NoRandom sys)
    {e : Env} {picks : List Nat} (hinv : RInv rs) (h : rstep sys rs (.deliver e true picks) = some rs') :
    ∃ s ns cmds, rs.st e.dst = some s ∧ (sys.actor e.dst).msg e.dst s e.src e.msg = .ok ns cmds ∧
      (isNoOp ns cmds = true → abs sys rs' = abs sys rs ∧ Actor.step sys (abs sys rs) (.deliver e) = .ignored) ∧
      (isNoOp ns cmds = false → MStep sys (abs sys rs) (.deliver e) (abs sys rs')) := by
  obtain ⟨s, ns, cmds, hs, ⟨hi, he, hp⟩, hh, rfl⟩ := rstep_deliver.1 h
  have hc := hr.msg _ _ _ _ _ _ hh
  have hm := model_handler (a := .deliver e) rfl hi hs hh hc rfl
  -- the NO-OP rule of `next_state` on unordered networks
  simp only [ignoredBy, hu.net, Net.isOrdered, Bool.not_false, Bool.and_true] at hm
  refine ⟨s, ns, cmds, hs, hh, fun hn => ⟨?_, by rw [hm, if_pos hn]⟩, fun hn => ?_⟩
  · obtain ⟨rfl, rfl⟩ := isNoOp_true hn
    simp only [hn, if_true, Option.getD_none]
    exact abs_finish_same hi hs hinv.now hp
  · refine ⟨enabled_deliver hu hi he, ?_⟩
    rw [hm, abs_finish hi hs _ _ _ _ hc hinv.now hp]
    simp [hn, firedTimers, recordIn?]

theorem refines_fire (hu : UdpModel sys) (hr : NoRandom sys)
    {i : Nat} {k : Key} {picks : List Nat} (hinv : RInv rs) (h : rstep sys rs (.fire i k picks) = some rs') :
    ∃ t s ns cmds, k = .timeout t ∧ rs.st i = some s ∧ (sys.actor i).timeout i s t = .ok ns cmds ∧
      Action.timeout i t ∈ actions sys (abs sys rs) ∧
      (isNoOpWithTimer ns cmds t = true → abs sys rs' = abs sys rs) ∧
      (isNoOpWithTimer ns cmds t = false → MStep sys (abs sys rs) (.timeout i t) (abs sys rs')) := by
  obtain ⟨s, ns, cmds, hs, ⟨hi, hany, hp⟩, hh, rfl⟩ := rstep_fire.1 h
  obtain ⟨t, rfl, harmed⟩ := overdue_armed hinv hany
  have hc := hr.timeout _ _ _ _ _ hh
  have hen := enabled_timeout hu hi hs harmed
  refine ⟨t, s, ns, cmds, rfl, hs, hh, hen, fun hn => ?_, fun hn => ⟨hen, ?_⟩⟩
  · obtain ⟨rfl, rfl⟩ := isNoOpWithTimer_true hn
    -- the timer is removed and armed again
    rw [abs_finish hi hs _ _ _ _ hc hinv.now hp,
      set_self_of_getElem? (by rw [abs_actors_get hi, hs]; rfl), List.foldl_cons, List.foldl_nil,
      applyTimerCmd, armed_eraseInt, sins_srem_mkSet strictTotal_natLt harmed,
      set_self_of_getElem? (abs_timers_get hi hs)]
    simp [abs, sendsOf, recordOuts]
  · rw [model_timeout sys rs hi hs hh hn hc, abs_finish hi hs _ _ _ _ hc hinv.now hp, armed_eraseInt]

theorem mpath_append {s m t : St σ η} {as bs : List Action} (h1 : MPath sys s as m)
    (h2 : MPath sys m bs t) : MPath sys s (as ++ bs) t := by
  induction as generalizing s with
  | nil =>
    cases h1
    exact h2
  | cons a as ih =>
    obtain ⟨m', hs, hp⟩ := h1
    exact ⟨m', hs, ih hp⟩

theorem mpath_stutter_or_step {s t : St σ η} {a : Action} (h : t = s ∨ MStep sys s a t) :
    ∃ as, as.Sublist [a] ∧ MPath sys s as t := by
  rcases h with rfl | h
  · exact ⟨[], List.nil_sublist _, rfl⟩
  · exact ⟨[a], List.Sublist.refl _, t, h, rfl⟩

theorem mstep_reach {s t : St σ η} {a : Action} (hs : (sys.toSys).Reach s)
    (h : MStep sys s a t) : (sys.toSys).Reach t :=
  Sys.Reach.step hs (mem_succB_toSys.2 ⟨⟨a, h.1, h.2⟩, rfl⟩)

theorem mpath_reach {s t : St σ η} {as : List Action} (hs : (sys.toSys).Reach s)
    (h : MPath sys s as t) : (sys.toSys).Reach t := by
  induction as generalizing s with
  | nil =>
    cases h
    exact hs
  | cons a as ih =>
    obtain ⟨m, h1, h2⟩ := h
    exact ih (mstep_reach hs h1) h2

theorem refines_step (hu : UdpModel sys) (hr : NoRandom sys) {l : Lbl}
    (hinv : RInv rs) (h : rstep sys rs l = some rs') :
    ∃ as, as.Sublist (modelActs l) ∧ MPath sys (abs sys rs) as (abs sys rs') := by
  have keep : ∀ {rs rs' : RSt σ η} {e : Env} {picks : List Nat}, RInv rs →
      rstep sys rs (.deliver e true picks) = some rs' →
      ∃ as, as.Sublist [Action.deliver e] ∧ MPath sys (abs sys rs) as (abs sys rs') := by
    intro rs rs' e picks hinv h
    obtain ⟨s, ns, cmds, _, _, h1, h2⟩ := refines_deliver_keep hu hr hinv h
    exact mpath_stutter_or_step ((Bool.eq_false_or_eq_true _).imp (fun hn => (h1 hn).1) h2)
  cases l with
  | tick t => exact ⟨[], List.nil_sublist _, (refines_tick h).symm⟩
  | start i picks => exact ⟨[], List.nil_sublist _, (refines_start hr hinv h).symm⟩
  | lose e => exact mpath_stutter_or_step (refines_lose hu h)
  | deliver e keep' picks =>
    cases keep' with
    | true => exact keep hinv h
    | false =>
      obtain ⟨m, hm1, hm2⟩ := deliver_consume h
      obtain ⟨as1, hs1, hp1⟩ := keep hinv hm1
      obtain ⟨as2, hs2, hp2⟩ := mpath_stutter_or_step (refines_lose hu hm2)
      exact ⟨as1 ++ as2, List.Sublist.append hs1 hs2, mpath_append hp1 hp2⟩
  | fire i k picks =>
    obtain ⟨t, s, ns, cmds, rfl, _, _, _, h1, h2⟩ := refines_fire hu hr hinv h
    exact mpath_stutter_or_step ((Bool.eq_false_or_eq_true _).imp h1 h2)

theorem pending_rinit (sys : ActorSys σ η) : pending sys (rinit sys) = startSends sys := by
  simp [pending, rinit, startSends]

theorem abs_rinit (hu : UdpModel sys) (hr : NoRandom sys) :
    abs sys (rinit sys) = specInit sys := by
  unfold abs specInit
  rw [pending_rinit]
  simp only [hu.net, sendAll_dup, List.map_map]
  congr 1
  apply List.ext_getElem?
  intro j
  simp only [List.getElem?_replicate, List.getElem?_map]
  by_cases hj : j < sys.n
  · simp [hj, foldl_applyRandomCmd_nil (hr.start j)]
  · simp [hj]

theorem reach_specInit (sys : ActorSys σ η) : (sys.toSys).Reach (specInit sys) :=
  Sys.Reach.init (mem_initB_toSys.2 ⟨rfl, rfl⟩)

theorem inv_rrun {ls : List Lbl} (hr : NoRandom sys) (hinv : RInv rs) (h : rrun sys rs ls = some rs') : RInv rs' := by
  induction ls generalizing rs with
  | nil =>
    cases h
    exact hinv
  | cons l ls ih =>
    obtain ⟨m, hst, h⟩ := rrun_cons.1 h
    exact ih (inv_step hr hinv hst) h

theorem refines_path (hu : UdpModel sys) (hr : NoRandom sys) {ls : List Lbl}
    (hinv : RInv rs) (h : rrun sys rs ls = some rs') :
    ∃ as, as.Sublist (ls.flatMap modelActs) ∧ MPath sys (abs sys rs) as (abs sys rs') := by
  induction ls generalizing rs with
  | nil =>
    cases h
    exact ⟨[], List.nil_sublist _, rfl⟩
  | cons l ls ih =>
    obtain ⟨m, hst, h⟩ := rrun_cons.1 h
    obtain ⟨as, hsub, hp⟩ := refines_step hu hr hinv hst
    obtain ⟨as', hsub', hp'⟩ := ih (inv_step hr hinv hst) h
    exact ⟨as ++ as', List.Sublist.append hsub hsub', mpath_append hp hp'⟩

theorem inv_of_rreach (hr : NoRandom sys) (h : RReach sys rs) : RInv rs := by
  obtain ⟨ls, h⟩ := h
  exact inv_rrun hr (inv_rinit sys) h

theorem rrun_append (ls ls' : List Lbl) :
    rrun sys rs (ls ++ ls') = (rrun sys rs ls).bind (fun m => rrun sys m ls') := by
  induction ls generalizing rs with
  | nil => rfl
  | cons l ls ih =>
    simp only [List.cons_append, rrun]
    cases rstep sys rs l with
    | none => rfl
    | some m => exact ih

theorem reach_among (l : List (St σ η))
    (hinit : ∀ s ∈ (sys.toSys).initB, s ∈ l) (hstep : ∀ s ∈ l, ∀ t ∈ (sys.toSys).succB s, t ∈ l)
    {s : St σ η} (h : (sys.toSys).Reach s) : s ∈ l := by
  induction h with
  | init hi => exact hinit _ hi
  | step _ ht ih => exact hstep _ ih _ ht

end

theorem rreach_step {sys : ActorSys σ η} {rs rs' : RSt σ η} {l : Lbl} (h : RReach sys rs)
    (hs : rstep sys rs l = some rs') : RReach sys rs' := by
  obtain ⟨ls, h⟩ := h
  refine ⟨ls ++ [l], ?_⟩
  rw [rrun_append, h]
  simp [rrun, hs]

end absn
end SR.RtSys
