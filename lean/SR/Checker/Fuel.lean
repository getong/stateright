import SR.Checker.Graph
import SR.Checker.Sim
/-!
What the driver `SR/Drv/Chk.lean` runs with beside the model: the well-formedness test and the fuel for the
single-threaded schedulers on explicit graphs (proved sufficient in `Proofs/Checker/SchedTerm.lean`), and the stop test of the
simulation worker between two traces (`Proofs/Checker/SimFuel.lean`).
-/
namespace SR.Checker
open SR

/-- the largest number of actions of a state -/
def Graph.maxDeg (g : Graph) : Nat := g.adj.foldl (fun m r => max m r.length) 0

/-- Well-formedness: the initial states and all edge targets are state numbers `< g.n`. -/
def Graph.WF (g : Graph) : Prop :=
  (∀ s ∈ g.init, s < g.n) ∧ (∀ r ∈ g.adj, ∀ e ∈ r, e.all (fun t => decide (t < g.n)) = true)

instance (g : Graph) : Decidable g.WF := by unfold Graph.WF; exact inferInstance

/-- Fuel for `runSingle` on an explicit graph with `L` properties: `3 * M + 2` where
    `M = (n + |init|) * (2 L + maxDeg + 6) + 1` bounds the termination measure `mu` of the initial machine state. -/
def Graph.fuel (g : Graph) (L : Nat) : Nat :=
  3 * ((g.n + g.init.length) * (2 * L + g.maxDeg + 6) + 1) + 2

/-- the form in which `Props/C01Fuel.lean` compares `Graph.fuel` with `fuelFor`; the driver itself calls `g.fuel` -/
def fuelFor' (g : Graph) (props : List GProp) : Nat := g.fuel props.length

namespace Sim
variable {σ κ α : Type} [DecidableEq κ] (P : Params σ κ α)

/-- `finish_when` matches or the target state count is reached: the worker loop ends after this trace -/
def stops (g : G σ) : Bool := P.finishMatches (discNames g.disc) || targetHit P g.stateCount

end Sim
end SR.Checker
