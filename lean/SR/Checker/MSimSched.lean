import SR.Checker.MSim
/-!
# The schedule of the event machine that a chooser's answers induce (one worker, no `timeout` / `panic` / `cut`)

`Checker/Sim.lean` runs ONE worker of the simulation checker as a fold over the chooser's answers; `Checker/MSim.lean` is
the event machine of the whole run, driven by an explicit step list.  `stepsOfTrace` / `stepsOfRun` compute — executably,
from the same arguments as `Sim.trace` / `Sim.runTraces` — the step list of worker `w` that the answers induce: the
`start` / `advance` steps carry what the chooser chose, the `evalProp` / `applyProp` steps follow the reads of the
discoveries map, the `cont` / `leave` steps the worker loop.  `runStrict` runs a step list and fails (`none`) as soon as
a step is not enabled (whereas `runFrom` skips such steps).
`SR/Proofs/Checker/MSimRefine.lean` proves that the machine accepts every step of these lists and ends with the `disc` and
`stateCount` of the single-worker model.
-/
namespace SR.Checker.MSim
open SR SR.Checker

deriving instance DecidableEq for Step

section
variable {σ κ α : Type} [DecidableEq σ] [DecidableEq κ] (P : Params σ κ α)

/-- run a step list; `none` as soon as a step is not enabled -/
def runStrict (s : St σ κ) : List (Step σ) → Option (St σ κ)
  | [] => some s
  | f :: fs =>
    match step P f s with
    | none => none
    | some s' => runStrict s' fs

/-- the trailing recording loop -/
def recSteps (w : Nat) : List (Step σ) :=
  (List.range P.props.length).map (Step.recordOne w) ++ [.endTrace w]

/-- the property loop over the indices `is`: one read of the shared map per property and, if the property was read
    as undiscovered, its evaluation.  `acc` = (ebits, awaiting, discoveries) as `Sim.propStep` threads them. -/
def propSteps (w : Nat) (st : σ) (path : List σ) :
    List Nat → List Nat × Bool × List (Nat × List σ) → List (Step σ)
  | [], _ => []
  | i :: is, acc =>
    (if hasDisc acc.2.2 i then [.evalProp w i] else [.evalProp w i, .applyProp w i]) ++
      propSteps w st path is (Sim.propStep P.props st path (fun _ => false) acc i)

/-- the steps of `'outer: loop`, same arguments and control flow as `Sim.traceLoop` (`d` = the discoveries) -/
def loopSteps (w : Nat) : Nat → σ → List σ → List κ → List Nat → List Nat → List (Nat × List σ) → List (Step σ)
  | 0, _, _, _, _, _, _ => []
  | f + 1, st, path, gen, eb, ans, d =>
    if Sim.depthHit P path.length then [.enter w]
    else if !P.M.inB st then [.enter w]
    else
      let path' := path ++ [st]
      if P.key st ∈ gen then .enter w :: recSteps P w
      else
        let r := Sim.propLoop P.props st path' eb d
        .enter w :: (propSteps P w st path' (List.range P.props.length) (eb, false, d) ++ .finishProps w ::
          (if !r.2.1 then []
           else
            match Sim.pickNext P.M st ((P.M.acts st).length + 1) (P.M.acts st) ans with
            | (none, _) => .advance w none :: recSteps P w
            | (some n, ans') => .advance w (some n) :: loopSteps w f n path' (P.key st :: gen) r.1 ans' r.2.2))

/-- the steps of one trace (`Sim.trace`): the chooser picks the initial state, then the loop -/
def stepsOfTrace (w : Nat) (fuel : Nat) (ans : List Nat) (d : List (Nat × List σ)) : List (Step σ) :=
  match P.M.init with
  | [] => []
  | is =>
    let (k, ans') := Sim.nextAnswer ans is.length
    match is[k]? with
    | none => []
    | some s => .start w s :: loopSteps P w fuel s [] [] (initEbits P.props) ans' d

/-- the steps of the worker loop (`Sim.runTraces`): trace, then `leave` (finish_when / target) or `cont` -/
def stepsOfRun (w : Nat) (fuel : Nat) : Nat → List Nat → Sim.G σ → List (Step σ)
  | 0, _, _ => []
  | n + 1, ans, g =>
    let r := Sim.trace P fuel ans g
    stepsOfTrace P w fuel ans g.disc ++
      (if P.finishMatches (discNames r.1.disc) then [.leave w .finish]
       else if Sim.targetHit P r.1.stateCount then [.leave w .target]
       else .cont w :: stepsOfRun w fuel n r.2 r.1)

end
end SR.Checker.MSim
