import SR.Checker.Graph
/-!
Executable specification side for explicit graphs: reachability closure, path validity, witnesses,
maximal paths avoiding a condition (lassos), BFS distance.  These are what the oracles run on the
IMPLEMENTATION's outputs; `SR/Proofs/Checker/Spec*.lean` relates them to the declarative definitions of `SR.Basic`.
-/
namespace SR.Checker
open SR

namespace Graph
variable (g : Graph)

def succB (s : Nat) : List Nat := g.toSys.succB s
def initB : List Nat := g.toSys.initB

/-- one round of the closure: add all in-boundary successors of known states -/
def closeStep (known : List Nat) : List Nat :=
  known.foldl (fun acc s => (g.succB s).foldl (fun acc t => if t ∈ acc then acc else acc ++ [t]) acc) known

def closeN : Nat → List Nat → List Nat
  | 0, k => k
  | n + 1, k => closeN n (g.closeStep k)

/-- reachable in-boundary states (n rounds suffice for n states) -/
def reachList : List Nat := g.closeN g.n (g.initB.eraseDups)

def chainB : List Nat → Bool
  | [] => true
  | [_] => true
  | s :: t :: rest => (g.succB s).contains t && chainB (t :: rest)

/-- decidable `IsPath` -/
def isPathB (p : List Nat) : Bool :=
  match p with
  | [] => false
  | s :: _ => g.initB.contains s && g.chainB p

/-- BFS layers: `layers k` = states at distance exactly k (first n+1 layers) -/
def distOf (s : Nat) : Option Nat :=
  let rec go (fuel : Nat) (d : Nat) (seen layer : List Nat) : Option Nat :=
    match fuel with
    | 0 => none
    | fuel + 1 =>
      if layer.contains s then some d
      else if layer.isEmpty then none
      else
        let next := (layer.flatMap g.succB).eraseDups.filter (fun t => !seen.contains t)
        go fuel (d + 1) (seen ++ next) next
  go (g.n + 2) 0 g.initB.eraseDups g.initB.eraseDups

/-- does some maximal in-boundary path from an initial state avoid `c` forever?  (`c` = truth table)
    A maximal path either ends in a state without in-boundary successor or loops forever; in a finite graph
    it exists iff, inside the subgraph of reachable-through-avoiding states, some state is terminal or lies on
    /reaches a cycle — i.e. iff the set of avoiding states reachable through avoiding states is non-empty
    (every such state either is terminal in the FULL graph, or has an in-boundary successor; if all its
    successors satisfy `c` the path cannot be extended avoiding `c`).  Computed exactly by a greatest fixpoint:
    `good` = avoiding states from which an avoiding maximal path exists. -/
def avoidReach (c : Nat → Bool) : List Nat :=
  let sub : Graph := { g with bnd := (List.range g.n).map fun s => g.bnd.getD s false && !c s }
  sub.reachList

def canAvoidForever (c : Nat → Bool) : Bool :=
  -- states reachable through avoiding states only
  let av := g.avoidReach c
  -- greatest fixpoint: keep s if terminal in g, or some successor (in-boundary, avoiding) is kept
  let rec gfp (fuel : Nat) (keep : List Nat) : List Nat :=
    match fuel with
    | 0 => keep
    | fuel + 1 =>
      let keep' := keep.filter fun s => (g.succB s).isEmpty || (g.succB s).any (fun t => !c t && keep.contains t)
      if keep'.length == keep.length then keep else gfp fuel keep'
  let good := gfp (g.n + 1) av
  (g.initB.filter (fun s => !c s)).any good.contains

/-- every reachable state has exactly one in-boundary path (as a state sequence) from an initial state:
    distinct initial states without predecessors, every other reachable state with exactly one predecessor state -/
def isForest : Bool :=
  let r := g.reachList
  g.initB.eraseDups.length == g.initB.length &&
  r.all fun t =>
    let preds := (r.filter fun s => (g.succB s).contains t).length
    if g.initB.contains t then preds == 0 else preds == 1

end Graph
end SR.Checker
