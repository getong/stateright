import SR.Checker.Machine
import SR.Market.Machine
/-!
# The concurrent checker: worker threads × job market × checker machine

`Checker/Machine.lean` keeps all pending jobs in ONE list (`frontier`) and lets a choice list decide who takes which
job.  The code keeps them in `thread_count` local deques and the shared batches of the job market
(`src/job_market.rs`, `Market/Machine.lean`), a worker can only take a job from its OWN deque, and jobs travel between
deques through `pop` / `split_and_push`.  This file is the product of the two models, synchronised where the code
synchronises them, at the granularity of both: one `FStep` = one critical section of the market or one atomic section
of `check_block` (`src/checker/{bfs,dfs,on_demand}.rs` worker loops):

* `pop w`            worker `w`, its deque empty, calls `job_broker.pop()` (up to its return or its first wait)
* `wake w`           return from the condition variable
* `split w picks`    `job_broker.split_and_push(&mut pending)`; in a closed market this CLEARS the deque
* `take w p`         `pending.pop_back()` / `pop()` / `drain(..)`: the job at position `p` of the own deque (any `p`:
                     every queue discipline) becomes the worker's current job: machine `take`
* `discard w p`      a job of the own deque is dropped unevaluated — only once the machine has stopped or every property
                     has a discovery (on_demand.rs drops the jobs a block had drained then)
* `evalProp`, `finishProps`, `record`   machine steps on the worker's current job
* `expand w front tok back`  one successor: machine `expand`; if the state is new the job (token `tok`) is pushed on
                     the OWN deque (`back`: at which end)
* `stop w why`       the worker leaves its loop for a stop reason (`finish_when`, `target_state_count`, a panic in model
                     code): machine `stop why`; `Drop for JobBroker` closes the market, clears the shared batches; the
                     worker's deque dies with its thread
* `exit w`           the worker leaves because `pop()` returned nothing or `is_shut_down()`: the market is closed already
* `timeout`          the timeout thread closes the market: machine `stop .timeout`
* `xdrop`            any other clone of the broker is dropped (checker object, the timeout thread's clone)

Ghost components: `ft` lists, position by position, the market token of every job in the machine's `frontier`; `aw`
lists the worker of every entry of the machine's `active` list.

`fstep` returns, besides the new state, the market steps and the machine choices it performed, so that a run of the
product PROJECTS onto a run of the market (`mrun`) and onto a run of the machine (`run`) — `SR/Proofs/Checker/Full*.lean`
prove the projections, the coupling invariant (tokens physically present = pending jobs of the machine; the market
discards jobs only after the machine has stopped) and: all workers gone ⇒ the machine is quiescent.

Over-approximations (the product allows MORE than the code, the theorems quantify over all of it): stop conditions may be
noticed at any moment (the code looks once per 1500-job block), a worker may share work at any moment at which it has no
current job, `take` may pick any position.  Not represented: `spawn_*` on a model without initial states (an empty
batch is pushed and the first worker to pop it returns while the market is open; there is nothing to check then).
-/
namespace SR.Full
open SR SR.Checker SR.Market

structure FState (σ κ : Type) where
  m : MState
  c : St σ κ
  /-- ghost: the token of each entry of `c.frontier` -/
  ft : List Tok
  /-- ghost: the worker of each entry of `c.active` -/
  aw : List Nat

inductive FStep where
  | pop (w : Nat)
  | wake (w : Nat)
  | split (w : Nat) (picks : List Nat)
  | take (w p : Nat)
  | discard (w p : Nat)
  | evalProp (w : Nat) (stale : Bool)
  | finishProps (w : Nat)
  | expand (w : Nat) (front : Bool) (tok : Tok) (back : Bool)
  | record (w : Nat)
  | stop (w : Nat) (why : Why)
  | exit (w : Nat)
  | timeout
  | xdrop
deriving Repr

def locOf (m : MState) (w : Nat) : List Tok := m.locs.getD w []

/-- the market discards the jobs `ts`: the machine drops them, one `dropJob` each -/
def dropToks : List Tok → List Tok → List Choice × List Tok
  | [], ft => ([], ft)
  | t :: ts, ft =>
    let r := dropToks ts (ft.erase t)
    (Choice.dropJob (ft.idxOf t) :: r.1, r.2)

/-- market steps in sequence; all must be enabled -/
def mseq (m : MState) : List Step → Option MState
  | [] => some m
  | s :: ss => (Market.step m s).bind (mseq · ss)

section
variable {σ κ α : Type} [DecidableEq κ] (P : Params σ κ α)

/-- a machine step on the current job of worker `w` -/
def onJob (x : FState σ κ) (w : Nat) (mk : Nat → Choice) : Option (FState σ κ × List Step × List Choice) :=
  if w ∈ x.aw then
    let i := x.aw.idxOf w
    let c' := Checker.step P (mk i) x.c
    some ({ x with c := c', aw := if c'.active.length < x.c.active.length then x.aw.eraseIdx i else x.aw },
          [], [mk i])
  else none

/-- one step of the concurrent checker: new state, market steps performed, machine choices performed;
    `none` = not enabled -/
def fstep (x : FState σ κ) : FStep → Option (FState σ κ × List Step × List Choice)
  | .pop w =>
    if locOf x.m w = [] ∧ w ∉ x.aw then
      (Market.step x.m (.popBegin w)).map fun m' => ({ x with m := m' }, [.popBegin w], [])
    else none
  | .wake w => (Market.step x.m (.wake w)).map fun m' => ({ x with m := m' }, [.wake w], [])
  | .split w picks =>
    if w ∉ x.aw then
      (Market.step x.m (.split w picks)).map fun m' =>
        let gone := if x.m.isOpen then [] else locOf x.m w
        let r := dropToks gone x.ft
        ({ m := m', c := runFrom P x.c r.1, ft := r.2, aw := x.aw }, [.split w picks], r.1)
    else none
  | .take w p =>
    match (locOf x.m w)[p]? with
    | none => none
    | some t =>
      if w ∈ x.aw then none
      else
        let ms := [Step.rearrange w ((locOf x.m w).eraseIdx p ++ [t]), Step.work w 1 []]
        (mseq x.m ms).map fun m' =>
          let c' := Checker.step P (.take (x.ft.idxOf t)) x.c
          ({ m := m', c := c', ft := x.ft.erase t,
             aw := if c'.active.length = x.c.active.length + 1 then x.aw ++ [w] else x.aw },
           ms, [.take (x.ft.idxOf t)])
  | .discard w p =>
    match (locOf x.m w)[p]? with
    | none => none
    | some t =>
      if x.c.stopped || allDiscovered P x.c then
        let ms := [Step.rearrange w ((locOf x.m w).eraseIdx p ++ [t]), Step.work w 1 []]
        (mseq x.m ms).map fun m' =>
          ({ m := m', c := Checker.step P (.dropJob (x.ft.idxOf t)) x.c, ft := x.ft.erase t, aw := x.aw },
           ms, [.dropJob (x.ft.idxOf t)])
      else none
  | .evalProp w b => onJob P x w (fun i => .evalProp i b)
  | .finishProps w => onJob P x w (fun i => .finishProps i)
  | .record w => onJob P x w (fun i => .record i)
  | .expand w front tok back =>
    if w ∈ x.aw then
      let i := x.aw.idxOf w
      let c' := Checker.step P (.expand i front) x.c
      let aw' := if c'.active.length < x.c.active.length then x.aw.eraseIdx i else x.aw
      if c'.frontier.length = x.c.frontier.length + 1 then
        let ms := Step.work w 0 [tok] :: (if back then [Step.rearrange w (locOf x.m w ++ [tok])] else [])
        (mseq x.m ms).map fun m' =>
          ({ m := m', c := c', ft := if front then tok :: x.ft else x.ft ++ [tok], aw := aw' },
           ms, [.expand i front])
      else some ({ x with c := c', aw := aw' }, [], [.expand i front])
    else none
  | .stop w why =>
    if stopEnabled P why x.c then
      (Market.step x.m (.drop w)).map fun m' =>
        let pre : List Choice := Choice.stop why :: (if w ∈ x.aw then [Choice.abandon (x.aw.idxOf w)] else [])
        let r := dropToks (x.m.batches.flatten ++ locOf x.m w) x.ft
        ({ m := m', c := runFrom P x.c (pre ++ r.1), ft := r.2, aw := x.aw.erase w }, [.drop w], pre ++ r.1)
    else none
  | .exit w =>
    if x.m.isOpen = false ∧ w ∉ x.aw then
      (Market.step x.m (.drop w)).map fun m' =>
        let r := dropToks (x.m.batches.flatten ++ locOf x.m w) x.ft
        ({ m := m', c := runFrom P x.c r.1, ft := r.2, aw := x.aw }, [.drop w], r.1)
    else none
  | .timeout =>
    if P.cfg.timeout then
      (Market.step x.m .timeoutFire).map fun m' =>
        ({ x with m := m', c := Checker.step P (.stop .timeout) x.c }, [.timeoutFire], [.stop .timeout])
    else none
  | .xdrop =>
    (Market.step x.m .xdrop).map fun m' =>
      let pre : List Choice := if x.m.isOpen then [Choice.stop .panic] else []
      let r := dropToks x.m.batches.flatten x.ft
      ({ m := m', c := runFrom P x.c (pre ++ r.1), ft := r.2, aw := x.aw }, [.xdrop], pre ++ r.1)

/-- after `spawn_*`: `k` workers, a market for `k` threads holding ONE batch with the jobs of the in-boundary
    initial states; the machine in its initial state -/
def finit (k : Nat) : FState σ κ :=
  let n := (init P.M P.props P.key).frontier.length
  { m := ((Market.step (Market.init k k) (.xpush (List.range n) [])).getD (Market.init k k))
    c := init P.M P.props P.key
    -- the machine's frontier lists the initial jobs LAST FIRST (the deque is read from its pop end): the job at the
    -- back of the batch is entry 0 of the frontier
    ft := (List.range n).reverse
    aw := [] }

/-- a run; steps that are not enabled are skipped.  Result: state, market trace, machine trace -/
def frunFrom (x : FState σ κ) : List FStep → FState σ κ × List Step × List Choice
  | [] => (x, [], [])
  | f :: fs =>
    match fstep P x f with
    | none => frunFrom x fs
    | some (x', ms, cs) =>
      let r := frunFrom x' fs
      (r.1, ms ++ r.2.1, cs ++ r.2.2)

def frun (k : Nat) (fs : List FStep) : FState σ κ × List Step × List Choice := frunFrom P (finit P k) fs

/-- `join()` has returned: every worker thread is gone -/
def allExited (x : FState σ κ) : Prop := ∀ p ∈ x.m.pcs, p = Pc.exited

end
end SR.Full
